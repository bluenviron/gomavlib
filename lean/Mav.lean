-- Root of the `Mav` library: `lake build` checks every property (theorems, source pins, axiom audits).
import Mav.Audit.C01
import Mav.Audit.C02
import Mav.Audit.C03
import Mav.Audit.C04
import Mav.Audit.C05
import Mav.Audit.C06
import Mav.Audit.C07
import Mav.Audit.C08
import Mav.Audit.C09
import Mav.Audit.C10
import Mav.Audit.C11
import Mav.Audit.C12
import Mav.Audit.C13
import Mav.Audit.C14
import Mav.Audit.C15
import Mav.Audit.C16
import Mav.Audit.C17
import Mav.Audit.C18
import Mav.Audit.C19
import Mav.Audit.C20
import Mav.Model.Sha256
import Mav.Spec.Close
