import Mav.Props.C01
import Mav.Pins.C01
#print axioms Mav.C01.buffer_fits
#print axioms Mav.C01.marshal_eq_spec
#print axioms Mav.C01.read_marshal
#print axioms Mav.C01.v1_big_id_refused
#print axioms Mav.C01.write_emits_spec
#print axioms Mav.Pins.C01.pin_frame_peekAndDiscard
#print axioms Mav.Pins.C01.pin_frame_V1Frame_unmarshal
#print axioms Mav.Pins.C01.pin_frame_V2Frame_unmarshal
#print axioms Mav.Pins.C01.pin_frame_uint24Decode
#print axioms Mav.Pins.C01.pin_frame_uint48Decode
#print axioms Mav.Pins.C01.pin_frame_Reader_Initialize
#print axioms Mav.Pins.C01.pin_frame_Reader_Read
#print axioms Mav.Pins.C01.pin_frame_V2Frame_IsSigned
#print axioms Mav.Pins.C01.pin_frame_NewReader
#print axioms Mav.Pins.C01.pin_frame_V1Frame_marshalTo
#print axioms Mav.Pins.C01.pin_frame_V2Frame_marshalTo
#print axioms Mav.Pins.C01.pin_frame_uint24Encode
#print axioms Mav.Pins.C01.pin_frame_uint48Encode
#print axioms Mav.Pins.C01.pin_frame_encodeMessageInFrame
#print axioms Mav.Pins.C01.pin_frame_Writer_Initialize
#print axioms Mav.Pins.C01.pin_frame_Writer_Write
#print axioms Mav.Pins.C01.pin_frame_Writer_writeFrameInner
#print axioms Mav.Pins.C01.pin_frame_Writer_WriteFrame
#print axioms Mav.Pins.C01.pin_frame_NewWriter
