import Mav.Props.C02
import Mav.Pins.C02
#print axioms Mav.C02.x25_step_eq_ref
#print axioms Mav.C02.x25_eq_crc16
#print axioms Mav.C02.x25_split
#print axioms Mav.C02.x25_reset
#print axioms Mav.C02.checksum_eq_spec
#print axioms Mav.C02.gate_iff
#print axioms Mav.C02.gate_unknown_id
#print axioms Mav.C02.one_damaged_byte_refused
#print axioms Mav.Pins.C02.pin_x25_X25_Reset
#print axioms Mav.Pins.C02.pin_x25_X25_Write
#print axioms Mav.Pins.C02.pin_x25_X25_Sum16
#print axioms Mav.Pins.C02.pin_x25_New
#print axioms Mav.Pins.C02.pin_frame_V1Frame_GenerateChecksum
#print axioms Mav.Pins.C02.pin_frame_V2Frame_GenerateChecksum
#print axioms Mav.Pins.C02.pin_frame_peekAndDiscard
#print axioms Mav.Pins.C02.pin_frame_V1Frame_unmarshal
#print axioms Mav.Pins.C02.pin_frame_V2Frame_unmarshal
#print axioms Mav.Pins.C02.pin_frame_uint24Decode
#print axioms Mav.Pins.C02.pin_frame_uint48Decode
#print axioms Mav.Pins.C02.pin_frame_Reader_Initialize
#print axioms Mav.Pins.C02.pin_frame_Reader_Read
#print axioms Mav.Pins.C02.pin_frame_V2Frame_IsSigned
#print axioms Mav.Pins.C02.pin_frame_NewReader
#print axioms Mav.Pins.C02.pin_dialect_ReadWriter_Initialize
#print axioms Mav.Pins.C02.pin_dialect_ReadWriter_GetMessage
