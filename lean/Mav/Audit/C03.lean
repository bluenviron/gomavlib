import Mav.Props.C03
import Mav.Pins.C03
#print axioms Mav.C03.sizes_table
#print axioms Mav.C03.names_table
#print axioms Mav.C03.wire_order_universal
#print axioms Mav.C03.firstUpperB_iff
#print axioms Mav.C03.exportedB_iff
#print axioms Mav.C03.layout_universal
#print axioms Mav.C03.payload_bytes_universal
#print axioms Mav.C03.decoding_universal
#print axioms Mav.C03.sizes_universal
#print axioms Mav.C03.shipped_layout_agrees
#print axioms Mav.C03.heartbeat_crc_extra
#print axioms Mav.C03.request_data_stream_crc_extra
#print axioms Mav.C03.test_types_crc_extra
#print axioms Mav.Pins.C03.pin_message_removeEmptyBytes
#print axioms Mav.Pins.C03.pin_message_fieldGoToDef
#print axioms Mav.Pins.C03.pin_message_msgGoToDef
#print axioms Mav.Pins.C03.pin_message_readValue
#print axioms Mav.Pins.C03.pin_message_writeValue
#print axioms Mav.Pins.C03.pin_message_ReadWriter_Initialize
#print axioms Mav.Pins.C03.pin_message_ReadWriter_CRCExtra
#print axioms Mav.Pins.C03.pin_message_ReadWriter_Read
#print axioms Mav.Pins.C03.pin_message_ReadWriter_size
#print axioms Mav.Pins.C03.pin_message_ReadWriter_Write
#print axioms Mav.Pins.C03.pin_message_MessageRaw_GetID
#print axioms Mav.Pins.C03.pin_x25_X25_Reset
#print axioms Mav.Pins.C03.pin_x25_X25_Write
#print axioms Mav.Pins.C03.pin_x25_X25_Sum16
#print axioms Mav.Pins.C03.pin_x25_New
