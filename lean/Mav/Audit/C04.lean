import Mav.Props.C04
import Mav.Pins.C04
#print axioms Mav.C04.decode_never_panics
#print axioms Mav.C04.v1_exact_length
#print axioms Mav.C04.zero_extension_invariant
#print axioms Mav.C04.zero_truncation_invariant
#print axioms Mav.C04.trailing_bytes_ignored
#print axioms Mav.C04.strip_shape
#print axioms Mav.C04.stripped_decodes_alike
#print axioms Mav.C04.roundtrip_v2
#print axioms Mav.C04.roundtrip_v1_base
#print axioms Mav.C04.roundtrip_v1
#print axioms Mav.C04.canon_idempotent_num
#print axioms Mav.C04.accepted_struct_usable
#print axioms Mav.C04.shipped_layouts_ok
#print axioms Mav.Pins.C04.pin_message_removeEmptyBytes
#print axioms Mav.Pins.C04.pin_message_fieldGoToDef
#print axioms Mav.Pins.C04.pin_message_msgGoToDef
#print axioms Mav.Pins.C04.pin_message_readValue
#print axioms Mav.Pins.C04.pin_message_writeValue
#print axioms Mav.Pins.C04.pin_message_ReadWriter_Initialize
#print axioms Mav.Pins.C04.pin_message_ReadWriter_CRCExtra
#print axioms Mav.Pins.C04.pin_message_ReadWriter_Read
#print axioms Mav.Pins.C04.pin_message_ReadWriter_size
#print axioms Mav.Pins.C04.pin_message_ReadWriter_Write
#print axioms Mav.Pins.C04.pin_message_MessageRaw_GetID
