import Mav.Props.C05
import Mav.Props.C05b
import Mav.Pins.C05
#print axioms Mav.C05.no_panic_without_dialect
#print axioms Mav.C05.progress
#print axioms Mav.C05.readAll_terminates
#print axioms Mav.C05.frame_matches_consumed
#print axioms Mav.C05.readAll_junk
#print axioms Mav.C05.resync
#print axioms Mav.C05.accepted_no_panic
#print axioms Mav.C05.gate_no_panic
#print axioms Mav.C05.no_panic_with_accepted_dialect
#print axioms Mav.Pins.C05.pin_frame_peekAndDiscard
#print axioms Mav.Pins.C05.pin_frame_V1Frame_unmarshal
#print axioms Mav.Pins.C05.pin_frame_V2Frame_unmarshal
#print axioms Mav.Pins.C05.pin_frame_uint24Decode
#print axioms Mav.Pins.C05.pin_frame_uint48Decode
#print axioms Mav.Pins.C05.pin_frame_Reader_Initialize
#print axioms Mav.Pins.C05.pin_frame_Reader_Read
#print axioms Mav.Pins.C05.pin_frame_V2Frame_IsSigned
#print axioms Mav.Pins.C05.pin_frame_NewReader
