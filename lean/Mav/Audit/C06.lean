import Mav.Props.C06
import Mav.Pins.C06
#print axioms Mav.C06.sigInput_spec
#print axioms Mav.C06.keyed_accept_iff
#print axioms Mav.C06.v1_refused
#print axioms Mav.C06.unsigned_refused
#print axioms Mav.C06.mismatch_refused
#print axioms Mav.C06.no_key_passes
#print axioms Mav.C06.writer_signs
#print axioms Mav.Pins.C06.pin_frame_V2Frame_GenerateSignature
#print axioms Mav.Pins.C06.pin_frame_NewV2Key
#print axioms Mav.Pins.C06.pin_frame_peekAndDiscard
#print axioms Mav.Pins.C06.pin_frame_V1Frame_unmarshal
#print axioms Mav.Pins.C06.pin_frame_V2Frame_unmarshal
#print axioms Mav.Pins.C06.pin_frame_uint24Decode
#print axioms Mav.Pins.C06.pin_frame_uint48Decode
#print axioms Mav.Pins.C06.pin_frame_Reader_Initialize
#print axioms Mav.Pins.C06.pin_frame_Reader_Read
#print axioms Mav.Pins.C06.pin_frame_V2Frame_IsSigned
#print axioms Mav.Pins.C06.pin_frame_NewReader
#print axioms Mav.Pins.C06.pin_streamwriter_encodeMessageInFrame
#print axioms Mav.Pins.C06.pin_streamwriter_Writer_Initialize
#print axioms Mav.Pins.C06.pin_streamwriter_Writer_Write
#print axioms Mav.Pins.C06.pin_streamwriter_Writer_writeInner
#print axioms Mav.Pins.C06.pin_frame_Writer_WriteMessage
#print axioms Mav.Pins.C06.pin_frame_Writer_writeFrameAndFill
#print axioms Mav.Pins.C06.pin_frame_V1Frame_marshalTo
#print axioms Mav.Pins.C06.pin_frame_V2Frame_marshalTo
#print axioms Mav.Pins.C06.pin_frame_uint24Encode
#print axioms Mav.Pins.C06.pin_frame_uint48Encode
#print axioms Mav.Pins.C06.pin_frame_encodeMessageInFrame
#print axioms Mav.Pins.C06.pin_frame_Writer_Initialize
#print axioms Mav.Pins.C06.pin_frame_Writer_Write
#print axioms Mav.Pins.C06.pin_frame_Writer_writeFrameInner
#print axioms Mav.Pins.C06.pin_frame_Writer_WriteFrame
#print axioms Mav.Pins.C06.pin_frame_NewWriter
