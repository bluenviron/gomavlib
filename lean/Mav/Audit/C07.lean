import Mav.Props.C07
import Mav.Pins.C07
#print axioms Mav.C07.update_is_max
#print axioms Mav.C07.window_exact
#print axioms Mav.C07.history_exact
#print axioms Mav.C07.gate_uses_window
#print axioms Mav.C07.wire_ts_lt
#print axioms Mav.C07.writer_ts_monotone
#print axioms Mav.C07.writer_ts_units
#print axioms Mav.Pins.C07.pin_frame_peekAndDiscard
#print axioms Mav.Pins.C07.pin_frame_V1Frame_unmarshal
#print axioms Mav.Pins.C07.pin_frame_V2Frame_unmarshal
#print axioms Mav.Pins.C07.pin_frame_uint24Decode
#print axioms Mav.Pins.C07.pin_frame_uint48Decode
#print axioms Mav.Pins.C07.pin_frame_Reader_Initialize
#print axioms Mav.Pins.C07.pin_frame_Reader_Read
#print axioms Mav.Pins.C07.pin_frame_V2Frame_IsSigned
#print axioms Mav.Pins.C07.pin_frame_NewReader
#print axioms Mav.Pins.C07.pin_streamwriter_encodeMessageInFrame
#print axioms Mav.Pins.C07.pin_streamwriter_Writer_Initialize
#print axioms Mav.Pins.C07.pin_streamwriter_Writer_Write
#print axioms Mav.Pins.C07.pin_streamwriter_Writer_writeInner
#print axioms Mav.Pins.C07.pin_frame_Writer_WriteMessage
#print axioms Mav.Pins.C07.pin_frame_Writer_writeFrameAndFill
