import Mav.Props.C08
import Mav.Pins.C08
#print axioms Mav.C08.forward_raw_identity
#print axioms Mav.C08.hop_fixed
#print axioms Mav.C08.hops_identity
#print axioms Mav.C08.encode_len
#print axioms Mav.C08.recode
#print axioms Mav.C08.accepted_codec_consistent
#print axioms Mav.C08.forward_dialect_valid
#print axioms Mav.C08.forward_dialect_valid_accepted
#print axioms Mav.C08.fixframe_valid
#print axioms Mav.Pins.C08.pin_frame_peekAndDiscard
#print axioms Mav.Pins.C08.pin_frame_V1Frame_unmarshal
#print axioms Mav.Pins.C08.pin_frame_V2Frame_unmarshal
#print axioms Mav.Pins.C08.pin_frame_uint24Decode
#print axioms Mav.Pins.C08.pin_frame_uint48Decode
#print axioms Mav.Pins.C08.pin_frame_Reader_Initialize
#print axioms Mav.Pins.C08.pin_frame_Reader_Read
#print axioms Mav.Pins.C08.pin_frame_V2Frame_IsSigned
#print axioms Mav.Pins.C08.pin_frame_NewReader
#print axioms Mav.Pins.C08.pin_frame_V1Frame_marshalTo
#print axioms Mav.Pins.C08.pin_frame_V2Frame_marshalTo
#print axioms Mav.Pins.C08.pin_frame_uint24Encode
#print axioms Mav.Pins.C08.pin_frame_uint48Encode
#print axioms Mav.Pins.C08.pin_frame_encodeMessageInFrame
#print axioms Mav.Pins.C08.pin_frame_Writer_Initialize
#print axioms Mav.Pins.C08.pin_frame_Writer_Write
#print axioms Mav.Pins.C08.pin_frame_Writer_writeFrameInner
#print axioms Mav.Pins.C08.pin_frame_Writer_WriteFrame
#print axioms Mav.Pins.C08.pin_frame_NewWriter
#print axioms Mav.Pins.C08.pin_message_removeEmptyBytes
#print axioms Mav.Pins.C08.pin_message_fieldGoToDef
#print axioms Mav.Pins.C08.pin_message_msgGoToDef
#print axioms Mav.Pins.C08.pin_message_readValue
#print axioms Mav.Pins.C08.pin_message_writeValue
#print axioms Mav.Pins.C08.pin_message_ReadWriter_Initialize
#print axioms Mav.Pins.C08.pin_message_ReadWriter_CRCExtra
#print axioms Mav.Pins.C08.pin_message_ReadWriter_Read
#print axioms Mav.Pins.C08.pin_message_ReadWriter_size
#print axioms Mav.Pins.C08.pin_message_ReadWriter_Write
#print axioms Mav.Pins.C08.pin_message_MessageRaw_GetID
#print axioms Mav.Pins.C08.pin_x25_X25_Reset
#print axioms Mav.Pins.C08.pin_x25_X25_Write
#print axioms Mav.Pins.C08.pin_x25_X25_Sum16
#print axioms Mav.Pins.C08.pin_x25_New
#print axioms Mav.Pins.C08.pin_frame_V1Frame_GenerateChecksum
#print axioms Mav.Pins.C08.pin_frame_V2Frame_GenerateChecksum
#print axioms Mav.Pins.C08.pin_frame_V2Frame_GenerateSignature
#print axioms Mav.Pins.C08.pin_frame_NewV2Key
#print axioms Mav.Pins.C08.pin_node_Node_FixFrame
#print axioms Mav.Pins.C08.pin_node_Node_encodeFrame
#print axioms Mav.Pins.C08.pin_node_Node_encodeMessage
