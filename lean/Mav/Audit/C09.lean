import Mav.Props.C09
import Mav.Pins.C09
#print axioms Mav.C09.init_refuses
#print axioms Mav.C09.comp_default
#print axioms Mav.C09.init_gives_domain
#print axioms Mav.C09.write_refines_spec
#print axioms Mav.C09.history_refines_spec
#print axioms Mav.C09.spec_counts_accepted
#print axioms Mav.C09.spec_v1_refuses_big_id
#print axioms Mav.Pins.C09.pin_streamwriter_encodeMessageInFrame
#print axioms Mav.Pins.C09.pin_streamwriter_Writer_Initialize
#print axioms Mav.Pins.C09.pin_streamwriter_Writer_Write
#print axioms Mav.Pins.C09.pin_streamwriter_Writer_writeInner
#print axioms Mav.Pins.C09.pin_frame_Writer_WriteMessage
#print axioms Mav.Pins.C09.pin_frame_Writer_writeFrameAndFill
#print axioms Mav.Pins.C09.pin_frame_V1Frame_marshalTo
#print axioms Mav.Pins.C09.pin_frame_V2Frame_marshalTo
#print axioms Mav.Pins.C09.pin_frame_uint24Encode
#print axioms Mav.Pins.C09.pin_frame_uint48Encode
#print axioms Mav.Pins.C09.pin_frame_encodeMessageInFrame
#print axioms Mav.Pins.C09.pin_frame_Writer_Initialize
#print axioms Mav.Pins.C09.pin_frame_Writer_Write
#print axioms Mav.Pins.C09.pin_frame_Writer_writeFrameInner
#print axioms Mav.Pins.C09.pin_frame_Writer_WriteFrame
#print axioms Mav.Pins.C09.pin_frame_NewWriter
#print axioms Mav.Pins.C09.pin_x25_X25_Reset
#print axioms Mav.Pins.C09.pin_x25_X25_Write
#print axioms Mav.Pins.C09.pin_x25_X25_Sum16
#print axioms Mav.Pins.C09.pin_x25_New
#print axioms Mav.Pins.C09.pin_frame_V1Frame_GenerateChecksum
#print axioms Mav.Pins.C09.pin_frame_V2Frame_GenerateChecksum
#print axioms Mav.Pins.C09.pin_node_Node_Initialize
#print axioms Mav.Pins.C09.pin_node_Channel_initialize
