import Mav.Props.C11
import Mav.Pins.C11
#print axioms Mav.C11.wire_then_backlog_is_accepted
#print axioms Mav.C11.accepted_sublist_of_offered
#print axioms Mav.C11.wire_sublist_of_offered
#print axioms Mav.C11.dispatch_hit
#print axioms Mav.C11.dispatch_miss
#print axioms Mav.C11.hits_to
#print axioms Mav.C11.hits_except
#print axioms Mav.C11.hits_all
#print axioms Mav.C11.nothing_dropped_below_bound
#print axioms Mav.C11.reachBelow_reach
#print axioms Mav.C11.bound_is_64
#print axioms Mav.C11.hits_agree_all
#print axioms Mav.C11.hits_agree_to
#print axioms Mav.C11.hits_agree_except
#print axioms Mav.Pins.C11.pin_node_Channel_Endpoint
#print axioms Mav.Pins.C11.pin_node_Channel_String
#print axioms Mav.Pins.C11.pin_node_Channel_close
#print axioms Mav.Pins.C11.pin_node_Channel_initialize
#print axioms Mav.Pins.C11.pin_node_Channel_run
#print axioms Mav.Pins.C11.pin_node_Channel_runReader
#print axioms Mav.Pins.C11.pin_node_Channel_runWriter
#print axioms Mav.Pins.C11.pin_node_Channel_start
#print axioms Mav.Pins.C11.pin_node_Channel_write
#print axioms Mav.Pins.C11.pin_node_EndpointCustom_init
#print axioms Mav.Pins.C11.pin_node_EndpointSerial_init
#print axioms Mav.Pins.C11.pin_node_EndpointTCPClient_getAddress
#print axioms Mav.Pins.C11.pin_node_EndpointTCPClient_init
#print axioms Mav.Pins.C11.pin_node_EndpointTCPClient_isUDP
#print axioms Mav.Pins.C11.pin_node_EndpointTCPServer_getAddress
#print axioms Mav.Pins.C11.pin_node_EndpointTCPServer_init
#print axioms Mav.Pins.C11.pin_node_EndpointTCPServer_isUDP
#print axioms Mav.Pins.C11.pin_node_EndpointUDPBroadcast_init
#print axioms Mav.Pins.C11.pin_node_EndpointUDPClient_getAddress
#print axioms Mav.Pins.C11.pin_node_EndpointUDPClient_init
#print axioms Mav.Pins.C11.pin_node_EndpointUDPClient_isUDP
#print axioms Mav.Pins.C11.pin_node_EndpointUDPServer_getAddress
#print axioms Mav.Pins.C11.pin_node_EndpointUDPServer_init
#print axioms Mav.Pins.C11.pin_node_EndpointUDPServer_isUDP
#print axioms Mav.Pins.C11.pin_node_EventChannelClose_isEventOut
#print axioms Mav.Pins.C11.pin_node_EventChannelOpen_isEventOut
#print axioms Mav.Pins.C11.pin_node_EventFrame_ComponentID
#print axioms Mav.Pins.C11.pin_node_EventFrame_Message
#print axioms Mav.Pins.C11.pin_node_EventFrame_SystemID
#print axioms Mav.Pins.C11.pin_node_EventFrame_isEventOut
#print axioms Mav.Pins.C11.pin_node_EventParseError_isEventOut
#print axioms Mav.Pins.C11.pin_node_EventStreamRequested_isEventOut
#print axioms Mav.Pins.C11.pin_node_NewNode
#print axioms Mav.Pins.C11.pin_node_Node_Close
#print axioms Mav.Pins.C11.pin_node_Node_Events
#print axioms Mav.Pins.C11.pin_node_Node_FixFrame
#print axioms Mav.Pins.C11.pin_node_Node_Initialize
#print axioms Mav.Pins.C11.pin_node_Node_WriteFrameAll
#print axioms Mav.Pins.C11.pin_node_Node_WriteFrameExcept
#print axioms Mav.Pins.C11.pin_node_Node_WriteFrameTo
#print axioms Mav.Pins.C11.pin_node_Node_WriteMessageAll
#print axioms Mav.Pins.C11.pin_node_Node_WriteMessageExcept
#print axioms Mav.Pins.C11.pin_node_Node_WriteMessageTo
#print axioms Mav.Pins.C11.pin_node_Node_closeChannel
#print axioms Mav.Pins.C11.pin_node_Node_encodeFrame
#print axioms Mav.Pins.C11.pin_node_Node_encodeMessage
#print axioms Mav.Pins.C11.pin_node_Node_newChannel
#print axioms Mav.Pins.C11.pin_node_Node_pushEvent
#print axioms Mav.Pins.C11.pin_node_Node_run
#print axioms Mav.Pins.C11.pin_node_Version_String
#print axioms Mav.Pins.C11.pin_node_channelProvider_close
#print axioms Mav.Pins.C11.pin_node_channelProvider_initialize
#print axioms Mav.Pins.C11.pin_node_channelProvider_run
#print axioms Mav.Pins.C11.pin_node_channelProvider_start
#print axioms Mav.Pins.C11.pin_node_endpointClient_Conf
#print axioms Mav.Pins.C11.pin_node_endpointClient_close
#print axioms Mav.Pins.C11.pin_node_endpointClient_connect
#print axioms Mav.Pins.C11.pin_node_endpointClient_initialize
#print axioms Mav.Pins.C11.pin_node_endpointClient_isEndpoint
#print axioms Mav.Pins.C11.pin_node_endpointClient_label
#print axioms Mav.Pins.C11.pin_node_endpointClient_oneChannelAtAtime
#print axioms Mav.Pins.C11.pin_node_endpointClient_provide
#print axioms Mav.Pins.C11.pin_node_endpointCustom_Conf
#print axioms Mav.Pins.C11.pin_node_endpointCustom_close
#print axioms Mav.Pins.C11.pin_node_endpointCustom_initialize
#print axioms Mav.Pins.C11.pin_node_endpointCustom_isEndpoint
#print axioms Mav.Pins.C11.pin_node_endpointCustom_oneChannelAtAtime
#print axioms Mav.Pins.C11.pin_node_endpointCustom_provide
#print axioms Mav.Pins.C11.pin_node_endpointSerial_Conf
#print axioms Mav.Pins.C11.pin_node_endpointSerial_close
#print axioms Mav.Pins.C11.pin_node_endpointSerial_connect
#print axioms Mav.Pins.C11.pin_node_endpointSerial_initialize
#print axioms Mav.Pins.C11.pin_node_endpointSerial_isEndpoint
#print axioms Mav.Pins.C11.pin_node_endpointSerial_oneChannelAtAtime
#print axioms Mav.Pins.C11.pin_node_endpointSerial_provide
#print axioms Mav.Pins.C11.pin_node_endpointServer_Conf
#print axioms Mav.Pins.C11.pin_node_endpointServer_close
#print axioms Mav.Pins.C11.pin_node_endpointServer_initialize
#print axioms Mav.Pins.C11.pin_node_endpointServer_isEndpoint
#print axioms Mav.Pins.C11.pin_node_endpointServer_oneChannelAtAtime
#print axioms Mav.Pins.C11.pin_node_endpointServer_provide
#print axioms Mav.Pins.C11.pin_node_endpointUDPBroadcast_Conf
#print axioms Mav.Pins.C11.pin_node_endpointUDPBroadcast_close
#print axioms Mav.Pins.C11.pin_node_endpointUDPBroadcast_initialize
#print axioms Mav.Pins.C11.pin_node_endpointUDPBroadcast_isEndpoint
#print axioms Mav.Pins.C11.pin_node_endpointUDPBroadcast_label
#print axioms Mav.Pins.C11.pin_node_endpointUDPBroadcast_oneChannelAtAtime
#print axioms Mav.Pins.C11.pin_node_endpointUDPBroadcast_provide
#print axioms Mav.Pins.C11.pin_node_ipByBroadcastIP
#print axioms Mav.Pins.C11.pin_node_nodeHeartbeat_close
#print axioms Mav.Pins.C11.pin_node_nodeHeartbeat_initialize
#print axioms Mav.Pins.C11.pin_node_nodeHeartbeat_run
#print axioms Mav.Pins.C11.pin_node_nodeStreamRequest_close
#print axioms Mav.Pins.C11.pin_node_nodeStreamRequest_initialize
#print axioms Mav.Pins.C11.pin_node_nodeStreamRequest_onEventFrame
#print axioms Mav.Pins.C11.pin_node_nodeStreamRequest_run
#print axioms Mav.Pins.C11.pin_node_randomByte
#print axioms Mav.Pins.C11.pin_node_removeCloser_Close
#print axioms Mav.Pins.C11.pin_node_removeCloser_Read
#print axioms Mav.Pins.C11.pin_node_removeCloser_Write
#print axioms Mav.Pins.C11.pin_node_wrappedPacketConn_Close
#print axioms Mav.Pins.C11.pin_node_wrappedPacketConn_Read
#print axioms Mav.Pins.C11.pin_node_wrappedPacketConn_Write
