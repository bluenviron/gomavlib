import Mav.Props.C17
import Mav.Pins.C17
#print axioms Mav.C17.dialect_init_iff
#print axioms Mav.C17.malformed_struct_rejected_at_init
#print axioms Mav.C17.initialize_accepts_exactly_definitions
#print axioms Mav.C17.dialect_init_iff_definitions
#print axioms Mav.C17.accepted_struct_sizes_exact
#print axioms Mav.C17.getMessage_spec
#print axioms Mav.C17.shipped_ids_distinct
#print axioms Mav.C17.shipped_messages_ok
#print axioms Mav.C17.shipped_constants_consistent
#print axioms Mav.C17.shipped_messages_shared
#print axioms Mav.C17.published_crc_extra
#print axioms Mav.C17.accepted_struct_name
#print axioms Mav.C17.malformed_struct_name_rejected
#print axioms Mav.Pins.C17.pin_dialect_ReadWriter_Initialize
#print axioms Mav.Pins.C17.pin_dialect_ReadWriter_GetMessage
#print axioms Mav.Pins.C17.pin_message_removeEmptyBytes
#print axioms Mav.Pins.C17.pin_message_fieldGoToDef
#print axioms Mav.Pins.C17.pin_message_msgGoToDef
#print axioms Mav.Pins.C17.pin_message_readValue
#print axioms Mav.Pins.C17.pin_message_writeValue
#print axioms Mav.Pins.C17.pin_message_ReadWriter_Initialize
#print axioms Mav.Pins.C17.pin_message_ReadWriter_CRCExtra
#print axioms Mav.Pins.C17.pin_message_ReadWriter_Read
#print axioms Mav.Pins.C17.pin_message_ReadWriter_size
#print axioms Mav.Pins.C17.pin_message_ReadWriter_Write
#print axioms Mav.Pins.C17.pin_message_MessageRaw_GetID
