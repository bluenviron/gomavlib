import Mav.Props.C18
import Mav.Props.C18b
import Mav.Pins.C18
#print axioms Mav.C18.msg_name_roundtrip
#print axioms Mav.C18.field_name_recovered
#print axioms Mav.C18.splitArray_render
#print axioms Mav.C18.type_table
#print axioms Mav.C18.uintPow_fits
#print axioms Mav.C18.uintPow_overflow
#print axioms Mav.C18.power_value
#print axioms Mav.C18.power_value_too_big
#print axioms Mav.C18.every_file_once
#print axioms Mav.C18.inverse_is_the_runtimes
#print axioms Mav.C18.generated_message_has_the_spec_layout
#print axioms Mav.C18.decimal_enum_value
#print axioms Mav.C18.hex_enum_value
#print axioms Mav.C18.binary_enum_value
#print axioms Mav.C18.decimal_enum_value_too_big
#print axioms Mav.C18.version_is_the_specs
#print axioms Mav.C18.own_version_wins
#print axioms Mav.C18.reserved_table_complete
#print axioms Mav.C18.generated_file_is_plain_source
#print axioms Mav.Pins.C18.pin_conversion_defAddrToName
#print axioms Mav.Pins.C18.pin_conversion_dialectNameGoToDef
#print axioms Mav.Pins.C18.pin_conversion_dialectNameDefToGo
#print axioms Mav.Pins.C18.pin_conversion_parseDescription
#print axioms Mav.Pins.C18.pin_conversion_uintPow
#print axioms Mav.Pins.C18.pin_conversion_processDefinition
#print axioms Mav.Pins.C18.pin_conversion_getDefinition
#print axioms Mav.Pins.C18.pin_conversion_processMessage
#print axioms Mav.Pins.C18.pin_conversion_processField
#print axioms Mav.Pins.C18.pin_conversion_writeDialect
#print axioms Mav.Pins.C18.pin_conversion_writeEnum
#print axioms Mav.Pins.C18.pin_conversion_writeMessage
#print axioms Mav.Pins.C18.pin_conversion_Convert
#print axioms Mav.Pins.C18.pin_conversion_goFileName
#print axioms Mav.Pins.C18.pin_conversion_definitionMessage_UnmarshalXML
#print axioms Mav.Pins.C18.pin_conversion_definitionDecode
#print axioms Mav.Pins.C18.pin_conversion_var_tplDialect
#print axioms Mav.Pins.C18.pin_conversion_var_tplEnum
#print axioms Mav.Pins.C18.pin_conversion_var_tplMessage
#print axioms Mav.Pins.C18.pin_conversion_var_reMsgName
#print axioms Mav.Pins.C18.pin_conversion_var_reTypeIsArray
#print axioms Mav.Pins.C18.pin_conversion_var_dialectTypeToGo
#print axioms Mav.Pins.C18.pin_message_removeEmptyBytes
#print axioms Mav.Pins.C18.pin_message_fieldGoToDef
#print axioms Mav.Pins.C18.pin_message_msgGoToDef
#print axioms Mav.Pins.C18.pin_message_readValue
#print axioms Mav.Pins.C18.pin_message_writeValue
#print axioms Mav.Pins.C18.pin_message_ReadWriter_Initialize
#print axioms Mav.Pins.C18.pin_message_ReadWriter_CRCExtra
#print axioms Mav.Pins.C18.pin_message_ReadWriter_Read
#print axioms Mav.Pins.C18.pin_message_ReadWriter_size
#print axioms Mav.Pins.C18.pin_message_ReadWriter_Write
#print axioms Mav.Pins.C18.pin_message_MessageRaw_GetID
#print axioms Mav.Pins.C18.pin_dialect_ReadWriter_Initialize
#print axioms Mav.Pins.C18.pin_dialect_ReadWriter_GetMessage
