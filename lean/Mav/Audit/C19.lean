import Mav.Props.C19
import Mav.Pins.C19
#print axioms Mav.C19.plain_roundtrip
#print axioms Mav.C19.bitmask_roundtrip
#print axioms Mav.C19.bitmask_zero
#print axioms Mav.C19.plain_rejects
#print axioms Mav.C19.bitLoop_not_ok
#print axioms Mav.C19.shipped_values_ok
#print axioms Mav.C19.shipped_enum_ok
#print axioms Mav.C19.generated_enum_ok
#print axioms Mav.C19.generated_bitmask_roundtrip
#print axioms Mav.Pins.C19.pin_conversion_uintPow
#print axioms Mav.Pins.C19.pin_conversion_processDefinition
#print axioms Mav.Pins.C19.pin_conversion_writeEnum
#print axioms Mav.Pins.C19.pin_conversion_var_tplEnum
