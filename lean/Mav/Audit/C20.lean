import Mav.Props.C20
import Mav.Pins.C20
#print axioms Mav.C20.entry_layout
#print axioms Mav.C20.unencodable_leaves_nothing
#print axioms Mav.C20.write_error_reported
#print axioms Mav.C20.time_roundtrip
#print axioms Mav.C20.timestamp_bytes_roundtrip
#print axioms Mav.C20.int64Bytes_length
#print axioms Mav.C20.entry_roundtrip
#print axioms Mav.C20.readEntry_short
#print axioms Mav.C20.truncation_safe
#print axioms Mav.C20.entriesBefore_all
#print axioms Mav.C20.log_roundtrip
#print axioms Mav.Pins.C20.pin_tlog_Reader_Initialize
#print axioms Mav.Pins.C20.pin_tlog_Reader_Read
#print axioms Mav.Pins.C20.pin_tlog_Writer_Initialize
#print axioms Mav.Pins.C20.pin_tlog_Writer_Write
#print axioms Mav.Pins.C20.pin_frame_peekAndDiscard
#print axioms Mav.Pins.C20.pin_frame_V1Frame_unmarshal
#print axioms Mav.Pins.C20.pin_frame_V2Frame_unmarshal
#print axioms Mav.Pins.C20.pin_frame_uint24Decode
#print axioms Mav.Pins.C20.pin_frame_uint48Decode
#print axioms Mav.Pins.C20.pin_frame_Reader_Initialize
#print axioms Mav.Pins.C20.pin_frame_Reader_Read
#print axioms Mav.Pins.C20.pin_frame_V2Frame_IsSigned
#print axioms Mav.Pins.C20.pin_frame_NewReader
#print axioms Mav.Pins.C20.pin_frame_V1Frame_marshalTo
#print axioms Mav.Pins.C20.pin_frame_V2Frame_marshalTo
#print axioms Mav.Pins.C20.pin_frame_uint24Encode
#print axioms Mav.Pins.C20.pin_frame_uint48Encode
#print axioms Mav.Pins.C20.pin_frame_encodeMessageInFrame
#print axioms Mav.Pins.C20.pin_frame_Writer_Initialize
#print axioms Mav.Pins.C20.pin_frame_Writer_Write
#print axioms Mav.Pins.C20.pin_frame_Writer_writeFrameInner
#print axioms Mav.Pins.C20.pin_frame_Writer_WriteFrame
#print axioms Mav.Pins.C20.pin_frame_NewWriter
