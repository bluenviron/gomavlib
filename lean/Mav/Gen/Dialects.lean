-- GENERATED by tools/extract from pkg/dialects/*/dialect.go and message_*.go — do not edit
namespace Mav.Gen

/-- one message of a dialect: Go name, id, defining package, alias chain -/
structure DMsg where
  goName : String
  id : Nat
  defPkg : String
  chain : List String
deriving Repr, DecidableEq

structure Dialect where
  name : String
  version : Nat
  msgs : List DMsg
deriving Repr

def dialect_all : Dialect := { name := "all", version := 2, msgs :=
[
  { goName := "MessageHeartbeat", id := 0, defPkg := "minimal", chain := ["all", "minimal"] },
  { goName := "MessageProtocolVersion", id := 300, defPkg := "minimal", chain := ["all", "minimal"] },
  { goName := "MessageSysStatus", id := 1, defPkg := "common", chain := ["all", "common"] },
  { goName := "MessageSystemTime", id := 2, defPkg := "common", chain := ["all", "common"] },
  { goName := "MessagePing", id := 4, defPkg := "common", chain := ["all", "common"] },
  { goName := "MessageChangeOperatorControl", id := 5, defPkg := "common", chain := ["all", "common"] },
  { goName := "MessageChangeOperatorControlAck", id := 6, defPkg := "common", chain := ["all", "common"] },
  { goName := "MessageAuthKey", id := 7, defPkg := "common", chain := ["all", "common"] },
  { goName := "MessageLinkNodeStatus", id := 8, defPkg := "common", chain := ["all", "common"] },
  { goName := "MessageSetMode", id := 11, defPkg := "common", chain := ["all", "common"] },
  { goName := "MessageParamRequestRead", id := 20, defPkg := "common", chain := ["all", "common"] },
  { goName := "MessageParamRequestList", id := 21, defPkg := "common", chain := ["all", "common"] },
  { goName := "MessageParamValue", id := 22, defPkg := "common", chain := ["all", "common"] },
  { goName := "MessageParamSet", id := 23, defPkg := "common", chain := ["all", "common"] },
  { goName := "MessageGpsRawInt", id := 24, defPkg := "common", chain := ["all", "common"] },
  { goName := "MessageGpsStatus", id := 25, defPkg := "common", chain := ["all", "common"] },
  { goName := "MessageScaledImu", id := 26, defPkg := "common", chain := ["all", "common"] },
  { goName := "MessageRawImu", id := 27, defPkg := "common", chain := ["all", "common"] },
  { goName := "MessageRawPressure", id := 28, defPkg := "common", chain := ["all", "common"] },
  { goName := "MessageScaledPressure", id := 29, defPkg := "common", chain := ["all", "common"] },
  { goName := "MessageAttitude", id := 30, defPkg := "common", chain := ["all", "common"] },
  { goName := "MessageAttitudeQuaternion", id := 31, defPkg := "common", chain := ["all", "common"] },
  { goName := "MessageLocalPositionNed", id := 32, defPkg := "common", chain := ["all", "common"] },
  { goName := "MessageGlobalPositionInt", id := 33, defPkg := "common", chain := ["all", "common"] },
  { goName := "MessageRcChannelsScaled", id := 34, defPkg := "common", chain := ["all", "common"] },
  { goName := "MessageRcChannelsRaw", id := 35, defPkg := "common", chain := ["all", "common"] },
  { goName := "MessageServoOutputRaw", id := 36, defPkg := "common", chain := ["all", "common"] },
  { goName := "MessageMissionRequestPartialList", id := 37, defPkg := "common", chain := ["all", "common"] },
  { goName := "MessageMissionWritePartialList", id := 38, defPkg := "common", chain := ["all", "common"] },
  { goName := "MessageMissionItem", id := 39, defPkg := "common", chain := ["all", "common"] }] ++
[
  { goName := "MessageMissionRequest", id := 40, defPkg := "common", chain := ["all", "common"] },
  { goName := "MessageMissionSetCurrent", id := 41, defPkg := "common", chain := ["all", "common"] },
  { goName := "MessageMissionCurrent", id := 42, defPkg := "common", chain := ["all", "common"] },
  { goName := "MessageMissionRequestList", id := 43, defPkg := "common", chain := ["all", "common"] },
  { goName := "MessageMissionCount", id := 44, defPkg := "common", chain := ["all", "common"] },
  { goName := "MessageMissionClearAll", id := 45, defPkg := "common", chain := ["all", "common"] },
  { goName := "MessageMissionItemReached", id := 46, defPkg := "common", chain := ["all", "common"] },
  { goName := "MessageMissionAck", id := 47, defPkg := "common", chain := ["all", "common"] },
  { goName := "MessageSetGpsGlobalOrigin", id := 48, defPkg := "common", chain := ["all", "common"] },
  { goName := "MessageGpsGlobalOrigin", id := 49, defPkg := "common", chain := ["all", "common"] },
  { goName := "MessageParamMapRc", id := 50, defPkg := "common", chain := ["all", "common"] },
  { goName := "MessageMissionRequestInt", id := 51, defPkg := "common", chain := ["all", "common"] },
  { goName := "MessageSafetySetAllowedArea", id := 54, defPkg := "common", chain := ["all", "common"] },
  { goName := "MessageSafetyAllowedArea", id := 55, defPkg := "common", chain := ["all", "common"] },
  { goName := "MessageAttitudeQuaternionCov", id := 61, defPkg := "common", chain := ["all", "common"] },
  { goName := "MessageNavControllerOutput", id := 62, defPkg := "common", chain := ["all", "common"] },
  { goName := "MessageGlobalPositionIntCov", id := 63, defPkg := "common", chain := ["all", "common"] },
  { goName := "MessageLocalPositionNedCov", id := 64, defPkg := "common", chain := ["all", "common"] },
  { goName := "MessageRcChannels", id := 65, defPkg := "common", chain := ["all", "common"] },
  { goName := "MessageRequestDataStream", id := 66, defPkg := "common", chain := ["all", "common"] },
  { goName := "MessageDataStream", id := 67, defPkg := "common", chain := ["all", "common"] },
  { goName := "MessageManualControl", id := 69, defPkg := "common", chain := ["all", "common"] },
  { goName := "MessageRcChannelsOverride", id := 70, defPkg := "common", chain := ["all", "common"] },
  { goName := "MessageMissionItemInt", id := 73, defPkg := "common", chain := ["all", "common"] },
  { goName := "MessageVfrHud", id := 74, defPkg := "common", chain := ["all", "common"] },
  { goName := "MessageCommandInt", id := 75, defPkg := "common", chain := ["all", "common"] },
  { goName := "MessageCommandLong", id := 76, defPkg := "common", chain := ["all", "common"] },
  { goName := "MessageCommandAck", id := 77, defPkg := "common", chain := ["all", "common"] },
  { goName := "MessageCommandCancel", id := 80, defPkg := "common", chain := ["all", "common"] },
  { goName := "MessageManualSetpoint", id := 81, defPkg := "common", chain := ["all", "common"] }] ++
[
  { goName := "MessageSetAttitudeTarget", id := 82, defPkg := "common", chain := ["all", "common"] },
  { goName := "MessageAttitudeTarget", id := 83, defPkg := "common", chain := ["all", "common"] },
  { goName := "MessageSetPositionTargetLocalNed", id := 84, defPkg := "common", chain := ["all", "common"] },
  { goName := "MessagePositionTargetLocalNed", id := 85, defPkg := "common", chain := ["all", "common"] },
  { goName := "MessageSetPositionTargetGlobalInt", id := 86, defPkg := "common", chain := ["all", "common"] },
  { goName := "MessagePositionTargetGlobalInt", id := 87, defPkg := "common", chain := ["all", "common"] },
  { goName := "MessageLocalPositionNedSystemGlobalOffset", id := 89, defPkg := "common", chain := ["all", "common"] },
  { goName := "MessageHilState", id := 90, defPkg := "common", chain := ["all", "common"] },
  { goName := "MessageHilControls", id := 91, defPkg := "common", chain := ["all", "common"] },
  { goName := "MessageHilRcInputsRaw", id := 92, defPkg := "common", chain := ["all", "common"] },
  { goName := "MessageHilActuatorControls", id := 93, defPkg := "common", chain := ["all", "common"] },
  { goName := "MessageOpticalFlow", id := 100, defPkg := "common", chain := ["all", "common"] },
  { goName := "MessageGlobalVisionPositionEstimate", id := 101, defPkg := "common", chain := ["all", "common"] },
  { goName := "MessageVisionPositionEstimate", id := 102, defPkg := "common", chain := ["all", "common"] },
  { goName := "MessageVisionSpeedEstimate", id := 103, defPkg := "common", chain := ["all", "common"] },
  { goName := "MessageViconPositionEstimate", id := 104, defPkg := "common", chain := ["all", "common"] },
  { goName := "MessageHighresImu", id := 105, defPkg := "common", chain := ["all", "common"] },
  { goName := "MessageOpticalFlowRad", id := 106, defPkg := "common", chain := ["all", "common"] },
  { goName := "MessageHilSensor", id := 107, defPkg := "common", chain := ["all", "common"] },
  { goName := "MessageSimState", id := 108, defPkg := "common", chain := ["all", "common"] },
  { goName := "MessageRadioStatus", id := 109, defPkg := "common", chain := ["all", "common"] },
  { goName := "MessageFileTransferProtocol", id := 110, defPkg := "common", chain := ["all", "common"] },
  { goName := "MessageTimesync", id := 111, defPkg := "common", chain := ["all", "common"] },
  { goName := "MessageCameraTrigger", id := 112, defPkg := "common", chain := ["all", "common"] },
  { goName := "MessageHilGps", id := 113, defPkg := "common", chain := ["all", "common"] },
  { goName := "MessageHilOpticalFlow", id := 114, defPkg := "common", chain := ["all", "common"] },
  { goName := "MessageHilStateQuaternion", id := 115, defPkg := "common", chain := ["all", "common"] },
  { goName := "MessageScaledImu2", id := 116, defPkg := "common", chain := ["all", "common"] },
  { goName := "MessageLogRequestList", id := 117, defPkg := "common", chain := ["all", "common"] },
  { goName := "MessageLogEntry", id := 118, defPkg := "common", chain := ["all", "common"] }] ++
[
  { goName := "MessageLogRequestData", id := 119, defPkg := "common", chain := ["all", "common"] },
  { goName := "MessageLogData", id := 120, defPkg := "common", chain := ["all", "common"] },
  { goName := "MessageLogErase", id := 121, defPkg := "common", chain := ["all", "common"] },
  { goName := "MessageLogRequestEnd", id := 122, defPkg := "common", chain := ["all", "common"] },
  { goName := "MessageGpsInjectData", id := 123, defPkg := "common", chain := ["all", "common"] },
  { goName := "MessageGps2Raw", id := 124, defPkg := "common", chain := ["all", "common"] },
  { goName := "MessagePowerStatus", id := 125, defPkg := "common", chain := ["all", "common"] },
  { goName := "MessageSerialControl", id := 126, defPkg := "common", chain := ["all", "common"] },
  { goName := "MessageGpsRtk", id := 127, defPkg := "common", chain := ["all", "common"] },
  { goName := "MessageGps2Rtk", id := 128, defPkg := "common", chain := ["all", "common"] },
  { goName := "MessageScaledImu3", id := 129, defPkg := "common", chain := ["all", "common"] },
  { goName := "MessageDataTransmissionHandshake", id := 130, defPkg := "common", chain := ["all", "common"] },
  { goName := "MessageEncapsulatedData", id := 131, defPkg := "common", chain := ["all", "common"] },
  { goName := "MessageDistanceSensor", id := 132, defPkg := "common", chain := ["all", "common"] },
  { goName := "MessageTerrainRequest", id := 133, defPkg := "common", chain := ["all", "common"] },
  { goName := "MessageTerrainData", id := 134, defPkg := "common", chain := ["all", "common"] },
  { goName := "MessageTerrainCheck", id := 135, defPkg := "common", chain := ["all", "common"] },
  { goName := "MessageTerrainReport", id := 136, defPkg := "common", chain := ["all", "common"] },
  { goName := "MessageScaledPressure2", id := 137, defPkg := "common", chain := ["all", "common"] },
  { goName := "MessageAttPosMocap", id := 138, defPkg := "common", chain := ["all", "common"] },
  { goName := "MessageSetActuatorControlTarget", id := 139, defPkg := "common", chain := ["all", "common"] },
  { goName := "MessageActuatorControlTarget", id := 140, defPkg := "common", chain := ["all", "common"] },
  { goName := "MessageAltitude", id := 141, defPkg := "common", chain := ["all", "common"] },
  { goName := "MessageResourceRequest", id := 142, defPkg := "common", chain := ["all", "common"] },
  { goName := "MessageScaledPressure3", id := 143, defPkg := "common", chain := ["all", "common"] },
  { goName := "MessageFollowTarget", id := 144, defPkg := "common", chain := ["all", "common"] },
  { goName := "MessageControlSystemState", id := 146, defPkg := "common", chain := ["all", "common"] },
  { goName := "MessageBatteryStatus", id := 147, defPkg := "common", chain := ["all", "common"] },
  { goName := "MessageAutopilotVersion", id := 148, defPkg := "common", chain := ["all", "common"] },
  { goName := "MessageLandingTarget", id := 149, defPkg := "common", chain := ["all", "common"] }] ++
[
  { goName := "MessageFenceStatus", id := 162, defPkg := "common", chain := ["all", "common"] },
  { goName := "MessageMagCalReport", id := 192, defPkg := "common", chain := ["all", "common"] },
  { goName := "MessageEfiStatus", id := 225, defPkg := "common", chain := ["all", "common"] },
  { goName := "MessageEstimatorStatus", id := 230, defPkg := "common", chain := ["all", "common"] },
  { goName := "MessageWindCov", id := 231, defPkg := "common", chain := ["all", "common"] },
  { goName := "MessageGpsInput", id := 232, defPkg := "common", chain := ["all", "common"] },
  { goName := "MessageGpsRtcmData", id := 233, defPkg := "common", chain := ["all", "common"] },
  { goName := "MessageHighLatency", id := 234, defPkg := "common", chain := ["all", "common"] },
  { goName := "MessageHighLatency2", id := 235, defPkg := "common", chain := ["all", "common"] },
  { goName := "MessageVibration", id := 241, defPkg := "common", chain := ["all", "common"] },
  { goName := "MessageHomePosition", id := 242, defPkg := "common", chain := ["all", "common"] },
  { goName := "MessageSetHomePosition", id := 243, defPkg := "common", chain := ["all", "common"] },
  { goName := "MessageMessageInterval", id := 244, defPkg := "common", chain := ["all", "common"] },
  { goName := "MessageExtendedSysState", id := 245, defPkg := "common", chain := ["all", "common"] },
  { goName := "MessageAdsbVehicle", id := 246, defPkg := "common", chain := ["all", "common"] },
  { goName := "MessageCollision", id := 247, defPkg := "common", chain := ["all", "common"] },
  { goName := "MessageV2Extension", id := 248, defPkg := "common", chain := ["all", "common"] },
  { goName := "MessageMemoryVect", id := 249, defPkg := "common", chain := ["all", "common"] },
  { goName := "MessageDebugVect", id := 250, defPkg := "common", chain := ["all", "common"] },
  { goName := "MessageNamedValueFloat", id := 251, defPkg := "common", chain := ["all", "common"] },
  { goName := "MessageNamedValueInt", id := 252, defPkg := "common", chain := ["all", "common"] },
  { goName := "MessageStatustext", id := 253, defPkg := "common", chain := ["all", "common"] },
  { goName := "MessageDebug", id := 254, defPkg := "common", chain := ["all", "common"] },
  { goName := "MessageSetupSigning", id := 256, defPkg := "common", chain := ["all", "common"] },
  { goName := "MessageButtonChange", id := 257, defPkg := "common", chain := ["all", "common"] },
  { goName := "MessagePlayTune", id := 258, defPkg := "common", chain := ["all", "common"] },
  { goName := "MessageCameraInformation", id := 259, defPkg := "common", chain := ["all", "common"] },
  { goName := "MessageCameraSettings", id := 260, defPkg := "common", chain := ["all", "common"] },
  { goName := "MessageStorageInformation", id := 261, defPkg := "common", chain := ["all", "common"] },
  { goName := "MessageCameraCaptureStatus", id := 262, defPkg := "common", chain := ["all", "common"] }] ++
[
  { goName := "MessageCameraImageCaptured", id := 263, defPkg := "common", chain := ["all", "common"] },
  { goName := "MessageFlightInformation", id := 264, defPkg := "common", chain := ["all", "common"] },
  { goName := "MessageMountOrientation", id := 265, defPkg := "common", chain := ["all", "common"] },
  { goName := "MessageLoggingData", id := 266, defPkg := "common", chain := ["all", "common"] },
  { goName := "MessageLoggingDataAcked", id := 267, defPkg := "common", chain := ["all", "common"] },
  { goName := "MessageLoggingAck", id := 268, defPkg := "common", chain := ["all", "common"] },
  { goName := "MessageVideoStreamInformation", id := 269, defPkg := "common", chain := ["all", "common"] },
  { goName := "MessageVideoStreamStatus", id := 270, defPkg := "common", chain := ["all", "common"] },
  { goName := "MessageCameraFovStatus", id := 271, defPkg := "common", chain := ["all", "common"] },
  { goName := "MessageCameraTrackingImageStatus", id := 275, defPkg := "common", chain := ["all", "common"] },
  { goName := "MessageCameraTrackingGeoStatus", id := 276, defPkg := "common", chain := ["all", "common"] },
  { goName := "MessageCameraThermalRange", id := 277, defPkg := "common", chain := ["all", "common"] },
  { goName := "MessageGimbalManagerInformation", id := 280, defPkg := "common", chain := ["all", "common"] },
  { goName := "MessageGimbalManagerStatus", id := 281, defPkg := "common", chain := ["all", "common"] },
  { goName := "MessageGimbalManagerSetAttitude", id := 282, defPkg := "common", chain := ["all", "common"] },
  { goName := "MessageGimbalDeviceInformation", id := 283, defPkg := "common", chain := ["all", "common"] },
  { goName := "MessageGimbalDeviceSetAttitude", id := 284, defPkg := "common", chain := ["all", "common"] },
  { goName := "MessageGimbalDeviceAttitudeStatus", id := 285, defPkg := "common", chain := ["all", "common"] },
  { goName := "MessageAutopilotStateForGimbalDevice", id := 286, defPkg := "common", chain := ["all", "common"] },
  { goName := "MessageGimbalManagerSetPitchyaw", id := 287, defPkg := "common", chain := ["all", "common"] },
  { goName := "MessageGimbalManagerSetManualControl", id := 288, defPkg := "common", chain := ["all", "common"] },
  { goName := "MessageEscInfo", id := 290, defPkg := "common", chain := ["all", "common"] },
  { goName := "MessageEscStatus", id := 291, defPkg := "common", chain := ["all", "common"] },
  { goName := "MessageWifiConfigAp", id := 299, defPkg := "common", chain := ["all", "common"] },
  { goName := "MessageAisVessel", id := 301, defPkg := "common", chain := ["all", "common"] },
  { goName := "MessageUavcanNodeStatus", id := 310, defPkg := "common", chain := ["all", "common"] },
  { goName := "MessageUavcanNodeInfo", id := 311, defPkg := "common", chain := ["all", "common"] },
  { goName := "MessageParamExtRequestRead", id := 320, defPkg := "common", chain := ["all", "common"] },
  { goName := "MessageParamExtRequestList", id := 321, defPkg := "common", chain := ["all", "common"] },
  { goName := "MessageParamExtValue", id := 322, defPkg := "common", chain := ["all", "common"] }] ++
[
  { goName := "MessageParamExtSet", id := 323, defPkg := "common", chain := ["all", "common"] },
  { goName := "MessageParamExtAck", id := 324, defPkg := "common", chain := ["all", "common"] },
  { goName := "MessageObstacleDistance", id := 330, defPkg := "common", chain := ["all", "common"] },
  { goName := "MessageOdometry", id := 331, defPkg := "common", chain := ["all", "common"] },
  { goName := "MessageTrajectoryRepresentationWaypoints", id := 332, defPkg := "common", chain := ["all", "common"] },
  { goName := "MessageTrajectoryRepresentationBezier", id := 333, defPkg := "common", chain := ["all", "common"] },
  { goName := "MessageCellularStatus", id := 334, defPkg := "common", chain := ["all", "common"] },
  { goName := "MessageIsbdLinkStatus", id := 335, defPkg := "common", chain := ["all", "common"] },
  { goName := "MessageCellularConfig", id := 336, defPkg := "common", chain := ["all", "common"] },
  { goName := "MessageRawRpm", id := 339, defPkg := "common", chain := ["all", "common"] },
  { goName := "MessageUtmGlobalPosition", id := 340, defPkg := "common", chain := ["all", "common"] },
  { goName := "MessageDebugFloatArray", id := 350, defPkg := "common", chain := ["all", "common"] },
  { goName := "MessageOrbitExecutionStatus", id := 360, defPkg := "common", chain := ["all", "common"] },
  { goName := "MessageSmartBatteryInfo", id := 370, defPkg := "common", chain := ["all", "common"] },
  { goName := "MessageFuelStatus", id := 371, defPkg := "common", chain := ["all", "common"] },
  { goName := "MessageBatteryInfo", id := 372, defPkg := "common", chain := ["all", "common"] },
  { goName := "MessageGeneratorStatus", id := 373, defPkg := "common", chain := ["all", "common"] },
  { goName := "MessageActuatorOutputStatus", id := 375, defPkg := "common", chain := ["all", "common"] },
  { goName := "MessageTimeEstimateToTarget", id := 380, defPkg := "common", chain := ["all", "common"] },
  { goName := "MessageTunnel", id := 385, defPkg := "common", chain := ["all", "common"] },
  { goName := "MessageCanFrame", id := 386, defPkg := "common", chain := ["all", "common"] },
  { goName := "MessageOnboardComputerStatus", id := 390, defPkg := "common", chain := ["all", "common"] },
  { goName := "MessageComponentInformation", id := 395, defPkg := "common", chain := ["all", "common"] },
  { goName := "MessageComponentInformationBasic", id := 396, defPkg := "common", chain := ["all", "common"] },
  { goName := "MessageComponentMetadata", id := 397, defPkg := "common", chain := ["all", "common"] },
  { goName := "MessagePlayTuneV2", id := 400, defPkg := "common", chain := ["all", "common"] },
  { goName := "MessageSupportedTunes", id := 401, defPkg := "common", chain := ["all", "common"] },
  { goName := "MessageEvent", id := 410, defPkg := "common", chain := ["all", "common"] },
  { goName := "MessageCurrentEventSequence", id := 411, defPkg := "common", chain := ["all", "common"] },
  { goName := "MessageRequestEvent", id := 412, defPkg := "common", chain := ["all", "common"] }] ++
[
  { goName := "MessageResponseEventError", id := 413, defPkg := "common", chain := ["all", "common"] },
  { goName := "MessageAvailableModes", id := 435, defPkg := "common", chain := ["all", "common"] },
  { goName := "MessageCurrentMode", id := 436, defPkg := "common", chain := ["all", "common"] },
  { goName := "MessageAvailableModesMonitor", id := 437, defPkg := "common", chain := ["all", "common"] },
  { goName := "MessageIlluminatorStatus", id := 440, defPkg := "common", chain := ["all", "common"] },
  { goName := "MessageCanfdFrame", id := 387, defPkg := "common", chain := ["all", "common"] },
  { goName := "MessageCanFilterModify", id := 388, defPkg := "common", chain := ["all", "common"] },
  { goName := "MessageWheelDistance", id := 9000, defPkg := "common", chain := ["all", "common"] },
  { goName := "MessageWinchStatus", id := 9005, defPkg := "common", chain := ["all", "common"] },
  { goName := "MessageOpenDroneIdBasicId", id := 12900, defPkg := "common", chain := ["all", "common"] },
  { goName := "MessageOpenDroneIdLocation", id := 12901, defPkg := "common", chain := ["all", "common"] },
  { goName := "MessageOpenDroneIdAuthentication", id := 12902, defPkg := "common", chain := ["all", "common"] },
  { goName := "MessageOpenDroneIdSelfId", id := 12903, defPkg := "common", chain := ["all", "common"] },
  { goName := "MessageOpenDroneIdSystem", id := 12904, defPkg := "common", chain := ["all", "common"] },
  { goName := "MessageOpenDroneIdOperatorId", id := 12905, defPkg := "common", chain := ["all", "common"] },
  { goName := "MessageOpenDroneIdMessagePack", id := 12915, defPkg := "common", chain := ["all", "common"] },
  { goName := "MessageOpenDroneIdArmStatus", id := 12918, defPkg := "common", chain := ["all", "common"] },
  { goName := "MessageOpenDroneIdSystemUpdate", id := 12919, defPkg := "common", chain := ["all", "common"] },
  { goName := "MessageHygrometerSensor", id := 12920, defPkg := "common", chain := ["all", "common"] },
  { goName := "MessageUavionixAdsbOutCfg", id := 10001, defPkg := "uavionix", chain := ["all", "uavionix"] },
  { goName := "MessageUavionixAdsbOutDynamic", id := 10002, defPkg := "uavionix", chain := ["all", "uavionix"] },
  { goName := "MessageUavionixAdsbTransceiverHealthReport", id := 10003, defPkg := "uavionix", chain := ["all", "uavionix"] },
  { goName := "MessageUavionixAdsbOutCfgRegistration", id := 10004, defPkg := "uavionix", chain := ["all", "uavionix"] },
  { goName := "MessageUavionixAdsbOutCfgFlightid", id := 10005, defPkg := "uavionix", chain := ["all", "uavionix"] },
  { goName := "MessageUavionixAdsbGet", id := 10006, defPkg := "uavionix", chain := ["all", "uavionix"] },
  { goName := "MessageUavionixAdsbOutControl", id := 10007, defPkg := "uavionix", chain := ["all", "uavionix"] },
  { goName := "MessageUavionixAdsbOutStatus", id := 10008, defPkg := "uavionix", chain := ["all", "uavionix"] },
  { goName := "MessageIcarousHeartbeat", id := 42000, defPkg := "icarous", chain := ["all", "icarous"] },
  { goName := "MessageIcarousKinematicBands", id := 42001, defPkg := "icarous", chain := ["all", "icarous"] },
  { goName := "MessageLoweheiserGovEfi", id := 10151, defPkg := "loweheiser", chain := ["all", "loweheiser"] }] ++
[
  { goName := "MessageCubepilotRawRc", id := 50001, defPkg := "cubepilot", chain := ["all", "cubepilot"] },
  { goName := "MessageHerelinkVideoStreamInformation", id := 50002, defPkg := "cubepilot", chain := ["all", "cubepilot"] },
  { goName := "MessageHerelinkTelem", id := 50003, defPkg := "cubepilot", chain := ["all", "cubepilot"] },
  { goName := "MessageCubepilotFirmwareUpdateStart", id := 50004, defPkg := "cubepilot", chain := ["all", "cubepilot"] },
  { goName := "MessageCubepilotFirmwareUpdateResp", id := 50005, defPkg := "cubepilot", chain := ["all", "cubepilot"] },
  { goName := "MessageAirlinkAuth", id := 52000, defPkg := "csairlink", chain := ["all", "csairlink"] },
  { goName := "MessageAirlinkAuthResponse", id := 52001, defPkg := "csairlink", chain := ["all", "csairlink"] },
  { goName := "MessageAirlinkEyeGsHolePushRequest", id := 52002, defPkg := "csairlink", chain := ["all", "csairlink"] },
  { goName := "MessageAirlinkEyeGsHolePushResponse", id := 52003, defPkg := "csairlink", chain := ["all", "csairlink"] },
  { goName := "MessageAirlinkEyeHp", id := 52004, defPkg := "csairlink", chain := ["all", "csairlink"] },
  { goName := "MessageAirlinkEyeTurnInit", id := 52005, defPkg := "csairlink", chain := ["all", "csairlink"] },
  { goName := "MessageSensorOffsets", id := 150, defPkg := "ardupilotmega", chain := ["all", "ardupilotmega"] },
  { goName := "MessageSetMagOffsets", id := 151, defPkg := "ardupilotmega", chain := ["all", "ardupilotmega"] },
  { goName := "MessageMeminfo", id := 152, defPkg := "ardupilotmega", chain := ["all", "ardupilotmega"] },
  { goName := "MessageApAdc", id := 153, defPkg := "ardupilotmega", chain := ["all", "ardupilotmega"] },
  { goName := "MessageDigicamConfigure", id := 154, defPkg := "ardupilotmega", chain := ["all", "ardupilotmega"] },
  { goName := "MessageDigicamControl", id := 155, defPkg := "ardupilotmega", chain := ["all", "ardupilotmega"] },
  { goName := "MessageMountConfigure", id := 156, defPkg := "ardupilotmega", chain := ["all", "ardupilotmega"] },
  { goName := "MessageMountControl", id := 157, defPkg := "ardupilotmega", chain := ["all", "ardupilotmega"] },
  { goName := "MessageMountStatus", id := 158, defPkg := "ardupilotmega", chain := ["all", "ardupilotmega"] },
  { goName := "MessageFencePoint", id := 160, defPkg := "ardupilotmega", chain := ["all", "ardupilotmega"] },
  { goName := "MessageFenceFetchPoint", id := 161, defPkg := "ardupilotmega", chain := ["all", "ardupilotmega"] },
  { goName := "MessageAhrs", id := 163, defPkg := "ardupilotmega", chain := ["all", "ardupilotmega"] },
  { goName := "MessageSimstate", id := 164, defPkg := "ardupilotmega", chain := ["all", "ardupilotmega"] },
  { goName := "MessageHwstatus", id := 165, defPkg := "ardupilotmega", chain := ["all", "ardupilotmega"] },
  { goName := "MessageRadio", id := 166, defPkg := "ardupilotmega", chain := ["all", "ardupilotmega"] },
  { goName := "MessageLimitsStatus", id := 167, defPkg := "ardupilotmega", chain := ["all", "ardupilotmega"] },
  { goName := "MessageWind", id := 168, defPkg := "ardupilotmega", chain := ["all", "ardupilotmega"] },
  { goName := "MessageData16", id := 169, defPkg := "ardupilotmega", chain := ["all", "ardupilotmega"] },
  { goName := "MessageData32", id := 170, defPkg := "ardupilotmega", chain := ["all", "ardupilotmega"] }] ++
[
  { goName := "MessageData64", id := 171, defPkg := "ardupilotmega", chain := ["all", "ardupilotmega"] },
  { goName := "MessageData96", id := 172, defPkg := "ardupilotmega", chain := ["all", "ardupilotmega"] },
  { goName := "MessageRangefinder", id := 173, defPkg := "ardupilotmega", chain := ["all", "ardupilotmega"] },
  { goName := "MessageAirspeedAutocal", id := 174, defPkg := "ardupilotmega", chain := ["all", "ardupilotmega"] },
  { goName := "MessageRallyPoint", id := 175, defPkg := "ardupilotmega", chain := ["all", "ardupilotmega"] },
  { goName := "MessageRallyFetchPoint", id := 176, defPkg := "ardupilotmega", chain := ["all", "ardupilotmega"] },
  { goName := "MessageCompassmotStatus", id := 177, defPkg := "ardupilotmega", chain := ["all", "ardupilotmega"] },
  { goName := "MessageAhrs2", id := 178, defPkg := "ardupilotmega", chain := ["all", "ardupilotmega"] },
  { goName := "MessageCameraStatus", id := 179, defPkg := "ardupilotmega", chain := ["all", "ardupilotmega"] },
  { goName := "MessageCameraFeedback", id := 180, defPkg := "ardupilotmega", chain := ["all", "ardupilotmega"] },
  { goName := "MessageBattery2", id := 181, defPkg := "ardupilotmega", chain := ["all", "ardupilotmega"] },
  { goName := "MessageAhrs3", id := 182, defPkg := "ardupilotmega", chain := ["all", "ardupilotmega"] },
  { goName := "MessageAutopilotVersionRequest", id := 183, defPkg := "ardupilotmega", chain := ["all", "ardupilotmega"] },
  { goName := "MessageRemoteLogDataBlock", id := 184, defPkg := "ardupilotmega", chain := ["all", "ardupilotmega"] },
  { goName := "MessageRemoteLogBlockStatus", id := 185, defPkg := "ardupilotmega", chain := ["all", "ardupilotmega"] },
  { goName := "MessageLedControl", id := 186, defPkg := "ardupilotmega", chain := ["all", "ardupilotmega"] },
  { goName := "MessageMagCalProgress", id := 191, defPkg := "ardupilotmega", chain := ["all", "ardupilotmega"] },
  { goName := "MessageEkfStatusReport", id := 193, defPkg := "ardupilotmega", chain := ["all", "ardupilotmega"] },
  { goName := "MessagePidTuning", id := 194, defPkg := "ardupilotmega", chain := ["all", "ardupilotmega"] },
  { goName := "MessageDeepstall", id := 195, defPkg := "ardupilotmega", chain := ["all", "ardupilotmega"] },
  { goName := "MessageGimbalReport", id := 200, defPkg := "ardupilotmega", chain := ["all", "ardupilotmega"] },
  { goName := "MessageGimbalControl", id := 201, defPkg := "ardupilotmega", chain := ["all", "ardupilotmega"] },
  { goName := "MessageGimbalTorqueCmdReport", id := 214, defPkg := "ardupilotmega", chain := ["all", "ardupilotmega"] },
  { goName := "MessageGoproHeartbeat", id := 215, defPkg := "ardupilotmega", chain := ["all", "ardupilotmega"] },
  { goName := "MessageGoproGetRequest", id := 216, defPkg := "ardupilotmega", chain := ["all", "ardupilotmega"] },
  { goName := "MessageGoproGetResponse", id := 217, defPkg := "ardupilotmega", chain := ["all", "ardupilotmega"] },
  { goName := "MessageGoproSetRequest", id := 218, defPkg := "ardupilotmega", chain := ["all", "ardupilotmega"] },
  { goName := "MessageGoproSetResponse", id := 219, defPkg := "ardupilotmega", chain := ["all", "ardupilotmega"] },
  { goName := "MessageRpm", id := 226, defPkg := "ardupilotmega", chain := ["all", "ardupilotmega"] },
  { goName := "MessageDeviceOpRead", id := 11000, defPkg := "ardupilotmega", chain := ["all", "ardupilotmega"] }] ++
[
  { goName := "MessageDeviceOpReadReply", id := 11001, defPkg := "ardupilotmega", chain := ["all", "ardupilotmega"] },
  { goName := "MessageDeviceOpWrite", id := 11002, defPkg := "ardupilotmega", chain := ["all", "ardupilotmega"] },
  { goName := "MessageDeviceOpWriteReply", id := 11003, defPkg := "ardupilotmega", chain := ["all", "ardupilotmega"] },
  { goName := "MessageSecureCommand", id := 11004, defPkg := "ardupilotmega", chain := ["all", "ardupilotmega"] },
  { goName := "MessageSecureCommandReply", id := 11005, defPkg := "ardupilotmega", chain := ["all", "ardupilotmega"] },
  { goName := "MessageAdapTuning", id := 11010, defPkg := "ardupilotmega", chain := ["all", "ardupilotmega"] },
  { goName := "MessageVisionPositionDelta", id := 11011, defPkg := "ardupilotmega", chain := ["all", "ardupilotmega"] },
  { goName := "MessageAoaSsa", id := 11020, defPkg := "ardupilotmega", chain := ["all", "ardupilotmega"] },
  { goName := "MessageEscTelemetry_1To_4", id := 11030, defPkg := "ardupilotmega", chain := ["all", "ardupilotmega"] },
  { goName := "MessageEscTelemetry_5To_8", id := 11031, defPkg := "ardupilotmega", chain := ["all", "ardupilotmega"] },
  { goName := "MessageEscTelemetry_9To_12", id := 11032, defPkg := "ardupilotmega", chain := ["all", "ardupilotmega"] },
  { goName := "MessageOsdParamConfig", id := 11033, defPkg := "ardupilotmega", chain := ["all", "ardupilotmega"] },
  { goName := "MessageOsdParamConfigReply", id := 11034, defPkg := "ardupilotmega", chain := ["all", "ardupilotmega"] },
  { goName := "MessageOsdParamShowConfig", id := 11035, defPkg := "ardupilotmega", chain := ["all", "ardupilotmega"] },
  { goName := "MessageOsdParamShowConfigReply", id := 11036, defPkg := "ardupilotmega", chain := ["all", "ardupilotmega"] },
  { goName := "MessageObstacleDistance_3d", id := 11037, defPkg := "ardupilotmega", chain := ["all", "ardupilotmega"] },
  { goName := "MessageWaterDepth", id := 11038, defPkg := "ardupilotmega", chain := ["all", "ardupilotmega"] },
  { goName := "MessageMcuStatus", id := 11039, defPkg := "ardupilotmega", chain := ["all", "ardupilotmega"] },
  { goName := "MessageEscTelemetry_13To_16", id := 11040, defPkg := "ardupilotmega", chain := ["all", "ardupilotmega"] },
  { goName := "MessageEscTelemetry_17To_20", id := 11041, defPkg := "ardupilotmega", chain := ["all", "ardupilotmega"] },
  { goName := "MessageEscTelemetry_21To_24", id := 11042, defPkg := "ardupilotmega", chain := ["all", "ardupilotmega"] },
  { goName := "MessageEscTelemetry_25To_28", id := 11043, defPkg := "ardupilotmega", chain := ["all", "ardupilotmega"] },
  { goName := "MessageEscTelemetry_29To_32", id := 11044, defPkg := "ardupilotmega", chain := ["all", "ardupilotmega"] },
  { goName := "MessageCommandIntStamped", id := 223, defPkg := "asluav", chain := ["all", "asluav"] },
  { goName := "MessageCommandLongStamped", id := 224, defPkg := "asluav", chain := ["all", "asluav"] },
  { goName := "MessageSensPower", id := 8002, defPkg := "asluav", chain := ["all", "asluav"] },
  { goName := "MessageSensMppt", id := 8003, defPkg := "asluav", chain := ["all", "asluav"] },
  { goName := "MessageAslctrlData", id := 8004, defPkg := "asluav", chain := ["all", "asluav"] },
  { goName := "MessageAslctrlDebug", id := 8005, defPkg := "asluav", chain := ["all", "asluav"] },
  { goName := "MessageAsluavStatus", id := 8006, defPkg := "asluav", chain := ["all", "asluav"] }] ++
[
  { goName := "MessageEkfExt", id := 8007, defPkg := "asluav", chain := ["all", "asluav"] },
  { goName := "MessageAslObctrl", id := 8008, defPkg := "asluav", chain := ["all", "asluav"] },
  { goName := "MessageSensAtmos", id := 8009, defPkg := "asluav", chain := ["all", "asluav"] },
  { goName := "MessageSensBatmon", id := 8010, defPkg := "asluav", chain := ["all", "asluav"] },
  { goName := "MessageFwSoaringData", id := 8011, defPkg := "asluav", chain := ["all", "asluav"] },
  { goName := "MessageSensorpodStatus", id := 8012, defPkg := "asluav", chain := ["all", "asluav"] },
  { goName := "MessageSensPowerBoard", id := 8013, defPkg := "asluav", chain := ["all", "asluav"] },
  { goName := "MessageGsmLinkStatus", id := 8014, defPkg := "asluav", chain := ["all", "asluav"] },
  { goName := "MessageSatcomLinkStatus", id := 8015, defPkg := "asluav", chain := ["all", "asluav"] },
  { goName := "MessageSensorAirflowAngles", id := 8016, defPkg := "asluav", chain := ["all", "asluav"] },
  { goName := "MessageAirspeed", id := 295, defPkg := "development", chain := ["all", "development"] },
  { goName := "MessageSetVelocityLimits", id := 354, defPkg := "development", chain := ["all", "development"] },
  { goName := "MessageVelocityLimits", id := 355, defPkg := "development", chain := ["all", "development"] },
  { goName := "MessageFigureEightExecutionStatus", id := 361, defPkg := "development", chain := ["all", "development"] },
  { goName := "MessageBatteryStatusV2", id := 369, defPkg := "development", chain := ["all", "development"] },
  { goName := "MessageGroupStart", id := 414, defPkg := "development", chain := ["all", "development"] },
  { goName := "MessageGroupEnd", id := 415, defPkg := "development", chain := ["all", "development"] },
  { goName := "MessageRadioRcChannels", id := 420, defPkg := "development", chain := ["all", "development"] },
  { goName := "MessageGnssIntegrity", id := 441, defPkg := "development", chain := ["all", "development"] },
  { goName := "MessageTargetAbsolute", id := 510, defPkg := "development", chain := ["all", "development"] },
  { goName := "MessageTargetRelative", id := 511, defPkg := "development", chain := ["all", "development"] },
  { goName := "MessageControlStatus", id := 512, defPkg := "development", chain := ["all", "development"] },
  { goName := "MessageArrayTest_0", id := 17150, defPkg := "pythonarraytest", chain := ["all", "pythonarraytest"] },
  { goName := "MessageArrayTest_1", id := 17151, defPkg := "pythonarraytest", chain := ["all", "pythonarraytest"] },
  { goName := "MessageArrayTest_3", id := 17153, defPkg := "pythonarraytest", chain := ["all", "pythonarraytest"] },
  { goName := "MessageArrayTest_4", id := 17154, defPkg := "pythonarraytest", chain := ["all", "pythonarraytest"] },
  { goName := "MessageArrayTest_5", id := 17155, defPkg := "pythonarraytest", chain := ["all", "pythonarraytest"] },
  { goName := "MessageArrayTest_6", id := 17156, defPkg := "pythonarraytest", chain := ["all", "pythonarraytest"] },
  { goName := "MessageArrayTest_7", id := 17157, defPkg := "pythonarraytest", chain := ["all", "pythonarraytest"] },
  { goName := "MessageArrayTest_8", id := 17158, defPkg := "pythonarraytest", chain := ["all", "pythonarraytest"] }] ++
[
  { goName := "MessageTestTypes", id := 17000, defPkg := "test", chain := ["all", "test"] },
  { goName := "MessageNavFilterBias", id := 220, defPkg := "ualberta", chain := ["all", "ualberta"] },
  { goName := "MessageRadioCalibration", id := 221, defPkg := "ualberta", chain := ["all", "ualberta"] },
  { goName := "MessageUalbertaSysStatus", id := 222, defPkg := "ualberta", chain := ["all", "ualberta"] },
  { goName := "MessageStorm32GimbalManagerInformation", id := 60010, defPkg := "storm32", chain := ["all", "storm32"] },
  { goName := "MessageStorm32GimbalManagerStatus", id := 60011, defPkg := "storm32", chain := ["all", "storm32"] },
  { goName := "MessageStorm32GimbalManagerControl", id := 60012, defPkg := "storm32", chain := ["all", "storm32"] },
  { goName := "MessageStorm32GimbalManagerControlPitchyaw", id := 60013, defPkg := "storm32", chain := ["all", "storm32"] },
  { goName := "MessageStorm32GimbalManagerCorrectRoll", id := 60014, defPkg := "storm32", chain := ["all", "storm32"] },
  { goName := "MessageQshotStatus", id := 60020, defPkg := "storm32", chain := ["all", "storm32"] },
  { goName := "MessageFrskyPassthroughArray", id := 60040, defPkg := "storm32", chain := ["all", "storm32"] },
  { goName := "MessageParamValueArray", id := 60041, defPkg := "storm32", chain := ["all", "storm32"] },
  { goName := "MessageAvssPrsSysStatus", id := 60050, defPkg := "avssuas", chain := ["all", "avssuas"] },
  { goName := "MessageAvssDronePosition", id := 60051, defPkg := "avssuas", chain := ["all", "avssuas"] },
  { goName := "MessageAvssDroneImu", id := 60052, defPkg := "avssuas", chain := ["all", "avssuas"] },
  { goName := "MessageAvssDroneOperationMode", id := 60053, defPkg := "avssuas", chain := ["all", "avssuas"] }] }

/-- the message ids of dialect all, in the order of its message list -/
def ids_all : List Nat := [0, 300, 1, 2, 4, 5, 6, 7, 8, 11, 20, 21, 22, 23, 24, 25, 26, 27, 28, 29, 30, 31, 32, 33, 34, 35, 36, 37, 38, 39, 40, 41, 42, 43, 44, 45, 46, 47, 48, 49] ++ [50, 51, 54, 55, 61, 62, 63, 64, 65, 66, 67, 69, 70, 73, 74, 75, 76, 77, 80, 81, 82, 83, 84, 85, 86, 87, 89, 90, 91, 92, 93, 100, 101, 102, 103, 104, 105, 106, 107, 108] ++ [109, 110, 111, 112, 113, 114, 115, 116, 117, 118, 119, 120, 121, 122, 123, 124, 125, 126, 127, 128, 129, 130, 131, 132, 133, 134, 135, 136, 137, 138, 139, 140, 141, 142, 143, 144, 146, 147, 148, 149] ++ [162, 192, 225, 230, 231, 232, 233, 234, 235, 241, 242, 243, 244, 245, 246, 247, 248, 249, 250, 251, 252, 253, 254, 256, 257, 258, 259, 260, 261, 262, 263, 264, 265, 266, 267, 268, 269, 270, 271, 275] ++ [276, 277, 280, 281, 282, 283, 284, 285, 286, 287, 288, 290, 291, 299, 301, 310, 311, 320, 321, 322, 323, 324, 330, 331, 332, 333, 334, 335, 336, 339, 340, 350, 360, 370, 371, 372, 373, 375, 380, 385] ++ [386, 390, 395, 396, 397, 400, 401, 410, 411, 412, 413, 435, 436, 437, 440, 387, 388, 9000, 9005, 12900, 12901, 12902, 12903, 12904, 12905, 12915, 12918, 12919, 12920, 10001, 10002, 10003, 10004, 10005, 10006, 10007, 10008, 42000, 42001, 10151] ++ [50001, 50002, 50003, 50004, 50005, 52000, 52001, 52002, 52003, 52004, 52005, 150, 151, 152, 153, 154, 155, 156, 157, 158, 160, 161, 163, 164, 165, 166, 167, 168, 169, 170, 171, 172, 173, 174, 175, 176, 177, 178, 179, 180] ++ [181, 182, 183, 184, 185, 186, 191, 193, 194, 195, 200, 201, 214, 215, 216, 217, 218, 219, 226, 11000, 11001, 11002, 11003, 11004, 11005, 11010, 11011, 11020, 11030, 11031, 11032, 11033, 11034, 11035, 11036, 11037, 11038, 11039, 11040, 11041] ++ [11042, 11043, 11044, 223, 224, 8002, 8003, 8004, 8005, 8006, 8007, 8008, 8009, 8010, 8011, 8012, 8013, 8014, 8015, 8016, 295, 354, 355, 361, 369, 414, 415, 420, 441, 510, 511, 512, 17150, 17151, 17153, 17154, 17155, 17156, 17157, 17158] ++ [17000, 220, 221, 222, 60010, 60011, 60012, 60013, 60014, 60020, 60040, 60041, 60050, 60051, 60052, 60053]

def dialect_ardupilotmega : Dialect := { name := "ardupilotmega", version := 3, msgs :=
[
  { goName := "MessageHeartbeat", id := 0, defPkg := "minimal", chain := ["ardupilotmega", "minimal"] },
  { goName := "MessageProtocolVersion", id := 300, defPkg := "minimal", chain := ["ardupilotmega", "minimal"] },
  { goName := "MessageSysStatus", id := 1, defPkg := "common", chain := ["ardupilotmega", "common"] },
  { goName := "MessageSystemTime", id := 2, defPkg := "common", chain := ["ardupilotmega", "common"] },
  { goName := "MessagePing", id := 4, defPkg := "common", chain := ["ardupilotmega", "common"] },
  { goName := "MessageChangeOperatorControl", id := 5, defPkg := "common", chain := ["ardupilotmega", "common"] },
  { goName := "MessageChangeOperatorControlAck", id := 6, defPkg := "common", chain := ["ardupilotmega", "common"] },
  { goName := "MessageAuthKey", id := 7, defPkg := "common", chain := ["ardupilotmega", "common"] },
  { goName := "MessageLinkNodeStatus", id := 8, defPkg := "common", chain := ["ardupilotmega", "common"] },
  { goName := "MessageSetMode", id := 11, defPkg := "common", chain := ["ardupilotmega", "common"] },
  { goName := "MessageParamRequestRead", id := 20, defPkg := "common", chain := ["ardupilotmega", "common"] },
  { goName := "MessageParamRequestList", id := 21, defPkg := "common", chain := ["ardupilotmega", "common"] },
  { goName := "MessageParamValue", id := 22, defPkg := "common", chain := ["ardupilotmega", "common"] },
  { goName := "MessageParamSet", id := 23, defPkg := "common", chain := ["ardupilotmega", "common"] },
  { goName := "MessageGpsRawInt", id := 24, defPkg := "common", chain := ["ardupilotmega", "common"] },
  { goName := "MessageGpsStatus", id := 25, defPkg := "common", chain := ["ardupilotmega", "common"] },
  { goName := "MessageScaledImu", id := 26, defPkg := "common", chain := ["ardupilotmega", "common"] },
  { goName := "MessageRawImu", id := 27, defPkg := "common", chain := ["ardupilotmega", "common"] },
  { goName := "MessageRawPressure", id := 28, defPkg := "common", chain := ["ardupilotmega", "common"] },
  { goName := "MessageScaledPressure", id := 29, defPkg := "common", chain := ["ardupilotmega", "common"] },
  { goName := "MessageAttitude", id := 30, defPkg := "common", chain := ["ardupilotmega", "common"] },
  { goName := "MessageAttitudeQuaternion", id := 31, defPkg := "common", chain := ["ardupilotmega", "common"] },
  { goName := "MessageLocalPositionNed", id := 32, defPkg := "common", chain := ["ardupilotmega", "common"] },
  { goName := "MessageGlobalPositionInt", id := 33, defPkg := "common", chain := ["ardupilotmega", "common"] },
  { goName := "MessageRcChannelsScaled", id := 34, defPkg := "common", chain := ["ardupilotmega", "common"] },
  { goName := "MessageRcChannelsRaw", id := 35, defPkg := "common", chain := ["ardupilotmega", "common"] },
  { goName := "MessageServoOutputRaw", id := 36, defPkg := "common", chain := ["ardupilotmega", "common"] },
  { goName := "MessageMissionRequestPartialList", id := 37, defPkg := "common", chain := ["ardupilotmega", "common"] },
  { goName := "MessageMissionWritePartialList", id := 38, defPkg := "common", chain := ["ardupilotmega", "common"] },
  { goName := "MessageMissionItem", id := 39, defPkg := "common", chain := ["ardupilotmega", "common"] }] ++
[
  { goName := "MessageMissionRequest", id := 40, defPkg := "common", chain := ["ardupilotmega", "common"] },
  { goName := "MessageMissionSetCurrent", id := 41, defPkg := "common", chain := ["ardupilotmega", "common"] },
  { goName := "MessageMissionCurrent", id := 42, defPkg := "common", chain := ["ardupilotmega", "common"] },
  { goName := "MessageMissionRequestList", id := 43, defPkg := "common", chain := ["ardupilotmega", "common"] },
  { goName := "MessageMissionCount", id := 44, defPkg := "common", chain := ["ardupilotmega", "common"] },
  { goName := "MessageMissionClearAll", id := 45, defPkg := "common", chain := ["ardupilotmega", "common"] },
  { goName := "MessageMissionItemReached", id := 46, defPkg := "common", chain := ["ardupilotmega", "common"] },
  { goName := "MessageMissionAck", id := 47, defPkg := "common", chain := ["ardupilotmega", "common"] },
  { goName := "MessageSetGpsGlobalOrigin", id := 48, defPkg := "common", chain := ["ardupilotmega", "common"] },
  { goName := "MessageGpsGlobalOrigin", id := 49, defPkg := "common", chain := ["ardupilotmega", "common"] },
  { goName := "MessageParamMapRc", id := 50, defPkg := "common", chain := ["ardupilotmega", "common"] },
  { goName := "MessageMissionRequestInt", id := 51, defPkg := "common", chain := ["ardupilotmega", "common"] },
  { goName := "MessageSafetySetAllowedArea", id := 54, defPkg := "common", chain := ["ardupilotmega", "common"] },
  { goName := "MessageSafetyAllowedArea", id := 55, defPkg := "common", chain := ["ardupilotmega", "common"] },
  { goName := "MessageAttitudeQuaternionCov", id := 61, defPkg := "common", chain := ["ardupilotmega", "common"] },
  { goName := "MessageNavControllerOutput", id := 62, defPkg := "common", chain := ["ardupilotmega", "common"] },
  { goName := "MessageGlobalPositionIntCov", id := 63, defPkg := "common", chain := ["ardupilotmega", "common"] },
  { goName := "MessageLocalPositionNedCov", id := 64, defPkg := "common", chain := ["ardupilotmega", "common"] },
  { goName := "MessageRcChannels", id := 65, defPkg := "common", chain := ["ardupilotmega", "common"] },
  { goName := "MessageRequestDataStream", id := 66, defPkg := "common", chain := ["ardupilotmega", "common"] },
  { goName := "MessageDataStream", id := 67, defPkg := "common", chain := ["ardupilotmega", "common"] },
  { goName := "MessageManualControl", id := 69, defPkg := "common", chain := ["ardupilotmega", "common"] },
  { goName := "MessageRcChannelsOverride", id := 70, defPkg := "common", chain := ["ardupilotmega", "common"] },
  { goName := "MessageMissionItemInt", id := 73, defPkg := "common", chain := ["ardupilotmega", "common"] },
  { goName := "MessageVfrHud", id := 74, defPkg := "common", chain := ["ardupilotmega", "common"] },
  { goName := "MessageCommandInt", id := 75, defPkg := "common", chain := ["ardupilotmega", "common"] },
  { goName := "MessageCommandLong", id := 76, defPkg := "common", chain := ["ardupilotmega", "common"] },
  { goName := "MessageCommandAck", id := 77, defPkg := "common", chain := ["ardupilotmega", "common"] },
  { goName := "MessageCommandCancel", id := 80, defPkg := "common", chain := ["ardupilotmega", "common"] },
  { goName := "MessageManualSetpoint", id := 81, defPkg := "common", chain := ["ardupilotmega", "common"] }] ++
[
  { goName := "MessageSetAttitudeTarget", id := 82, defPkg := "common", chain := ["ardupilotmega", "common"] },
  { goName := "MessageAttitudeTarget", id := 83, defPkg := "common", chain := ["ardupilotmega", "common"] },
  { goName := "MessageSetPositionTargetLocalNed", id := 84, defPkg := "common", chain := ["ardupilotmega", "common"] },
  { goName := "MessagePositionTargetLocalNed", id := 85, defPkg := "common", chain := ["ardupilotmega", "common"] },
  { goName := "MessageSetPositionTargetGlobalInt", id := 86, defPkg := "common", chain := ["ardupilotmega", "common"] },
  { goName := "MessagePositionTargetGlobalInt", id := 87, defPkg := "common", chain := ["ardupilotmega", "common"] },
  { goName := "MessageLocalPositionNedSystemGlobalOffset", id := 89, defPkg := "common", chain := ["ardupilotmega", "common"] },
  { goName := "MessageHilState", id := 90, defPkg := "common", chain := ["ardupilotmega", "common"] },
  { goName := "MessageHilControls", id := 91, defPkg := "common", chain := ["ardupilotmega", "common"] },
  { goName := "MessageHilRcInputsRaw", id := 92, defPkg := "common", chain := ["ardupilotmega", "common"] },
  { goName := "MessageHilActuatorControls", id := 93, defPkg := "common", chain := ["ardupilotmega", "common"] },
  { goName := "MessageOpticalFlow", id := 100, defPkg := "common", chain := ["ardupilotmega", "common"] },
  { goName := "MessageGlobalVisionPositionEstimate", id := 101, defPkg := "common", chain := ["ardupilotmega", "common"] },
  { goName := "MessageVisionPositionEstimate", id := 102, defPkg := "common", chain := ["ardupilotmega", "common"] },
  { goName := "MessageVisionSpeedEstimate", id := 103, defPkg := "common", chain := ["ardupilotmega", "common"] },
  { goName := "MessageViconPositionEstimate", id := 104, defPkg := "common", chain := ["ardupilotmega", "common"] },
  { goName := "MessageHighresImu", id := 105, defPkg := "common", chain := ["ardupilotmega", "common"] },
  { goName := "MessageOpticalFlowRad", id := 106, defPkg := "common", chain := ["ardupilotmega", "common"] },
  { goName := "MessageHilSensor", id := 107, defPkg := "common", chain := ["ardupilotmega", "common"] },
  { goName := "MessageSimState", id := 108, defPkg := "common", chain := ["ardupilotmega", "common"] },
  { goName := "MessageRadioStatus", id := 109, defPkg := "common", chain := ["ardupilotmega", "common"] },
  { goName := "MessageFileTransferProtocol", id := 110, defPkg := "common", chain := ["ardupilotmega", "common"] },
  { goName := "MessageTimesync", id := 111, defPkg := "common", chain := ["ardupilotmega", "common"] },
  { goName := "MessageCameraTrigger", id := 112, defPkg := "common", chain := ["ardupilotmega", "common"] },
  { goName := "MessageHilGps", id := 113, defPkg := "common", chain := ["ardupilotmega", "common"] },
  { goName := "MessageHilOpticalFlow", id := 114, defPkg := "common", chain := ["ardupilotmega", "common"] },
  { goName := "MessageHilStateQuaternion", id := 115, defPkg := "common", chain := ["ardupilotmega", "common"] },
  { goName := "MessageScaledImu2", id := 116, defPkg := "common", chain := ["ardupilotmega", "common"] },
  { goName := "MessageLogRequestList", id := 117, defPkg := "common", chain := ["ardupilotmega", "common"] },
  { goName := "MessageLogEntry", id := 118, defPkg := "common", chain := ["ardupilotmega", "common"] }] ++
[
  { goName := "MessageLogRequestData", id := 119, defPkg := "common", chain := ["ardupilotmega", "common"] },
  { goName := "MessageLogData", id := 120, defPkg := "common", chain := ["ardupilotmega", "common"] },
  { goName := "MessageLogErase", id := 121, defPkg := "common", chain := ["ardupilotmega", "common"] },
  { goName := "MessageLogRequestEnd", id := 122, defPkg := "common", chain := ["ardupilotmega", "common"] },
  { goName := "MessageGpsInjectData", id := 123, defPkg := "common", chain := ["ardupilotmega", "common"] },
  { goName := "MessageGps2Raw", id := 124, defPkg := "common", chain := ["ardupilotmega", "common"] },
  { goName := "MessagePowerStatus", id := 125, defPkg := "common", chain := ["ardupilotmega", "common"] },
  { goName := "MessageSerialControl", id := 126, defPkg := "common", chain := ["ardupilotmega", "common"] },
  { goName := "MessageGpsRtk", id := 127, defPkg := "common", chain := ["ardupilotmega", "common"] },
  { goName := "MessageGps2Rtk", id := 128, defPkg := "common", chain := ["ardupilotmega", "common"] },
  { goName := "MessageScaledImu3", id := 129, defPkg := "common", chain := ["ardupilotmega", "common"] },
  { goName := "MessageDataTransmissionHandshake", id := 130, defPkg := "common", chain := ["ardupilotmega", "common"] },
  { goName := "MessageEncapsulatedData", id := 131, defPkg := "common", chain := ["ardupilotmega", "common"] },
  { goName := "MessageDistanceSensor", id := 132, defPkg := "common", chain := ["ardupilotmega", "common"] },
  { goName := "MessageTerrainRequest", id := 133, defPkg := "common", chain := ["ardupilotmega", "common"] },
  { goName := "MessageTerrainData", id := 134, defPkg := "common", chain := ["ardupilotmega", "common"] },
  { goName := "MessageTerrainCheck", id := 135, defPkg := "common", chain := ["ardupilotmega", "common"] },
  { goName := "MessageTerrainReport", id := 136, defPkg := "common", chain := ["ardupilotmega", "common"] },
  { goName := "MessageScaledPressure2", id := 137, defPkg := "common", chain := ["ardupilotmega", "common"] },
  { goName := "MessageAttPosMocap", id := 138, defPkg := "common", chain := ["ardupilotmega", "common"] },
  { goName := "MessageSetActuatorControlTarget", id := 139, defPkg := "common", chain := ["ardupilotmega", "common"] },
  { goName := "MessageActuatorControlTarget", id := 140, defPkg := "common", chain := ["ardupilotmega", "common"] },
  { goName := "MessageAltitude", id := 141, defPkg := "common", chain := ["ardupilotmega", "common"] },
  { goName := "MessageResourceRequest", id := 142, defPkg := "common", chain := ["ardupilotmega", "common"] },
  { goName := "MessageScaledPressure3", id := 143, defPkg := "common", chain := ["ardupilotmega", "common"] },
  { goName := "MessageFollowTarget", id := 144, defPkg := "common", chain := ["ardupilotmega", "common"] },
  { goName := "MessageControlSystemState", id := 146, defPkg := "common", chain := ["ardupilotmega", "common"] },
  { goName := "MessageBatteryStatus", id := 147, defPkg := "common", chain := ["ardupilotmega", "common"] },
  { goName := "MessageAutopilotVersion", id := 148, defPkg := "common", chain := ["ardupilotmega", "common"] },
  { goName := "MessageLandingTarget", id := 149, defPkg := "common", chain := ["ardupilotmega", "common"] }] ++
[
  { goName := "MessageFenceStatus", id := 162, defPkg := "common", chain := ["ardupilotmega", "common"] },
  { goName := "MessageMagCalReport", id := 192, defPkg := "common", chain := ["ardupilotmega", "common"] },
  { goName := "MessageEfiStatus", id := 225, defPkg := "common", chain := ["ardupilotmega", "common"] },
  { goName := "MessageEstimatorStatus", id := 230, defPkg := "common", chain := ["ardupilotmega", "common"] },
  { goName := "MessageWindCov", id := 231, defPkg := "common", chain := ["ardupilotmega", "common"] },
  { goName := "MessageGpsInput", id := 232, defPkg := "common", chain := ["ardupilotmega", "common"] },
  { goName := "MessageGpsRtcmData", id := 233, defPkg := "common", chain := ["ardupilotmega", "common"] },
  { goName := "MessageHighLatency", id := 234, defPkg := "common", chain := ["ardupilotmega", "common"] },
  { goName := "MessageHighLatency2", id := 235, defPkg := "common", chain := ["ardupilotmega", "common"] },
  { goName := "MessageVibration", id := 241, defPkg := "common", chain := ["ardupilotmega", "common"] },
  { goName := "MessageHomePosition", id := 242, defPkg := "common", chain := ["ardupilotmega", "common"] },
  { goName := "MessageSetHomePosition", id := 243, defPkg := "common", chain := ["ardupilotmega", "common"] },
  { goName := "MessageMessageInterval", id := 244, defPkg := "common", chain := ["ardupilotmega", "common"] },
  { goName := "MessageExtendedSysState", id := 245, defPkg := "common", chain := ["ardupilotmega", "common"] },
  { goName := "MessageAdsbVehicle", id := 246, defPkg := "common", chain := ["ardupilotmega", "common"] },
  { goName := "MessageCollision", id := 247, defPkg := "common", chain := ["ardupilotmega", "common"] },
  { goName := "MessageV2Extension", id := 248, defPkg := "common", chain := ["ardupilotmega", "common"] },
  { goName := "MessageMemoryVect", id := 249, defPkg := "common", chain := ["ardupilotmega", "common"] },
  { goName := "MessageDebugVect", id := 250, defPkg := "common", chain := ["ardupilotmega", "common"] },
  { goName := "MessageNamedValueFloat", id := 251, defPkg := "common", chain := ["ardupilotmega", "common"] },
  { goName := "MessageNamedValueInt", id := 252, defPkg := "common", chain := ["ardupilotmega", "common"] },
  { goName := "MessageStatustext", id := 253, defPkg := "common", chain := ["ardupilotmega", "common"] },
  { goName := "MessageDebug", id := 254, defPkg := "common", chain := ["ardupilotmega", "common"] },
  { goName := "MessageSetupSigning", id := 256, defPkg := "common", chain := ["ardupilotmega", "common"] },
  { goName := "MessageButtonChange", id := 257, defPkg := "common", chain := ["ardupilotmega", "common"] },
  { goName := "MessagePlayTune", id := 258, defPkg := "common", chain := ["ardupilotmega", "common"] },
  { goName := "MessageCameraInformation", id := 259, defPkg := "common", chain := ["ardupilotmega", "common"] },
  { goName := "MessageCameraSettings", id := 260, defPkg := "common", chain := ["ardupilotmega", "common"] },
  { goName := "MessageStorageInformation", id := 261, defPkg := "common", chain := ["ardupilotmega", "common"] },
  { goName := "MessageCameraCaptureStatus", id := 262, defPkg := "common", chain := ["ardupilotmega", "common"] }] ++
[
  { goName := "MessageCameraImageCaptured", id := 263, defPkg := "common", chain := ["ardupilotmega", "common"] },
  { goName := "MessageFlightInformation", id := 264, defPkg := "common", chain := ["ardupilotmega", "common"] },
  { goName := "MessageMountOrientation", id := 265, defPkg := "common", chain := ["ardupilotmega", "common"] },
  { goName := "MessageLoggingData", id := 266, defPkg := "common", chain := ["ardupilotmega", "common"] },
  { goName := "MessageLoggingDataAcked", id := 267, defPkg := "common", chain := ["ardupilotmega", "common"] },
  { goName := "MessageLoggingAck", id := 268, defPkg := "common", chain := ["ardupilotmega", "common"] },
  { goName := "MessageVideoStreamInformation", id := 269, defPkg := "common", chain := ["ardupilotmega", "common"] },
  { goName := "MessageVideoStreamStatus", id := 270, defPkg := "common", chain := ["ardupilotmega", "common"] },
  { goName := "MessageCameraFovStatus", id := 271, defPkg := "common", chain := ["ardupilotmega", "common"] },
  { goName := "MessageCameraTrackingImageStatus", id := 275, defPkg := "common", chain := ["ardupilotmega", "common"] },
  { goName := "MessageCameraTrackingGeoStatus", id := 276, defPkg := "common", chain := ["ardupilotmega", "common"] },
  { goName := "MessageCameraThermalRange", id := 277, defPkg := "common", chain := ["ardupilotmega", "common"] },
  { goName := "MessageGimbalManagerInformation", id := 280, defPkg := "common", chain := ["ardupilotmega", "common"] },
  { goName := "MessageGimbalManagerStatus", id := 281, defPkg := "common", chain := ["ardupilotmega", "common"] },
  { goName := "MessageGimbalManagerSetAttitude", id := 282, defPkg := "common", chain := ["ardupilotmega", "common"] },
  { goName := "MessageGimbalDeviceInformation", id := 283, defPkg := "common", chain := ["ardupilotmega", "common"] },
  { goName := "MessageGimbalDeviceSetAttitude", id := 284, defPkg := "common", chain := ["ardupilotmega", "common"] },
  { goName := "MessageGimbalDeviceAttitudeStatus", id := 285, defPkg := "common", chain := ["ardupilotmega", "common"] },
  { goName := "MessageAutopilotStateForGimbalDevice", id := 286, defPkg := "common", chain := ["ardupilotmega", "common"] },
  { goName := "MessageGimbalManagerSetPitchyaw", id := 287, defPkg := "common", chain := ["ardupilotmega", "common"] },
  { goName := "MessageGimbalManagerSetManualControl", id := 288, defPkg := "common", chain := ["ardupilotmega", "common"] },
  { goName := "MessageEscInfo", id := 290, defPkg := "common", chain := ["ardupilotmega", "common"] },
  { goName := "MessageEscStatus", id := 291, defPkg := "common", chain := ["ardupilotmega", "common"] },
  { goName := "MessageWifiConfigAp", id := 299, defPkg := "common", chain := ["ardupilotmega", "common"] },
  { goName := "MessageAisVessel", id := 301, defPkg := "common", chain := ["ardupilotmega", "common"] },
  { goName := "MessageUavcanNodeStatus", id := 310, defPkg := "common", chain := ["ardupilotmega", "common"] },
  { goName := "MessageUavcanNodeInfo", id := 311, defPkg := "common", chain := ["ardupilotmega", "common"] },
  { goName := "MessageParamExtRequestRead", id := 320, defPkg := "common", chain := ["ardupilotmega", "common"] },
  { goName := "MessageParamExtRequestList", id := 321, defPkg := "common", chain := ["ardupilotmega", "common"] },
  { goName := "MessageParamExtValue", id := 322, defPkg := "common", chain := ["ardupilotmega", "common"] }] ++
[
  { goName := "MessageParamExtSet", id := 323, defPkg := "common", chain := ["ardupilotmega", "common"] },
  { goName := "MessageParamExtAck", id := 324, defPkg := "common", chain := ["ardupilotmega", "common"] },
  { goName := "MessageObstacleDistance", id := 330, defPkg := "common", chain := ["ardupilotmega", "common"] },
  { goName := "MessageOdometry", id := 331, defPkg := "common", chain := ["ardupilotmega", "common"] },
  { goName := "MessageTrajectoryRepresentationWaypoints", id := 332, defPkg := "common", chain := ["ardupilotmega", "common"] },
  { goName := "MessageTrajectoryRepresentationBezier", id := 333, defPkg := "common", chain := ["ardupilotmega", "common"] },
  { goName := "MessageCellularStatus", id := 334, defPkg := "common", chain := ["ardupilotmega", "common"] },
  { goName := "MessageIsbdLinkStatus", id := 335, defPkg := "common", chain := ["ardupilotmega", "common"] },
  { goName := "MessageCellularConfig", id := 336, defPkg := "common", chain := ["ardupilotmega", "common"] },
  { goName := "MessageRawRpm", id := 339, defPkg := "common", chain := ["ardupilotmega", "common"] },
  { goName := "MessageUtmGlobalPosition", id := 340, defPkg := "common", chain := ["ardupilotmega", "common"] },
  { goName := "MessageDebugFloatArray", id := 350, defPkg := "common", chain := ["ardupilotmega", "common"] },
  { goName := "MessageOrbitExecutionStatus", id := 360, defPkg := "common", chain := ["ardupilotmega", "common"] },
  { goName := "MessageSmartBatteryInfo", id := 370, defPkg := "common", chain := ["ardupilotmega", "common"] },
  { goName := "MessageFuelStatus", id := 371, defPkg := "common", chain := ["ardupilotmega", "common"] },
  { goName := "MessageBatteryInfo", id := 372, defPkg := "common", chain := ["ardupilotmega", "common"] },
  { goName := "MessageGeneratorStatus", id := 373, defPkg := "common", chain := ["ardupilotmega", "common"] },
  { goName := "MessageActuatorOutputStatus", id := 375, defPkg := "common", chain := ["ardupilotmega", "common"] },
  { goName := "MessageTimeEstimateToTarget", id := 380, defPkg := "common", chain := ["ardupilotmega", "common"] },
  { goName := "MessageTunnel", id := 385, defPkg := "common", chain := ["ardupilotmega", "common"] },
  { goName := "MessageCanFrame", id := 386, defPkg := "common", chain := ["ardupilotmega", "common"] },
  { goName := "MessageOnboardComputerStatus", id := 390, defPkg := "common", chain := ["ardupilotmega", "common"] },
  { goName := "MessageComponentInformation", id := 395, defPkg := "common", chain := ["ardupilotmega", "common"] },
  { goName := "MessageComponentInformationBasic", id := 396, defPkg := "common", chain := ["ardupilotmega", "common"] },
  { goName := "MessageComponentMetadata", id := 397, defPkg := "common", chain := ["ardupilotmega", "common"] },
  { goName := "MessagePlayTuneV2", id := 400, defPkg := "common", chain := ["ardupilotmega", "common"] },
  { goName := "MessageSupportedTunes", id := 401, defPkg := "common", chain := ["ardupilotmega", "common"] },
  { goName := "MessageEvent", id := 410, defPkg := "common", chain := ["ardupilotmega", "common"] },
  { goName := "MessageCurrentEventSequence", id := 411, defPkg := "common", chain := ["ardupilotmega", "common"] },
  { goName := "MessageRequestEvent", id := 412, defPkg := "common", chain := ["ardupilotmega", "common"] }] ++
[
  { goName := "MessageResponseEventError", id := 413, defPkg := "common", chain := ["ardupilotmega", "common"] },
  { goName := "MessageAvailableModes", id := 435, defPkg := "common", chain := ["ardupilotmega", "common"] },
  { goName := "MessageCurrentMode", id := 436, defPkg := "common", chain := ["ardupilotmega", "common"] },
  { goName := "MessageAvailableModesMonitor", id := 437, defPkg := "common", chain := ["ardupilotmega", "common"] },
  { goName := "MessageIlluminatorStatus", id := 440, defPkg := "common", chain := ["ardupilotmega", "common"] },
  { goName := "MessageCanfdFrame", id := 387, defPkg := "common", chain := ["ardupilotmega", "common"] },
  { goName := "MessageCanFilterModify", id := 388, defPkg := "common", chain := ["ardupilotmega", "common"] },
  { goName := "MessageWheelDistance", id := 9000, defPkg := "common", chain := ["ardupilotmega", "common"] },
  { goName := "MessageWinchStatus", id := 9005, defPkg := "common", chain := ["ardupilotmega", "common"] },
  { goName := "MessageOpenDroneIdBasicId", id := 12900, defPkg := "common", chain := ["ardupilotmega", "common"] },
  { goName := "MessageOpenDroneIdLocation", id := 12901, defPkg := "common", chain := ["ardupilotmega", "common"] },
  { goName := "MessageOpenDroneIdAuthentication", id := 12902, defPkg := "common", chain := ["ardupilotmega", "common"] },
  { goName := "MessageOpenDroneIdSelfId", id := 12903, defPkg := "common", chain := ["ardupilotmega", "common"] },
  { goName := "MessageOpenDroneIdSystem", id := 12904, defPkg := "common", chain := ["ardupilotmega", "common"] },
  { goName := "MessageOpenDroneIdOperatorId", id := 12905, defPkg := "common", chain := ["ardupilotmega", "common"] },
  { goName := "MessageOpenDroneIdMessagePack", id := 12915, defPkg := "common", chain := ["ardupilotmega", "common"] },
  { goName := "MessageOpenDroneIdArmStatus", id := 12918, defPkg := "common", chain := ["ardupilotmega", "common"] },
  { goName := "MessageOpenDroneIdSystemUpdate", id := 12919, defPkg := "common", chain := ["ardupilotmega", "common"] },
  { goName := "MessageHygrometerSensor", id := 12920, defPkg := "common", chain := ["ardupilotmega", "common"] },
  { goName := "MessageUavionixAdsbOutCfg", id := 10001, defPkg := "uavionix", chain := ["ardupilotmega", "uavionix"] },
  { goName := "MessageUavionixAdsbOutDynamic", id := 10002, defPkg := "uavionix", chain := ["ardupilotmega", "uavionix"] },
  { goName := "MessageUavionixAdsbTransceiverHealthReport", id := 10003, defPkg := "uavionix", chain := ["ardupilotmega", "uavionix"] },
  { goName := "MessageUavionixAdsbOutCfgRegistration", id := 10004, defPkg := "uavionix", chain := ["ardupilotmega", "uavionix"] },
  { goName := "MessageUavionixAdsbOutCfgFlightid", id := 10005, defPkg := "uavionix", chain := ["ardupilotmega", "uavionix"] },
  { goName := "MessageUavionixAdsbGet", id := 10006, defPkg := "uavionix", chain := ["ardupilotmega", "uavionix"] },
  { goName := "MessageUavionixAdsbOutControl", id := 10007, defPkg := "uavionix", chain := ["ardupilotmega", "uavionix"] },
  { goName := "MessageUavionixAdsbOutStatus", id := 10008, defPkg := "uavionix", chain := ["ardupilotmega", "uavionix"] },
  { goName := "MessageIcarousHeartbeat", id := 42000, defPkg := "icarous", chain := ["ardupilotmega", "icarous"] },
  { goName := "MessageIcarousKinematicBands", id := 42001, defPkg := "icarous", chain := ["ardupilotmega", "icarous"] },
  { goName := "MessageLoweheiserGovEfi", id := 10151, defPkg := "loweheiser", chain := ["ardupilotmega", "loweheiser"] }] ++
[
  { goName := "MessageCubepilotRawRc", id := 50001, defPkg := "cubepilot", chain := ["ardupilotmega", "cubepilot"] },
  { goName := "MessageHerelinkVideoStreamInformation", id := 50002, defPkg := "cubepilot", chain := ["ardupilotmega", "cubepilot"] },
  { goName := "MessageHerelinkTelem", id := 50003, defPkg := "cubepilot", chain := ["ardupilotmega", "cubepilot"] },
  { goName := "MessageCubepilotFirmwareUpdateStart", id := 50004, defPkg := "cubepilot", chain := ["ardupilotmega", "cubepilot"] },
  { goName := "MessageCubepilotFirmwareUpdateResp", id := 50005, defPkg := "cubepilot", chain := ["ardupilotmega", "cubepilot"] },
  { goName := "MessageAirlinkAuth", id := 52000, defPkg := "csairlink", chain := ["ardupilotmega", "csairlink"] },
  { goName := "MessageAirlinkAuthResponse", id := 52001, defPkg := "csairlink", chain := ["ardupilotmega", "csairlink"] },
  { goName := "MessageAirlinkEyeGsHolePushRequest", id := 52002, defPkg := "csairlink", chain := ["ardupilotmega", "csairlink"] },
  { goName := "MessageAirlinkEyeGsHolePushResponse", id := 52003, defPkg := "csairlink", chain := ["ardupilotmega", "csairlink"] },
  { goName := "MessageAirlinkEyeHp", id := 52004, defPkg := "csairlink", chain := ["ardupilotmega", "csairlink"] },
  { goName := "MessageAirlinkEyeTurnInit", id := 52005, defPkg := "csairlink", chain := ["ardupilotmega", "csairlink"] },
  { goName := "MessageSensorOffsets", id := 150, defPkg := "ardupilotmega", chain := ["ardupilotmega"] },
  { goName := "MessageSetMagOffsets", id := 151, defPkg := "ardupilotmega", chain := ["ardupilotmega"] },
  { goName := "MessageMeminfo", id := 152, defPkg := "ardupilotmega", chain := ["ardupilotmega"] },
  { goName := "MessageApAdc", id := 153, defPkg := "ardupilotmega", chain := ["ardupilotmega"] },
  { goName := "MessageDigicamConfigure", id := 154, defPkg := "ardupilotmega", chain := ["ardupilotmega"] },
  { goName := "MessageDigicamControl", id := 155, defPkg := "ardupilotmega", chain := ["ardupilotmega"] },
  { goName := "MessageMountConfigure", id := 156, defPkg := "ardupilotmega", chain := ["ardupilotmega"] },
  { goName := "MessageMountControl", id := 157, defPkg := "ardupilotmega", chain := ["ardupilotmega"] },
  { goName := "MessageMountStatus", id := 158, defPkg := "ardupilotmega", chain := ["ardupilotmega"] },
  { goName := "MessageFencePoint", id := 160, defPkg := "ardupilotmega", chain := ["ardupilotmega"] },
  { goName := "MessageFenceFetchPoint", id := 161, defPkg := "ardupilotmega", chain := ["ardupilotmega"] },
  { goName := "MessageAhrs", id := 163, defPkg := "ardupilotmega", chain := ["ardupilotmega"] },
  { goName := "MessageSimstate", id := 164, defPkg := "ardupilotmega", chain := ["ardupilotmega"] },
  { goName := "MessageHwstatus", id := 165, defPkg := "ardupilotmega", chain := ["ardupilotmega"] },
  { goName := "MessageRadio", id := 166, defPkg := "ardupilotmega", chain := ["ardupilotmega"] },
  { goName := "MessageLimitsStatus", id := 167, defPkg := "ardupilotmega", chain := ["ardupilotmega"] },
  { goName := "MessageWind", id := 168, defPkg := "ardupilotmega", chain := ["ardupilotmega"] },
  { goName := "MessageData16", id := 169, defPkg := "ardupilotmega", chain := ["ardupilotmega"] },
  { goName := "MessageData32", id := 170, defPkg := "ardupilotmega", chain := ["ardupilotmega"] }] ++
[
  { goName := "MessageData64", id := 171, defPkg := "ardupilotmega", chain := ["ardupilotmega"] },
  { goName := "MessageData96", id := 172, defPkg := "ardupilotmega", chain := ["ardupilotmega"] },
  { goName := "MessageRangefinder", id := 173, defPkg := "ardupilotmega", chain := ["ardupilotmega"] },
  { goName := "MessageAirspeedAutocal", id := 174, defPkg := "ardupilotmega", chain := ["ardupilotmega"] },
  { goName := "MessageRallyPoint", id := 175, defPkg := "ardupilotmega", chain := ["ardupilotmega"] },
  { goName := "MessageRallyFetchPoint", id := 176, defPkg := "ardupilotmega", chain := ["ardupilotmega"] },
  { goName := "MessageCompassmotStatus", id := 177, defPkg := "ardupilotmega", chain := ["ardupilotmega"] },
  { goName := "MessageAhrs2", id := 178, defPkg := "ardupilotmega", chain := ["ardupilotmega"] },
  { goName := "MessageCameraStatus", id := 179, defPkg := "ardupilotmega", chain := ["ardupilotmega"] },
  { goName := "MessageCameraFeedback", id := 180, defPkg := "ardupilotmega", chain := ["ardupilotmega"] },
  { goName := "MessageBattery2", id := 181, defPkg := "ardupilotmega", chain := ["ardupilotmega"] },
  { goName := "MessageAhrs3", id := 182, defPkg := "ardupilotmega", chain := ["ardupilotmega"] },
  { goName := "MessageAutopilotVersionRequest", id := 183, defPkg := "ardupilotmega", chain := ["ardupilotmega"] },
  { goName := "MessageRemoteLogDataBlock", id := 184, defPkg := "ardupilotmega", chain := ["ardupilotmega"] },
  { goName := "MessageRemoteLogBlockStatus", id := 185, defPkg := "ardupilotmega", chain := ["ardupilotmega"] },
  { goName := "MessageLedControl", id := 186, defPkg := "ardupilotmega", chain := ["ardupilotmega"] },
  { goName := "MessageMagCalProgress", id := 191, defPkg := "ardupilotmega", chain := ["ardupilotmega"] },
  { goName := "MessageEkfStatusReport", id := 193, defPkg := "ardupilotmega", chain := ["ardupilotmega"] },
  { goName := "MessagePidTuning", id := 194, defPkg := "ardupilotmega", chain := ["ardupilotmega"] },
  { goName := "MessageDeepstall", id := 195, defPkg := "ardupilotmega", chain := ["ardupilotmega"] },
  { goName := "MessageGimbalReport", id := 200, defPkg := "ardupilotmega", chain := ["ardupilotmega"] },
  { goName := "MessageGimbalControl", id := 201, defPkg := "ardupilotmega", chain := ["ardupilotmega"] },
  { goName := "MessageGimbalTorqueCmdReport", id := 214, defPkg := "ardupilotmega", chain := ["ardupilotmega"] },
  { goName := "MessageGoproHeartbeat", id := 215, defPkg := "ardupilotmega", chain := ["ardupilotmega"] },
  { goName := "MessageGoproGetRequest", id := 216, defPkg := "ardupilotmega", chain := ["ardupilotmega"] },
  { goName := "MessageGoproGetResponse", id := 217, defPkg := "ardupilotmega", chain := ["ardupilotmega"] },
  { goName := "MessageGoproSetRequest", id := 218, defPkg := "ardupilotmega", chain := ["ardupilotmega"] },
  { goName := "MessageGoproSetResponse", id := 219, defPkg := "ardupilotmega", chain := ["ardupilotmega"] },
  { goName := "MessageRpm", id := 226, defPkg := "ardupilotmega", chain := ["ardupilotmega"] },
  { goName := "MessageDeviceOpRead", id := 11000, defPkg := "ardupilotmega", chain := ["ardupilotmega"] }] ++
[
  { goName := "MessageDeviceOpReadReply", id := 11001, defPkg := "ardupilotmega", chain := ["ardupilotmega"] },
  { goName := "MessageDeviceOpWrite", id := 11002, defPkg := "ardupilotmega", chain := ["ardupilotmega"] },
  { goName := "MessageDeviceOpWriteReply", id := 11003, defPkg := "ardupilotmega", chain := ["ardupilotmega"] },
  { goName := "MessageSecureCommand", id := 11004, defPkg := "ardupilotmega", chain := ["ardupilotmega"] },
  { goName := "MessageSecureCommandReply", id := 11005, defPkg := "ardupilotmega", chain := ["ardupilotmega"] },
  { goName := "MessageAdapTuning", id := 11010, defPkg := "ardupilotmega", chain := ["ardupilotmega"] },
  { goName := "MessageVisionPositionDelta", id := 11011, defPkg := "ardupilotmega", chain := ["ardupilotmega"] },
  { goName := "MessageAoaSsa", id := 11020, defPkg := "ardupilotmega", chain := ["ardupilotmega"] },
  { goName := "MessageEscTelemetry_1To_4", id := 11030, defPkg := "ardupilotmega", chain := ["ardupilotmega"] },
  { goName := "MessageEscTelemetry_5To_8", id := 11031, defPkg := "ardupilotmega", chain := ["ardupilotmega"] },
  { goName := "MessageEscTelemetry_9To_12", id := 11032, defPkg := "ardupilotmega", chain := ["ardupilotmega"] },
  { goName := "MessageOsdParamConfig", id := 11033, defPkg := "ardupilotmega", chain := ["ardupilotmega"] },
  { goName := "MessageOsdParamConfigReply", id := 11034, defPkg := "ardupilotmega", chain := ["ardupilotmega"] },
  { goName := "MessageOsdParamShowConfig", id := 11035, defPkg := "ardupilotmega", chain := ["ardupilotmega"] },
  { goName := "MessageOsdParamShowConfigReply", id := 11036, defPkg := "ardupilotmega", chain := ["ardupilotmega"] },
  { goName := "MessageObstacleDistance_3d", id := 11037, defPkg := "ardupilotmega", chain := ["ardupilotmega"] },
  { goName := "MessageWaterDepth", id := 11038, defPkg := "ardupilotmega", chain := ["ardupilotmega"] },
  { goName := "MessageMcuStatus", id := 11039, defPkg := "ardupilotmega", chain := ["ardupilotmega"] },
  { goName := "MessageEscTelemetry_13To_16", id := 11040, defPkg := "ardupilotmega", chain := ["ardupilotmega"] },
  { goName := "MessageEscTelemetry_17To_20", id := 11041, defPkg := "ardupilotmega", chain := ["ardupilotmega"] },
  { goName := "MessageEscTelemetry_21To_24", id := 11042, defPkg := "ardupilotmega", chain := ["ardupilotmega"] },
  { goName := "MessageEscTelemetry_25To_28", id := 11043, defPkg := "ardupilotmega", chain := ["ardupilotmega"] },
  { goName := "MessageEscTelemetry_29To_32", id := 11044, defPkg := "ardupilotmega", chain := ["ardupilotmega"] }] }

/-- the message ids of dialect ardupilotmega, in the order of its message list -/
def ids_ardupilotmega : List Nat := [0, 300, 1, 2, 4, 5, 6, 7, 8, 11, 20, 21, 22, 23, 24, 25, 26, 27, 28, 29, 30, 31, 32, 33, 34, 35, 36, 37, 38, 39, 40, 41, 42, 43, 44, 45, 46, 47, 48, 49] ++ [50, 51, 54, 55, 61, 62, 63, 64, 65, 66, 67, 69, 70, 73, 74, 75, 76, 77, 80, 81, 82, 83, 84, 85, 86, 87, 89, 90, 91, 92, 93, 100, 101, 102, 103, 104, 105, 106, 107, 108] ++ [109, 110, 111, 112, 113, 114, 115, 116, 117, 118, 119, 120, 121, 122, 123, 124, 125, 126, 127, 128, 129, 130, 131, 132, 133, 134, 135, 136, 137, 138, 139, 140, 141, 142, 143, 144, 146, 147, 148, 149] ++ [162, 192, 225, 230, 231, 232, 233, 234, 235, 241, 242, 243, 244, 245, 246, 247, 248, 249, 250, 251, 252, 253, 254, 256, 257, 258, 259, 260, 261, 262, 263, 264, 265, 266, 267, 268, 269, 270, 271, 275] ++ [276, 277, 280, 281, 282, 283, 284, 285, 286, 287, 288, 290, 291, 299, 301, 310, 311, 320, 321, 322, 323, 324, 330, 331, 332, 333, 334, 335, 336, 339, 340, 350, 360, 370, 371, 372, 373, 375, 380, 385] ++ [386, 390, 395, 396, 397, 400, 401, 410, 411, 412, 413, 435, 436, 437, 440, 387, 388, 9000, 9005, 12900, 12901, 12902, 12903, 12904, 12905, 12915, 12918, 12919, 12920, 10001, 10002, 10003, 10004, 10005, 10006, 10007, 10008, 42000, 42001, 10151] ++ [50001, 50002, 50003, 50004, 50005, 52000, 52001, 52002, 52003, 52004, 52005, 150, 151, 152, 153, 154, 155, 156, 157, 158, 160, 161, 163, 164, 165, 166, 167, 168, 169, 170, 171, 172, 173, 174, 175, 176, 177, 178, 179, 180] ++ [181, 182, 183, 184, 185, 186, 191, 193, 194, 195, 200, 201, 214, 215, 216, 217, 218, 219, 226, 11000, 11001, 11002, 11003, 11004, 11005, 11010, 11011, 11020, 11030, 11031, 11032, 11033, 11034, 11035, 11036, 11037, 11038, 11039, 11040, 11041] ++ [11042, 11043, 11044]

def dialect_asluav : Dialect := { name := "asluav", version := 3, msgs :=
[
  { goName := "MessageHeartbeat", id := 0, defPkg := "minimal", chain := ["asluav", "minimal"] },
  { goName := "MessageProtocolVersion", id := 300, defPkg := "minimal", chain := ["asluav", "minimal"] },
  { goName := "MessageSysStatus", id := 1, defPkg := "common", chain := ["asluav", "common"] },
  { goName := "MessageSystemTime", id := 2, defPkg := "common", chain := ["asluav", "common"] },
  { goName := "MessagePing", id := 4, defPkg := "common", chain := ["asluav", "common"] },
  { goName := "MessageChangeOperatorControl", id := 5, defPkg := "common", chain := ["asluav", "common"] },
  { goName := "MessageChangeOperatorControlAck", id := 6, defPkg := "common", chain := ["asluav", "common"] },
  { goName := "MessageAuthKey", id := 7, defPkg := "common", chain := ["asluav", "common"] },
  { goName := "MessageLinkNodeStatus", id := 8, defPkg := "common", chain := ["asluav", "common"] },
  { goName := "MessageSetMode", id := 11, defPkg := "common", chain := ["asluav", "common"] },
  { goName := "MessageParamRequestRead", id := 20, defPkg := "common", chain := ["asluav", "common"] },
  { goName := "MessageParamRequestList", id := 21, defPkg := "common", chain := ["asluav", "common"] },
  { goName := "MessageParamValue", id := 22, defPkg := "common", chain := ["asluav", "common"] },
  { goName := "MessageParamSet", id := 23, defPkg := "common", chain := ["asluav", "common"] },
  { goName := "MessageGpsRawInt", id := 24, defPkg := "common", chain := ["asluav", "common"] },
  { goName := "MessageGpsStatus", id := 25, defPkg := "common", chain := ["asluav", "common"] },
  { goName := "MessageScaledImu", id := 26, defPkg := "common", chain := ["asluav", "common"] },
  { goName := "MessageRawImu", id := 27, defPkg := "common", chain := ["asluav", "common"] },
  { goName := "MessageRawPressure", id := 28, defPkg := "common", chain := ["asluav", "common"] },
  { goName := "MessageScaledPressure", id := 29, defPkg := "common", chain := ["asluav", "common"] },
  { goName := "MessageAttitude", id := 30, defPkg := "common", chain := ["asluav", "common"] },
  { goName := "MessageAttitudeQuaternion", id := 31, defPkg := "common", chain := ["asluav", "common"] },
  { goName := "MessageLocalPositionNed", id := 32, defPkg := "common", chain := ["asluav", "common"] },
  { goName := "MessageGlobalPositionInt", id := 33, defPkg := "common", chain := ["asluav", "common"] },
  { goName := "MessageRcChannelsScaled", id := 34, defPkg := "common", chain := ["asluav", "common"] },
  { goName := "MessageRcChannelsRaw", id := 35, defPkg := "common", chain := ["asluav", "common"] },
  { goName := "MessageServoOutputRaw", id := 36, defPkg := "common", chain := ["asluav", "common"] },
  { goName := "MessageMissionRequestPartialList", id := 37, defPkg := "common", chain := ["asluav", "common"] },
  { goName := "MessageMissionWritePartialList", id := 38, defPkg := "common", chain := ["asluav", "common"] },
  { goName := "MessageMissionItem", id := 39, defPkg := "common", chain := ["asluav", "common"] }] ++
[
  { goName := "MessageMissionRequest", id := 40, defPkg := "common", chain := ["asluav", "common"] },
  { goName := "MessageMissionSetCurrent", id := 41, defPkg := "common", chain := ["asluav", "common"] },
  { goName := "MessageMissionCurrent", id := 42, defPkg := "common", chain := ["asluav", "common"] },
  { goName := "MessageMissionRequestList", id := 43, defPkg := "common", chain := ["asluav", "common"] },
  { goName := "MessageMissionCount", id := 44, defPkg := "common", chain := ["asluav", "common"] },
  { goName := "MessageMissionClearAll", id := 45, defPkg := "common", chain := ["asluav", "common"] },
  { goName := "MessageMissionItemReached", id := 46, defPkg := "common", chain := ["asluav", "common"] },
  { goName := "MessageMissionAck", id := 47, defPkg := "common", chain := ["asluav", "common"] },
  { goName := "MessageSetGpsGlobalOrigin", id := 48, defPkg := "common", chain := ["asluav", "common"] },
  { goName := "MessageGpsGlobalOrigin", id := 49, defPkg := "common", chain := ["asluav", "common"] },
  { goName := "MessageParamMapRc", id := 50, defPkg := "common", chain := ["asluav", "common"] },
  { goName := "MessageMissionRequestInt", id := 51, defPkg := "common", chain := ["asluav", "common"] },
  { goName := "MessageSafetySetAllowedArea", id := 54, defPkg := "common", chain := ["asluav", "common"] },
  { goName := "MessageSafetyAllowedArea", id := 55, defPkg := "common", chain := ["asluav", "common"] },
  { goName := "MessageAttitudeQuaternionCov", id := 61, defPkg := "common", chain := ["asluav", "common"] },
  { goName := "MessageNavControllerOutput", id := 62, defPkg := "common", chain := ["asluav", "common"] },
  { goName := "MessageGlobalPositionIntCov", id := 63, defPkg := "common", chain := ["asluav", "common"] },
  { goName := "MessageLocalPositionNedCov", id := 64, defPkg := "common", chain := ["asluav", "common"] },
  { goName := "MessageRcChannels", id := 65, defPkg := "common", chain := ["asluav", "common"] },
  { goName := "MessageRequestDataStream", id := 66, defPkg := "common", chain := ["asluav", "common"] },
  { goName := "MessageDataStream", id := 67, defPkg := "common", chain := ["asluav", "common"] },
  { goName := "MessageManualControl", id := 69, defPkg := "common", chain := ["asluav", "common"] },
  { goName := "MessageRcChannelsOverride", id := 70, defPkg := "common", chain := ["asluav", "common"] },
  { goName := "MessageMissionItemInt", id := 73, defPkg := "common", chain := ["asluav", "common"] },
  { goName := "MessageVfrHud", id := 74, defPkg := "common", chain := ["asluav", "common"] },
  { goName := "MessageCommandInt", id := 75, defPkg := "common", chain := ["asluav", "common"] },
  { goName := "MessageCommandLong", id := 76, defPkg := "common", chain := ["asluav", "common"] },
  { goName := "MessageCommandAck", id := 77, defPkg := "common", chain := ["asluav", "common"] },
  { goName := "MessageCommandCancel", id := 80, defPkg := "common", chain := ["asluav", "common"] },
  { goName := "MessageManualSetpoint", id := 81, defPkg := "common", chain := ["asluav", "common"] }] ++
[
  { goName := "MessageSetAttitudeTarget", id := 82, defPkg := "common", chain := ["asluav", "common"] },
  { goName := "MessageAttitudeTarget", id := 83, defPkg := "common", chain := ["asluav", "common"] },
  { goName := "MessageSetPositionTargetLocalNed", id := 84, defPkg := "common", chain := ["asluav", "common"] },
  { goName := "MessagePositionTargetLocalNed", id := 85, defPkg := "common", chain := ["asluav", "common"] },
  { goName := "MessageSetPositionTargetGlobalInt", id := 86, defPkg := "common", chain := ["asluav", "common"] },
  { goName := "MessagePositionTargetGlobalInt", id := 87, defPkg := "common", chain := ["asluav", "common"] },
  { goName := "MessageLocalPositionNedSystemGlobalOffset", id := 89, defPkg := "common", chain := ["asluav", "common"] },
  { goName := "MessageHilState", id := 90, defPkg := "common", chain := ["asluav", "common"] },
  { goName := "MessageHilControls", id := 91, defPkg := "common", chain := ["asluav", "common"] },
  { goName := "MessageHilRcInputsRaw", id := 92, defPkg := "common", chain := ["asluav", "common"] },
  { goName := "MessageHilActuatorControls", id := 93, defPkg := "common", chain := ["asluav", "common"] },
  { goName := "MessageOpticalFlow", id := 100, defPkg := "common", chain := ["asluav", "common"] },
  { goName := "MessageGlobalVisionPositionEstimate", id := 101, defPkg := "common", chain := ["asluav", "common"] },
  { goName := "MessageVisionPositionEstimate", id := 102, defPkg := "common", chain := ["asluav", "common"] },
  { goName := "MessageVisionSpeedEstimate", id := 103, defPkg := "common", chain := ["asluav", "common"] },
  { goName := "MessageViconPositionEstimate", id := 104, defPkg := "common", chain := ["asluav", "common"] },
  { goName := "MessageHighresImu", id := 105, defPkg := "common", chain := ["asluav", "common"] },
  { goName := "MessageOpticalFlowRad", id := 106, defPkg := "common", chain := ["asluav", "common"] },
  { goName := "MessageHilSensor", id := 107, defPkg := "common", chain := ["asluav", "common"] },
  { goName := "MessageSimState", id := 108, defPkg := "common", chain := ["asluav", "common"] },
  { goName := "MessageRadioStatus", id := 109, defPkg := "common", chain := ["asluav", "common"] },
  { goName := "MessageFileTransferProtocol", id := 110, defPkg := "common", chain := ["asluav", "common"] },
  { goName := "MessageTimesync", id := 111, defPkg := "common", chain := ["asluav", "common"] },
  { goName := "MessageCameraTrigger", id := 112, defPkg := "common", chain := ["asluav", "common"] },
  { goName := "MessageHilGps", id := 113, defPkg := "common", chain := ["asluav", "common"] },
  { goName := "MessageHilOpticalFlow", id := 114, defPkg := "common", chain := ["asluav", "common"] },
  { goName := "MessageHilStateQuaternion", id := 115, defPkg := "common", chain := ["asluav", "common"] },
  { goName := "MessageScaledImu2", id := 116, defPkg := "common", chain := ["asluav", "common"] },
  { goName := "MessageLogRequestList", id := 117, defPkg := "common", chain := ["asluav", "common"] },
  { goName := "MessageLogEntry", id := 118, defPkg := "common", chain := ["asluav", "common"] }] ++
[
  { goName := "MessageLogRequestData", id := 119, defPkg := "common", chain := ["asluav", "common"] },
  { goName := "MessageLogData", id := 120, defPkg := "common", chain := ["asluav", "common"] },
  { goName := "MessageLogErase", id := 121, defPkg := "common", chain := ["asluav", "common"] },
  { goName := "MessageLogRequestEnd", id := 122, defPkg := "common", chain := ["asluav", "common"] },
  { goName := "MessageGpsInjectData", id := 123, defPkg := "common", chain := ["asluav", "common"] },
  { goName := "MessageGps2Raw", id := 124, defPkg := "common", chain := ["asluav", "common"] },
  { goName := "MessagePowerStatus", id := 125, defPkg := "common", chain := ["asluav", "common"] },
  { goName := "MessageSerialControl", id := 126, defPkg := "common", chain := ["asluav", "common"] },
  { goName := "MessageGpsRtk", id := 127, defPkg := "common", chain := ["asluav", "common"] },
  { goName := "MessageGps2Rtk", id := 128, defPkg := "common", chain := ["asluav", "common"] },
  { goName := "MessageScaledImu3", id := 129, defPkg := "common", chain := ["asluav", "common"] },
  { goName := "MessageDataTransmissionHandshake", id := 130, defPkg := "common", chain := ["asluav", "common"] },
  { goName := "MessageEncapsulatedData", id := 131, defPkg := "common", chain := ["asluav", "common"] },
  { goName := "MessageDistanceSensor", id := 132, defPkg := "common", chain := ["asluav", "common"] },
  { goName := "MessageTerrainRequest", id := 133, defPkg := "common", chain := ["asluav", "common"] },
  { goName := "MessageTerrainData", id := 134, defPkg := "common", chain := ["asluav", "common"] },
  { goName := "MessageTerrainCheck", id := 135, defPkg := "common", chain := ["asluav", "common"] },
  { goName := "MessageTerrainReport", id := 136, defPkg := "common", chain := ["asluav", "common"] },
  { goName := "MessageScaledPressure2", id := 137, defPkg := "common", chain := ["asluav", "common"] },
  { goName := "MessageAttPosMocap", id := 138, defPkg := "common", chain := ["asluav", "common"] },
  { goName := "MessageSetActuatorControlTarget", id := 139, defPkg := "common", chain := ["asluav", "common"] },
  { goName := "MessageActuatorControlTarget", id := 140, defPkg := "common", chain := ["asluav", "common"] },
  { goName := "MessageAltitude", id := 141, defPkg := "common", chain := ["asluav", "common"] },
  { goName := "MessageResourceRequest", id := 142, defPkg := "common", chain := ["asluav", "common"] },
  { goName := "MessageScaledPressure3", id := 143, defPkg := "common", chain := ["asluav", "common"] },
  { goName := "MessageFollowTarget", id := 144, defPkg := "common", chain := ["asluav", "common"] },
  { goName := "MessageControlSystemState", id := 146, defPkg := "common", chain := ["asluav", "common"] },
  { goName := "MessageBatteryStatus", id := 147, defPkg := "common", chain := ["asluav", "common"] },
  { goName := "MessageAutopilotVersion", id := 148, defPkg := "common", chain := ["asluav", "common"] },
  { goName := "MessageLandingTarget", id := 149, defPkg := "common", chain := ["asluav", "common"] }] ++
[
  { goName := "MessageFenceStatus", id := 162, defPkg := "common", chain := ["asluav", "common"] },
  { goName := "MessageMagCalReport", id := 192, defPkg := "common", chain := ["asluav", "common"] },
  { goName := "MessageEfiStatus", id := 225, defPkg := "common", chain := ["asluav", "common"] },
  { goName := "MessageEstimatorStatus", id := 230, defPkg := "common", chain := ["asluav", "common"] },
  { goName := "MessageWindCov", id := 231, defPkg := "common", chain := ["asluav", "common"] },
  { goName := "MessageGpsInput", id := 232, defPkg := "common", chain := ["asluav", "common"] },
  { goName := "MessageGpsRtcmData", id := 233, defPkg := "common", chain := ["asluav", "common"] },
  { goName := "MessageHighLatency", id := 234, defPkg := "common", chain := ["asluav", "common"] },
  { goName := "MessageHighLatency2", id := 235, defPkg := "common", chain := ["asluav", "common"] },
  { goName := "MessageVibration", id := 241, defPkg := "common", chain := ["asluav", "common"] },
  { goName := "MessageHomePosition", id := 242, defPkg := "common", chain := ["asluav", "common"] },
  { goName := "MessageSetHomePosition", id := 243, defPkg := "common", chain := ["asluav", "common"] },
  { goName := "MessageMessageInterval", id := 244, defPkg := "common", chain := ["asluav", "common"] },
  { goName := "MessageExtendedSysState", id := 245, defPkg := "common", chain := ["asluav", "common"] },
  { goName := "MessageAdsbVehicle", id := 246, defPkg := "common", chain := ["asluav", "common"] },
  { goName := "MessageCollision", id := 247, defPkg := "common", chain := ["asluav", "common"] },
  { goName := "MessageV2Extension", id := 248, defPkg := "common", chain := ["asluav", "common"] },
  { goName := "MessageMemoryVect", id := 249, defPkg := "common", chain := ["asluav", "common"] },
  { goName := "MessageDebugVect", id := 250, defPkg := "common", chain := ["asluav", "common"] },
  { goName := "MessageNamedValueFloat", id := 251, defPkg := "common", chain := ["asluav", "common"] },
  { goName := "MessageNamedValueInt", id := 252, defPkg := "common", chain := ["asluav", "common"] },
  { goName := "MessageStatustext", id := 253, defPkg := "common", chain := ["asluav", "common"] },
  { goName := "MessageDebug", id := 254, defPkg := "common", chain := ["asluav", "common"] },
  { goName := "MessageSetupSigning", id := 256, defPkg := "common", chain := ["asluav", "common"] },
  { goName := "MessageButtonChange", id := 257, defPkg := "common", chain := ["asluav", "common"] },
  { goName := "MessagePlayTune", id := 258, defPkg := "common", chain := ["asluav", "common"] },
  { goName := "MessageCameraInformation", id := 259, defPkg := "common", chain := ["asluav", "common"] },
  { goName := "MessageCameraSettings", id := 260, defPkg := "common", chain := ["asluav", "common"] },
  { goName := "MessageStorageInformation", id := 261, defPkg := "common", chain := ["asluav", "common"] },
  { goName := "MessageCameraCaptureStatus", id := 262, defPkg := "common", chain := ["asluav", "common"] }] ++
[
  { goName := "MessageCameraImageCaptured", id := 263, defPkg := "common", chain := ["asluav", "common"] },
  { goName := "MessageFlightInformation", id := 264, defPkg := "common", chain := ["asluav", "common"] },
  { goName := "MessageMountOrientation", id := 265, defPkg := "common", chain := ["asluav", "common"] },
  { goName := "MessageLoggingData", id := 266, defPkg := "common", chain := ["asluav", "common"] },
  { goName := "MessageLoggingDataAcked", id := 267, defPkg := "common", chain := ["asluav", "common"] },
  { goName := "MessageLoggingAck", id := 268, defPkg := "common", chain := ["asluav", "common"] },
  { goName := "MessageVideoStreamInformation", id := 269, defPkg := "common", chain := ["asluav", "common"] },
  { goName := "MessageVideoStreamStatus", id := 270, defPkg := "common", chain := ["asluav", "common"] },
  { goName := "MessageCameraFovStatus", id := 271, defPkg := "common", chain := ["asluav", "common"] },
  { goName := "MessageCameraTrackingImageStatus", id := 275, defPkg := "common", chain := ["asluav", "common"] },
  { goName := "MessageCameraTrackingGeoStatus", id := 276, defPkg := "common", chain := ["asluav", "common"] },
  { goName := "MessageCameraThermalRange", id := 277, defPkg := "common", chain := ["asluav", "common"] },
  { goName := "MessageGimbalManagerInformation", id := 280, defPkg := "common", chain := ["asluav", "common"] },
  { goName := "MessageGimbalManagerStatus", id := 281, defPkg := "common", chain := ["asluav", "common"] },
  { goName := "MessageGimbalManagerSetAttitude", id := 282, defPkg := "common", chain := ["asluav", "common"] },
  { goName := "MessageGimbalDeviceInformation", id := 283, defPkg := "common", chain := ["asluav", "common"] },
  { goName := "MessageGimbalDeviceSetAttitude", id := 284, defPkg := "common", chain := ["asluav", "common"] },
  { goName := "MessageGimbalDeviceAttitudeStatus", id := 285, defPkg := "common", chain := ["asluav", "common"] },
  { goName := "MessageAutopilotStateForGimbalDevice", id := 286, defPkg := "common", chain := ["asluav", "common"] },
  { goName := "MessageGimbalManagerSetPitchyaw", id := 287, defPkg := "common", chain := ["asluav", "common"] },
  { goName := "MessageGimbalManagerSetManualControl", id := 288, defPkg := "common", chain := ["asluav", "common"] },
  { goName := "MessageEscInfo", id := 290, defPkg := "common", chain := ["asluav", "common"] },
  { goName := "MessageEscStatus", id := 291, defPkg := "common", chain := ["asluav", "common"] },
  { goName := "MessageWifiConfigAp", id := 299, defPkg := "common", chain := ["asluav", "common"] },
  { goName := "MessageAisVessel", id := 301, defPkg := "common", chain := ["asluav", "common"] },
  { goName := "MessageUavcanNodeStatus", id := 310, defPkg := "common", chain := ["asluav", "common"] },
  { goName := "MessageUavcanNodeInfo", id := 311, defPkg := "common", chain := ["asluav", "common"] },
  { goName := "MessageParamExtRequestRead", id := 320, defPkg := "common", chain := ["asluav", "common"] },
  { goName := "MessageParamExtRequestList", id := 321, defPkg := "common", chain := ["asluav", "common"] },
  { goName := "MessageParamExtValue", id := 322, defPkg := "common", chain := ["asluav", "common"] }] ++
[
  { goName := "MessageParamExtSet", id := 323, defPkg := "common", chain := ["asluav", "common"] },
  { goName := "MessageParamExtAck", id := 324, defPkg := "common", chain := ["asluav", "common"] },
  { goName := "MessageObstacleDistance", id := 330, defPkg := "common", chain := ["asluav", "common"] },
  { goName := "MessageOdometry", id := 331, defPkg := "common", chain := ["asluav", "common"] },
  { goName := "MessageTrajectoryRepresentationWaypoints", id := 332, defPkg := "common", chain := ["asluav", "common"] },
  { goName := "MessageTrajectoryRepresentationBezier", id := 333, defPkg := "common", chain := ["asluav", "common"] },
  { goName := "MessageCellularStatus", id := 334, defPkg := "common", chain := ["asluav", "common"] },
  { goName := "MessageIsbdLinkStatus", id := 335, defPkg := "common", chain := ["asluav", "common"] },
  { goName := "MessageCellularConfig", id := 336, defPkg := "common", chain := ["asluav", "common"] },
  { goName := "MessageRawRpm", id := 339, defPkg := "common", chain := ["asluav", "common"] },
  { goName := "MessageUtmGlobalPosition", id := 340, defPkg := "common", chain := ["asluav", "common"] },
  { goName := "MessageDebugFloatArray", id := 350, defPkg := "common", chain := ["asluav", "common"] },
  { goName := "MessageOrbitExecutionStatus", id := 360, defPkg := "common", chain := ["asluav", "common"] },
  { goName := "MessageSmartBatteryInfo", id := 370, defPkg := "common", chain := ["asluav", "common"] },
  { goName := "MessageFuelStatus", id := 371, defPkg := "common", chain := ["asluav", "common"] },
  { goName := "MessageBatteryInfo", id := 372, defPkg := "common", chain := ["asluav", "common"] },
  { goName := "MessageGeneratorStatus", id := 373, defPkg := "common", chain := ["asluav", "common"] },
  { goName := "MessageActuatorOutputStatus", id := 375, defPkg := "common", chain := ["asluav", "common"] },
  { goName := "MessageTimeEstimateToTarget", id := 380, defPkg := "common", chain := ["asluav", "common"] },
  { goName := "MessageTunnel", id := 385, defPkg := "common", chain := ["asluav", "common"] },
  { goName := "MessageCanFrame", id := 386, defPkg := "common", chain := ["asluav", "common"] },
  { goName := "MessageOnboardComputerStatus", id := 390, defPkg := "common", chain := ["asluav", "common"] },
  { goName := "MessageComponentInformation", id := 395, defPkg := "common", chain := ["asluav", "common"] },
  { goName := "MessageComponentInformationBasic", id := 396, defPkg := "common", chain := ["asluav", "common"] },
  { goName := "MessageComponentMetadata", id := 397, defPkg := "common", chain := ["asluav", "common"] },
  { goName := "MessagePlayTuneV2", id := 400, defPkg := "common", chain := ["asluav", "common"] },
  { goName := "MessageSupportedTunes", id := 401, defPkg := "common", chain := ["asluav", "common"] },
  { goName := "MessageEvent", id := 410, defPkg := "common", chain := ["asluav", "common"] },
  { goName := "MessageCurrentEventSequence", id := 411, defPkg := "common", chain := ["asluav", "common"] },
  { goName := "MessageRequestEvent", id := 412, defPkg := "common", chain := ["asluav", "common"] }] ++
[
  { goName := "MessageResponseEventError", id := 413, defPkg := "common", chain := ["asluav", "common"] },
  { goName := "MessageAvailableModes", id := 435, defPkg := "common", chain := ["asluav", "common"] },
  { goName := "MessageCurrentMode", id := 436, defPkg := "common", chain := ["asluav", "common"] },
  { goName := "MessageAvailableModesMonitor", id := 437, defPkg := "common", chain := ["asluav", "common"] },
  { goName := "MessageIlluminatorStatus", id := 440, defPkg := "common", chain := ["asluav", "common"] },
  { goName := "MessageCanfdFrame", id := 387, defPkg := "common", chain := ["asluav", "common"] },
  { goName := "MessageCanFilterModify", id := 388, defPkg := "common", chain := ["asluav", "common"] },
  { goName := "MessageWheelDistance", id := 9000, defPkg := "common", chain := ["asluav", "common"] },
  { goName := "MessageWinchStatus", id := 9005, defPkg := "common", chain := ["asluav", "common"] },
  { goName := "MessageOpenDroneIdBasicId", id := 12900, defPkg := "common", chain := ["asluav", "common"] },
  { goName := "MessageOpenDroneIdLocation", id := 12901, defPkg := "common", chain := ["asluav", "common"] },
  { goName := "MessageOpenDroneIdAuthentication", id := 12902, defPkg := "common", chain := ["asluav", "common"] },
  { goName := "MessageOpenDroneIdSelfId", id := 12903, defPkg := "common", chain := ["asluav", "common"] },
  { goName := "MessageOpenDroneIdSystem", id := 12904, defPkg := "common", chain := ["asluav", "common"] },
  { goName := "MessageOpenDroneIdOperatorId", id := 12905, defPkg := "common", chain := ["asluav", "common"] },
  { goName := "MessageOpenDroneIdMessagePack", id := 12915, defPkg := "common", chain := ["asluav", "common"] },
  { goName := "MessageOpenDroneIdArmStatus", id := 12918, defPkg := "common", chain := ["asluav", "common"] },
  { goName := "MessageOpenDroneIdSystemUpdate", id := 12919, defPkg := "common", chain := ["asluav", "common"] },
  { goName := "MessageHygrometerSensor", id := 12920, defPkg := "common", chain := ["asluav", "common"] },
  { goName := "MessageCommandIntStamped", id := 223, defPkg := "asluav", chain := ["asluav"] },
  { goName := "MessageCommandLongStamped", id := 224, defPkg := "asluav", chain := ["asluav"] },
  { goName := "MessageSensPower", id := 8002, defPkg := "asluav", chain := ["asluav"] },
  { goName := "MessageSensMppt", id := 8003, defPkg := "asluav", chain := ["asluav"] },
  { goName := "MessageAslctrlData", id := 8004, defPkg := "asluav", chain := ["asluav"] },
  { goName := "MessageAslctrlDebug", id := 8005, defPkg := "asluav", chain := ["asluav"] },
  { goName := "MessageAsluavStatus", id := 8006, defPkg := "asluav", chain := ["asluav"] },
  { goName := "MessageEkfExt", id := 8007, defPkg := "asluav", chain := ["asluav"] },
  { goName := "MessageAslObctrl", id := 8008, defPkg := "asluav", chain := ["asluav"] },
  { goName := "MessageSensAtmos", id := 8009, defPkg := "asluav", chain := ["asluav"] },
  { goName := "MessageSensBatmon", id := 8010, defPkg := "asluav", chain := ["asluav"] }] ++
[
  { goName := "MessageFwSoaringData", id := 8011, defPkg := "asluav", chain := ["asluav"] },
  { goName := "MessageSensorpodStatus", id := 8012, defPkg := "asluav", chain := ["asluav"] },
  { goName := "MessageSensPowerBoard", id := 8013, defPkg := "asluav", chain := ["asluav"] },
  { goName := "MessageGsmLinkStatus", id := 8014, defPkg := "asluav", chain := ["asluav"] },
  { goName := "MessageSatcomLinkStatus", id := 8015, defPkg := "asluav", chain := ["asluav"] },
  { goName := "MessageSensorAirflowAngles", id := 8016, defPkg := "asluav", chain := ["asluav"] }] }

/-- the message ids of dialect asluav, in the order of its message list -/
def ids_asluav : List Nat := [0, 300, 1, 2, 4, 5, 6, 7, 8, 11, 20, 21, 22, 23, 24, 25, 26, 27, 28, 29, 30, 31, 32, 33, 34, 35, 36, 37, 38, 39, 40, 41, 42, 43, 44, 45, 46, 47, 48, 49] ++ [50, 51, 54, 55, 61, 62, 63, 64, 65, 66, 67, 69, 70, 73, 74, 75, 76, 77, 80, 81, 82, 83, 84, 85, 86, 87, 89, 90, 91, 92, 93, 100, 101, 102, 103, 104, 105, 106, 107, 108] ++ [109, 110, 111, 112, 113, 114, 115, 116, 117, 118, 119, 120, 121, 122, 123, 124, 125, 126, 127, 128, 129, 130, 131, 132, 133, 134, 135, 136, 137, 138, 139, 140, 141, 142, 143, 144, 146, 147, 148, 149] ++ [162, 192, 225, 230, 231, 232, 233, 234, 235, 241, 242, 243, 244, 245, 246, 247, 248, 249, 250, 251, 252, 253, 254, 256, 257, 258, 259, 260, 261, 262, 263, 264, 265, 266, 267, 268, 269, 270, 271, 275] ++ [276, 277, 280, 281, 282, 283, 284, 285, 286, 287, 288, 290, 291, 299, 301, 310, 311, 320, 321, 322, 323, 324, 330, 331, 332, 333, 334, 335, 336, 339, 340, 350, 360, 370, 371, 372, 373, 375, 380, 385] ++ [386, 390, 395, 396, 397, 400, 401, 410, 411, 412, 413, 435, 436, 437, 440, 387, 388, 9000, 9005, 12900, 12901, 12902, 12903, 12904, 12905, 12915, 12918, 12919, 12920, 223, 224, 8002, 8003, 8004, 8005, 8006, 8007, 8008, 8009, 8010] ++ [8011, 8012, 8013, 8014, 8015, 8016]

def dialect_avssuas : Dialect := { name := "avssuas", version := 2, msgs :=
[
  { goName := "MessageHeartbeat", id := 0, defPkg := "minimal", chain := ["avssuas", "minimal"] },
  { goName := "MessageProtocolVersion", id := 300, defPkg := "minimal", chain := ["avssuas", "minimal"] },
  { goName := "MessageSysStatus", id := 1, defPkg := "common", chain := ["avssuas", "common"] },
  { goName := "MessageSystemTime", id := 2, defPkg := "common", chain := ["avssuas", "common"] },
  { goName := "MessagePing", id := 4, defPkg := "common", chain := ["avssuas", "common"] },
  { goName := "MessageChangeOperatorControl", id := 5, defPkg := "common", chain := ["avssuas", "common"] },
  { goName := "MessageChangeOperatorControlAck", id := 6, defPkg := "common", chain := ["avssuas", "common"] },
  { goName := "MessageAuthKey", id := 7, defPkg := "common", chain := ["avssuas", "common"] },
  { goName := "MessageLinkNodeStatus", id := 8, defPkg := "common", chain := ["avssuas", "common"] },
  { goName := "MessageSetMode", id := 11, defPkg := "common", chain := ["avssuas", "common"] },
  { goName := "MessageParamRequestRead", id := 20, defPkg := "common", chain := ["avssuas", "common"] },
  { goName := "MessageParamRequestList", id := 21, defPkg := "common", chain := ["avssuas", "common"] },
  { goName := "MessageParamValue", id := 22, defPkg := "common", chain := ["avssuas", "common"] },
  { goName := "MessageParamSet", id := 23, defPkg := "common", chain := ["avssuas", "common"] },
  { goName := "MessageGpsRawInt", id := 24, defPkg := "common", chain := ["avssuas", "common"] },
  { goName := "MessageGpsStatus", id := 25, defPkg := "common", chain := ["avssuas", "common"] },
  { goName := "MessageScaledImu", id := 26, defPkg := "common", chain := ["avssuas", "common"] },
  { goName := "MessageRawImu", id := 27, defPkg := "common", chain := ["avssuas", "common"] },
  { goName := "MessageRawPressure", id := 28, defPkg := "common", chain := ["avssuas", "common"] },
  { goName := "MessageScaledPressure", id := 29, defPkg := "common", chain := ["avssuas", "common"] },
  { goName := "MessageAttitude", id := 30, defPkg := "common", chain := ["avssuas", "common"] },
  { goName := "MessageAttitudeQuaternion", id := 31, defPkg := "common", chain := ["avssuas", "common"] },
  { goName := "MessageLocalPositionNed", id := 32, defPkg := "common", chain := ["avssuas", "common"] },
  { goName := "MessageGlobalPositionInt", id := 33, defPkg := "common", chain := ["avssuas", "common"] },
  { goName := "MessageRcChannelsScaled", id := 34, defPkg := "common", chain := ["avssuas", "common"] },
  { goName := "MessageRcChannelsRaw", id := 35, defPkg := "common", chain := ["avssuas", "common"] },
  { goName := "MessageServoOutputRaw", id := 36, defPkg := "common", chain := ["avssuas", "common"] },
  { goName := "MessageMissionRequestPartialList", id := 37, defPkg := "common", chain := ["avssuas", "common"] },
  { goName := "MessageMissionWritePartialList", id := 38, defPkg := "common", chain := ["avssuas", "common"] },
  { goName := "MessageMissionItem", id := 39, defPkg := "common", chain := ["avssuas", "common"] }] ++
[
  { goName := "MessageMissionRequest", id := 40, defPkg := "common", chain := ["avssuas", "common"] },
  { goName := "MessageMissionSetCurrent", id := 41, defPkg := "common", chain := ["avssuas", "common"] },
  { goName := "MessageMissionCurrent", id := 42, defPkg := "common", chain := ["avssuas", "common"] },
  { goName := "MessageMissionRequestList", id := 43, defPkg := "common", chain := ["avssuas", "common"] },
  { goName := "MessageMissionCount", id := 44, defPkg := "common", chain := ["avssuas", "common"] },
  { goName := "MessageMissionClearAll", id := 45, defPkg := "common", chain := ["avssuas", "common"] },
  { goName := "MessageMissionItemReached", id := 46, defPkg := "common", chain := ["avssuas", "common"] },
  { goName := "MessageMissionAck", id := 47, defPkg := "common", chain := ["avssuas", "common"] },
  { goName := "MessageSetGpsGlobalOrigin", id := 48, defPkg := "common", chain := ["avssuas", "common"] },
  { goName := "MessageGpsGlobalOrigin", id := 49, defPkg := "common", chain := ["avssuas", "common"] },
  { goName := "MessageParamMapRc", id := 50, defPkg := "common", chain := ["avssuas", "common"] },
  { goName := "MessageMissionRequestInt", id := 51, defPkg := "common", chain := ["avssuas", "common"] },
  { goName := "MessageSafetySetAllowedArea", id := 54, defPkg := "common", chain := ["avssuas", "common"] },
  { goName := "MessageSafetyAllowedArea", id := 55, defPkg := "common", chain := ["avssuas", "common"] },
  { goName := "MessageAttitudeQuaternionCov", id := 61, defPkg := "common", chain := ["avssuas", "common"] },
  { goName := "MessageNavControllerOutput", id := 62, defPkg := "common", chain := ["avssuas", "common"] },
  { goName := "MessageGlobalPositionIntCov", id := 63, defPkg := "common", chain := ["avssuas", "common"] },
  { goName := "MessageLocalPositionNedCov", id := 64, defPkg := "common", chain := ["avssuas", "common"] },
  { goName := "MessageRcChannels", id := 65, defPkg := "common", chain := ["avssuas", "common"] },
  { goName := "MessageRequestDataStream", id := 66, defPkg := "common", chain := ["avssuas", "common"] },
  { goName := "MessageDataStream", id := 67, defPkg := "common", chain := ["avssuas", "common"] },
  { goName := "MessageManualControl", id := 69, defPkg := "common", chain := ["avssuas", "common"] },
  { goName := "MessageRcChannelsOverride", id := 70, defPkg := "common", chain := ["avssuas", "common"] },
  { goName := "MessageMissionItemInt", id := 73, defPkg := "common", chain := ["avssuas", "common"] },
  { goName := "MessageVfrHud", id := 74, defPkg := "common", chain := ["avssuas", "common"] },
  { goName := "MessageCommandInt", id := 75, defPkg := "common", chain := ["avssuas", "common"] },
  { goName := "MessageCommandLong", id := 76, defPkg := "common", chain := ["avssuas", "common"] },
  { goName := "MessageCommandAck", id := 77, defPkg := "common", chain := ["avssuas", "common"] },
  { goName := "MessageCommandCancel", id := 80, defPkg := "common", chain := ["avssuas", "common"] },
  { goName := "MessageManualSetpoint", id := 81, defPkg := "common", chain := ["avssuas", "common"] }] ++
[
  { goName := "MessageSetAttitudeTarget", id := 82, defPkg := "common", chain := ["avssuas", "common"] },
  { goName := "MessageAttitudeTarget", id := 83, defPkg := "common", chain := ["avssuas", "common"] },
  { goName := "MessageSetPositionTargetLocalNed", id := 84, defPkg := "common", chain := ["avssuas", "common"] },
  { goName := "MessagePositionTargetLocalNed", id := 85, defPkg := "common", chain := ["avssuas", "common"] },
  { goName := "MessageSetPositionTargetGlobalInt", id := 86, defPkg := "common", chain := ["avssuas", "common"] },
  { goName := "MessagePositionTargetGlobalInt", id := 87, defPkg := "common", chain := ["avssuas", "common"] },
  { goName := "MessageLocalPositionNedSystemGlobalOffset", id := 89, defPkg := "common", chain := ["avssuas", "common"] },
  { goName := "MessageHilState", id := 90, defPkg := "common", chain := ["avssuas", "common"] },
  { goName := "MessageHilControls", id := 91, defPkg := "common", chain := ["avssuas", "common"] },
  { goName := "MessageHilRcInputsRaw", id := 92, defPkg := "common", chain := ["avssuas", "common"] },
  { goName := "MessageHilActuatorControls", id := 93, defPkg := "common", chain := ["avssuas", "common"] },
  { goName := "MessageOpticalFlow", id := 100, defPkg := "common", chain := ["avssuas", "common"] },
  { goName := "MessageGlobalVisionPositionEstimate", id := 101, defPkg := "common", chain := ["avssuas", "common"] },
  { goName := "MessageVisionPositionEstimate", id := 102, defPkg := "common", chain := ["avssuas", "common"] },
  { goName := "MessageVisionSpeedEstimate", id := 103, defPkg := "common", chain := ["avssuas", "common"] },
  { goName := "MessageViconPositionEstimate", id := 104, defPkg := "common", chain := ["avssuas", "common"] },
  { goName := "MessageHighresImu", id := 105, defPkg := "common", chain := ["avssuas", "common"] },
  { goName := "MessageOpticalFlowRad", id := 106, defPkg := "common", chain := ["avssuas", "common"] },
  { goName := "MessageHilSensor", id := 107, defPkg := "common", chain := ["avssuas", "common"] },
  { goName := "MessageSimState", id := 108, defPkg := "common", chain := ["avssuas", "common"] },
  { goName := "MessageRadioStatus", id := 109, defPkg := "common", chain := ["avssuas", "common"] },
  { goName := "MessageFileTransferProtocol", id := 110, defPkg := "common", chain := ["avssuas", "common"] },
  { goName := "MessageTimesync", id := 111, defPkg := "common", chain := ["avssuas", "common"] },
  { goName := "MessageCameraTrigger", id := 112, defPkg := "common", chain := ["avssuas", "common"] },
  { goName := "MessageHilGps", id := 113, defPkg := "common", chain := ["avssuas", "common"] },
  { goName := "MessageHilOpticalFlow", id := 114, defPkg := "common", chain := ["avssuas", "common"] },
  { goName := "MessageHilStateQuaternion", id := 115, defPkg := "common", chain := ["avssuas", "common"] },
  { goName := "MessageScaledImu2", id := 116, defPkg := "common", chain := ["avssuas", "common"] },
  { goName := "MessageLogRequestList", id := 117, defPkg := "common", chain := ["avssuas", "common"] },
  { goName := "MessageLogEntry", id := 118, defPkg := "common", chain := ["avssuas", "common"] }] ++
[
  { goName := "MessageLogRequestData", id := 119, defPkg := "common", chain := ["avssuas", "common"] },
  { goName := "MessageLogData", id := 120, defPkg := "common", chain := ["avssuas", "common"] },
  { goName := "MessageLogErase", id := 121, defPkg := "common", chain := ["avssuas", "common"] },
  { goName := "MessageLogRequestEnd", id := 122, defPkg := "common", chain := ["avssuas", "common"] },
  { goName := "MessageGpsInjectData", id := 123, defPkg := "common", chain := ["avssuas", "common"] },
  { goName := "MessageGps2Raw", id := 124, defPkg := "common", chain := ["avssuas", "common"] },
  { goName := "MessagePowerStatus", id := 125, defPkg := "common", chain := ["avssuas", "common"] },
  { goName := "MessageSerialControl", id := 126, defPkg := "common", chain := ["avssuas", "common"] },
  { goName := "MessageGpsRtk", id := 127, defPkg := "common", chain := ["avssuas", "common"] },
  { goName := "MessageGps2Rtk", id := 128, defPkg := "common", chain := ["avssuas", "common"] },
  { goName := "MessageScaledImu3", id := 129, defPkg := "common", chain := ["avssuas", "common"] },
  { goName := "MessageDataTransmissionHandshake", id := 130, defPkg := "common", chain := ["avssuas", "common"] },
  { goName := "MessageEncapsulatedData", id := 131, defPkg := "common", chain := ["avssuas", "common"] },
  { goName := "MessageDistanceSensor", id := 132, defPkg := "common", chain := ["avssuas", "common"] },
  { goName := "MessageTerrainRequest", id := 133, defPkg := "common", chain := ["avssuas", "common"] },
  { goName := "MessageTerrainData", id := 134, defPkg := "common", chain := ["avssuas", "common"] },
  { goName := "MessageTerrainCheck", id := 135, defPkg := "common", chain := ["avssuas", "common"] },
  { goName := "MessageTerrainReport", id := 136, defPkg := "common", chain := ["avssuas", "common"] },
  { goName := "MessageScaledPressure2", id := 137, defPkg := "common", chain := ["avssuas", "common"] },
  { goName := "MessageAttPosMocap", id := 138, defPkg := "common", chain := ["avssuas", "common"] },
  { goName := "MessageSetActuatorControlTarget", id := 139, defPkg := "common", chain := ["avssuas", "common"] },
  { goName := "MessageActuatorControlTarget", id := 140, defPkg := "common", chain := ["avssuas", "common"] },
  { goName := "MessageAltitude", id := 141, defPkg := "common", chain := ["avssuas", "common"] },
  { goName := "MessageResourceRequest", id := 142, defPkg := "common", chain := ["avssuas", "common"] },
  { goName := "MessageScaledPressure3", id := 143, defPkg := "common", chain := ["avssuas", "common"] },
  { goName := "MessageFollowTarget", id := 144, defPkg := "common", chain := ["avssuas", "common"] },
  { goName := "MessageControlSystemState", id := 146, defPkg := "common", chain := ["avssuas", "common"] },
  { goName := "MessageBatteryStatus", id := 147, defPkg := "common", chain := ["avssuas", "common"] },
  { goName := "MessageAutopilotVersion", id := 148, defPkg := "common", chain := ["avssuas", "common"] },
  { goName := "MessageLandingTarget", id := 149, defPkg := "common", chain := ["avssuas", "common"] }] ++
[
  { goName := "MessageFenceStatus", id := 162, defPkg := "common", chain := ["avssuas", "common"] },
  { goName := "MessageMagCalReport", id := 192, defPkg := "common", chain := ["avssuas", "common"] },
  { goName := "MessageEfiStatus", id := 225, defPkg := "common", chain := ["avssuas", "common"] },
  { goName := "MessageEstimatorStatus", id := 230, defPkg := "common", chain := ["avssuas", "common"] },
  { goName := "MessageWindCov", id := 231, defPkg := "common", chain := ["avssuas", "common"] },
  { goName := "MessageGpsInput", id := 232, defPkg := "common", chain := ["avssuas", "common"] },
  { goName := "MessageGpsRtcmData", id := 233, defPkg := "common", chain := ["avssuas", "common"] },
  { goName := "MessageHighLatency", id := 234, defPkg := "common", chain := ["avssuas", "common"] },
  { goName := "MessageHighLatency2", id := 235, defPkg := "common", chain := ["avssuas", "common"] },
  { goName := "MessageVibration", id := 241, defPkg := "common", chain := ["avssuas", "common"] },
  { goName := "MessageHomePosition", id := 242, defPkg := "common", chain := ["avssuas", "common"] },
  { goName := "MessageSetHomePosition", id := 243, defPkg := "common", chain := ["avssuas", "common"] },
  { goName := "MessageMessageInterval", id := 244, defPkg := "common", chain := ["avssuas", "common"] },
  { goName := "MessageExtendedSysState", id := 245, defPkg := "common", chain := ["avssuas", "common"] },
  { goName := "MessageAdsbVehicle", id := 246, defPkg := "common", chain := ["avssuas", "common"] },
  { goName := "MessageCollision", id := 247, defPkg := "common", chain := ["avssuas", "common"] },
  { goName := "MessageV2Extension", id := 248, defPkg := "common", chain := ["avssuas", "common"] },
  { goName := "MessageMemoryVect", id := 249, defPkg := "common", chain := ["avssuas", "common"] },
  { goName := "MessageDebugVect", id := 250, defPkg := "common", chain := ["avssuas", "common"] },
  { goName := "MessageNamedValueFloat", id := 251, defPkg := "common", chain := ["avssuas", "common"] },
  { goName := "MessageNamedValueInt", id := 252, defPkg := "common", chain := ["avssuas", "common"] },
  { goName := "MessageStatustext", id := 253, defPkg := "common", chain := ["avssuas", "common"] },
  { goName := "MessageDebug", id := 254, defPkg := "common", chain := ["avssuas", "common"] },
  { goName := "MessageSetupSigning", id := 256, defPkg := "common", chain := ["avssuas", "common"] },
  { goName := "MessageButtonChange", id := 257, defPkg := "common", chain := ["avssuas", "common"] },
  { goName := "MessagePlayTune", id := 258, defPkg := "common", chain := ["avssuas", "common"] },
  { goName := "MessageCameraInformation", id := 259, defPkg := "common", chain := ["avssuas", "common"] },
  { goName := "MessageCameraSettings", id := 260, defPkg := "common", chain := ["avssuas", "common"] },
  { goName := "MessageStorageInformation", id := 261, defPkg := "common", chain := ["avssuas", "common"] },
  { goName := "MessageCameraCaptureStatus", id := 262, defPkg := "common", chain := ["avssuas", "common"] }] ++
[
  { goName := "MessageCameraImageCaptured", id := 263, defPkg := "common", chain := ["avssuas", "common"] },
  { goName := "MessageFlightInformation", id := 264, defPkg := "common", chain := ["avssuas", "common"] },
  { goName := "MessageMountOrientation", id := 265, defPkg := "common", chain := ["avssuas", "common"] },
  { goName := "MessageLoggingData", id := 266, defPkg := "common", chain := ["avssuas", "common"] },
  { goName := "MessageLoggingDataAcked", id := 267, defPkg := "common", chain := ["avssuas", "common"] },
  { goName := "MessageLoggingAck", id := 268, defPkg := "common", chain := ["avssuas", "common"] },
  { goName := "MessageVideoStreamInformation", id := 269, defPkg := "common", chain := ["avssuas", "common"] },
  { goName := "MessageVideoStreamStatus", id := 270, defPkg := "common", chain := ["avssuas", "common"] },
  { goName := "MessageCameraFovStatus", id := 271, defPkg := "common", chain := ["avssuas", "common"] },
  { goName := "MessageCameraTrackingImageStatus", id := 275, defPkg := "common", chain := ["avssuas", "common"] },
  { goName := "MessageCameraTrackingGeoStatus", id := 276, defPkg := "common", chain := ["avssuas", "common"] },
  { goName := "MessageCameraThermalRange", id := 277, defPkg := "common", chain := ["avssuas", "common"] },
  { goName := "MessageGimbalManagerInformation", id := 280, defPkg := "common", chain := ["avssuas", "common"] },
  { goName := "MessageGimbalManagerStatus", id := 281, defPkg := "common", chain := ["avssuas", "common"] },
  { goName := "MessageGimbalManagerSetAttitude", id := 282, defPkg := "common", chain := ["avssuas", "common"] },
  { goName := "MessageGimbalDeviceInformation", id := 283, defPkg := "common", chain := ["avssuas", "common"] },
  { goName := "MessageGimbalDeviceSetAttitude", id := 284, defPkg := "common", chain := ["avssuas", "common"] },
  { goName := "MessageGimbalDeviceAttitudeStatus", id := 285, defPkg := "common", chain := ["avssuas", "common"] },
  { goName := "MessageAutopilotStateForGimbalDevice", id := 286, defPkg := "common", chain := ["avssuas", "common"] },
  { goName := "MessageGimbalManagerSetPitchyaw", id := 287, defPkg := "common", chain := ["avssuas", "common"] },
  { goName := "MessageGimbalManagerSetManualControl", id := 288, defPkg := "common", chain := ["avssuas", "common"] },
  { goName := "MessageEscInfo", id := 290, defPkg := "common", chain := ["avssuas", "common"] },
  { goName := "MessageEscStatus", id := 291, defPkg := "common", chain := ["avssuas", "common"] },
  { goName := "MessageWifiConfigAp", id := 299, defPkg := "common", chain := ["avssuas", "common"] },
  { goName := "MessageAisVessel", id := 301, defPkg := "common", chain := ["avssuas", "common"] },
  { goName := "MessageUavcanNodeStatus", id := 310, defPkg := "common", chain := ["avssuas", "common"] },
  { goName := "MessageUavcanNodeInfo", id := 311, defPkg := "common", chain := ["avssuas", "common"] },
  { goName := "MessageParamExtRequestRead", id := 320, defPkg := "common", chain := ["avssuas", "common"] },
  { goName := "MessageParamExtRequestList", id := 321, defPkg := "common", chain := ["avssuas", "common"] },
  { goName := "MessageParamExtValue", id := 322, defPkg := "common", chain := ["avssuas", "common"] }] ++
[
  { goName := "MessageParamExtSet", id := 323, defPkg := "common", chain := ["avssuas", "common"] },
  { goName := "MessageParamExtAck", id := 324, defPkg := "common", chain := ["avssuas", "common"] },
  { goName := "MessageObstacleDistance", id := 330, defPkg := "common", chain := ["avssuas", "common"] },
  { goName := "MessageOdometry", id := 331, defPkg := "common", chain := ["avssuas", "common"] },
  { goName := "MessageTrajectoryRepresentationWaypoints", id := 332, defPkg := "common", chain := ["avssuas", "common"] },
  { goName := "MessageTrajectoryRepresentationBezier", id := 333, defPkg := "common", chain := ["avssuas", "common"] },
  { goName := "MessageCellularStatus", id := 334, defPkg := "common", chain := ["avssuas", "common"] },
  { goName := "MessageIsbdLinkStatus", id := 335, defPkg := "common", chain := ["avssuas", "common"] },
  { goName := "MessageCellularConfig", id := 336, defPkg := "common", chain := ["avssuas", "common"] },
  { goName := "MessageRawRpm", id := 339, defPkg := "common", chain := ["avssuas", "common"] },
  { goName := "MessageUtmGlobalPosition", id := 340, defPkg := "common", chain := ["avssuas", "common"] },
  { goName := "MessageDebugFloatArray", id := 350, defPkg := "common", chain := ["avssuas", "common"] },
  { goName := "MessageOrbitExecutionStatus", id := 360, defPkg := "common", chain := ["avssuas", "common"] },
  { goName := "MessageSmartBatteryInfo", id := 370, defPkg := "common", chain := ["avssuas", "common"] },
  { goName := "MessageFuelStatus", id := 371, defPkg := "common", chain := ["avssuas", "common"] },
  { goName := "MessageBatteryInfo", id := 372, defPkg := "common", chain := ["avssuas", "common"] },
  { goName := "MessageGeneratorStatus", id := 373, defPkg := "common", chain := ["avssuas", "common"] },
  { goName := "MessageActuatorOutputStatus", id := 375, defPkg := "common", chain := ["avssuas", "common"] },
  { goName := "MessageTimeEstimateToTarget", id := 380, defPkg := "common", chain := ["avssuas", "common"] },
  { goName := "MessageTunnel", id := 385, defPkg := "common", chain := ["avssuas", "common"] },
  { goName := "MessageCanFrame", id := 386, defPkg := "common", chain := ["avssuas", "common"] },
  { goName := "MessageOnboardComputerStatus", id := 390, defPkg := "common", chain := ["avssuas", "common"] },
  { goName := "MessageComponentInformation", id := 395, defPkg := "common", chain := ["avssuas", "common"] },
  { goName := "MessageComponentInformationBasic", id := 396, defPkg := "common", chain := ["avssuas", "common"] },
  { goName := "MessageComponentMetadata", id := 397, defPkg := "common", chain := ["avssuas", "common"] },
  { goName := "MessagePlayTuneV2", id := 400, defPkg := "common", chain := ["avssuas", "common"] },
  { goName := "MessageSupportedTunes", id := 401, defPkg := "common", chain := ["avssuas", "common"] },
  { goName := "MessageEvent", id := 410, defPkg := "common", chain := ["avssuas", "common"] },
  { goName := "MessageCurrentEventSequence", id := 411, defPkg := "common", chain := ["avssuas", "common"] },
  { goName := "MessageRequestEvent", id := 412, defPkg := "common", chain := ["avssuas", "common"] }] ++
[
  { goName := "MessageResponseEventError", id := 413, defPkg := "common", chain := ["avssuas", "common"] },
  { goName := "MessageAvailableModes", id := 435, defPkg := "common", chain := ["avssuas", "common"] },
  { goName := "MessageCurrentMode", id := 436, defPkg := "common", chain := ["avssuas", "common"] },
  { goName := "MessageAvailableModesMonitor", id := 437, defPkg := "common", chain := ["avssuas", "common"] },
  { goName := "MessageIlluminatorStatus", id := 440, defPkg := "common", chain := ["avssuas", "common"] },
  { goName := "MessageCanfdFrame", id := 387, defPkg := "common", chain := ["avssuas", "common"] },
  { goName := "MessageCanFilterModify", id := 388, defPkg := "common", chain := ["avssuas", "common"] },
  { goName := "MessageWheelDistance", id := 9000, defPkg := "common", chain := ["avssuas", "common"] },
  { goName := "MessageWinchStatus", id := 9005, defPkg := "common", chain := ["avssuas", "common"] },
  { goName := "MessageOpenDroneIdBasicId", id := 12900, defPkg := "common", chain := ["avssuas", "common"] },
  { goName := "MessageOpenDroneIdLocation", id := 12901, defPkg := "common", chain := ["avssuas", "common"] },
  { goName := "MessageOpenDroneIdAuthentication", id := 12902, defPkg := "common", chain := ["avssuas", "common"] },
  { goName := "MessageOpenDroneIdSelfId", id := 12903, defPkg := "common", chain := ["avssuas", "common"] },
  { goName := "MessageOpenDroneIdSystem", id := 12904, defPkg := "common", chain := ["avssuas", "common"] },
  { goName := "MessageOpenDroneIdOperatorId", id := 12905, defPkg := "common", chain := ["avssuas", "common"] },
  { goName := "MessageOpenDroneIdMessagePack", id := 12915, defPkg := "common", chain := ["avssuas", "common"] },
  { goName := "MessageOpenDroneIdArmStatus", id := 12918, defPkg := "common", chain := ["avssuas", "common"] },
  { goName := "MessageOpenDroneIdSystemUpdate", id := 12919, defPkg := "common", chain := ["avssuas", "common"] },
  { goName := "MessageHygrometerSensor", id := 12920, defPkg := "common", chain := ["avssuas", "common"] },
  { goName := "MessageAvssPrsSysStatus", id := 60050, defPkg := "avssuas", chain := ["avssuas"] },
  { goName := "MessageAvssDronePosition", id := 60051, defPkg := "avssuas", chain := ["avssuas"] },
  { goName := "MessageAvssDroneImu", id := 60052, defPkg := "avssuas", chain := ["avssuas"] },
  { goName := "MessageAvssDroneOperationMode", id := 60053, defPkg := "avssuas", chain := ["avssuas"] }] }

/-- the message ids of dialect avssuas, in the order of its message list -/
def ids_avssuas : List Nat := [0, 300, 1, 2, 4, 5, 6, 7, 8, 11, 20, 21, 22, 23, 24, 25, 26, 27, 28, 29, 30, 31, 32, 33, 34, 35, 36, 37, 38, 39, 40, 41, 42, 43, 44, 45, 46, 47, 48, 49] ++ [50, 51, 54, 55, 61, 62, 63, 64, 65, 66, 67, 69, 70, 73, 74, 75, 76, 77, 80, 81, 82, 83, 84, 85, 86, 87, 89, 90, 91, 92, 93, 100, 101, 102, 103, 104, 105, 106, 107, 108] ++ [109, 110, 111, 112, 113, 114, 115, 116, 117, 118, 119, 120, 121, 122, 123, 124, 125, 126, 127, 128, 129, 130, 131, 132, 133, 134, 135, 136, 137, 138, 139, 140, 141, 142, 143, 144, 146, 147, 148, 149] ++ [162, 192, 225, 230, 231, 232, 233, 234, 235, 241, 242, 243, 244, 245, 246, 247, 248, 249, 250, 251, 252, 253, 254, 256, 257, 258, 259, 260, 261, 262, 263, 264, 265, 266, 267, 268, 269, 270, 271, 275] ++ [276, 277, 280, 281, 282, 283, 284, 285, 286, 287, 288, 290, 291, 299, 301, 310, 311, 320, 321, 322, 323, 324, 330, 331, 332, 333, 334, 335, 336, 339, 340, 350, 360, 370, 371, 372, 373, 375, 380, 385] ++ [386, 390, 395, 396, 397, 400, 401, 410, 411, 412, 413, 435, 436, 437, 440, 387, 388, 9000, 9005, 12900, 12901, 12902, 12903, 12904, 12905, 12915, 12918, 12919, 12920, 60050, 60051, 60052, 60053]

def dialect_common : Dialect := { name := "common", version := 3, msgs :=
[
  { goName := "MessageHeartbeat", id := 0, defPkg := "minimal", chain := ["common", "minimal"] },
  { goName := "MessageProtocolVersion", id := 300, defPkg := "minimal", chain := ["common", "minimal"] },
  { goName := "MessageSysStatus", id := 1, defPkg := "common", chain := ["common"] },
  { goName := "MessageSystemTime", id := 2, defPkg := "common", chain := ["common"] },
  { goName := "MessagePing", id := 4, defPkg := "common", chain := ["common"] },
  { goName := "MessageChangeOperatorControl", id := 5, defPkg := "common", chain := ["common"] },
  { goName := "MessageChangeOperatorControlAck", id := 6, defPkg := "common", chain := ["common"] },
  { goName := "MessageAuthKey", id := 7, defPkg := "common", chain := ["common"] },
  { goName := "MessageLinkNodeStatus", id := 8, defPkg := "common", chain := ["common"] },
  { goName := "MessageSetMode", id := 11, defPkg := "common", chain := ["common"] },
  { goName := "MessageParamRequestRead", id := 20, defPkg := "common", chain := ["common"] },
  { goName := "MessageParamRequestList", id := 21, defPkg := "common", chain := ["common"] },
  { goName := "MessageParamValue", id := 22, defPkg := "common", chain := ["common"] },
  { goName := "MessageParamSet", id := 23, defPkg := "common", chain := ["common"] },
  { goName := "MessageGpsRawInt", id := 24, defPkg := "common", chain := ["common"] },
  { goName := "MessageGpsStatus", id := 25, defPkg := "common", chain := ["common"] },
  { goName := "MessageScaledImu", id := 26, defPkg := "common", chain := ["common"] },
  { goName := "MessageRawImu", id := 27, defPkg := "common", chain := ["common"] },
  { goName := "MessageRawPressure", id := 28, defPkg := "common", chain := ["common"] },
  { goName := "MessageScaledPressure", id := 29, defPkg := "common", chain := ["common"] },
  { goName := "MessageAttitude", id := 30, defPkg := "common", chain := ["common"] },
  { goName := "MessageAttitudeQuaternion", id := 31, defPkg := "common", chain := ["common"] },
  { goName := "MessageLocalPositionNed", id := 32, defPkg := "common", chain := ["common"] },
  { goName := "MessageGlobalPositionInt", id := 33, defPkg := "common", chain := ["common"] },
  { goName := "MessageRcChannelsScaled", id := 34, defPkg := "common", chain := ["common"] },
  { goName := "MessageRcChannelsRaw", id := 35, defPkg := "common", chain := ["common"] },
  { goName := "MessageServoOutputRaw", id := 36, defPkg := "common", chain := ["common"] },
  { goName := "MessageMissionRequestPartialList", id := 37, defPkg := "common", chain := ["common"] },
  { goName := "MessageMissionWritePartialList", id := 38, defPkg := "common", chain := ["common"] },
  { goName := "MessageMissionItem", id := 39, defPkg := "common", chain := ["common"] }] ++
[
  { goName := "MessageMissionRequest", id := 40, defPkg := "common", chain := ["common"] },
  { goName := "MessageMissionSetCurrent", id := 41, defPkg := "common", chain := ["common"] },
  { goName := "MessageMissionCurrent", id := 42, defPkg := "common", chain := ["common"] },
  { goName := "MessageMissionRequestList", id := 43, defPkg := "common", chain := ["common"] },
  { goName := "MessageMissionCount", id := 44, defPkg := "common", chain := ["common"] },
  { goName := "MessageMissionClearAll", id := 45, defPkg := "common", chain := ["common"] },
  { goName := "MessageMissionItemReached", id := 46, defPkg := "common", chain := ["common"] },
  { goName := "MessageMissionAck", id := 47, defPkg := "common", chain := ["common"] },
  { goName := "MessageSetGpsGlobalOrigin", id := 48, defPkg := "common", chain := ["common"] },
  { goName := "MessageGpsGlobalOrigin", id := 49, defPkg := "common", chain := ["common"] },
  { goName := "MessageParamMapRc", id := 50, defPkg := "common", chain := ["common"] },
  { goName := "MessageMissionRequestInt", id := 51, defPkg := "common", chain := ["common"] },
  { goName := "MessageSafetySetAllowedArea", id := 54, defPkg := "common", chain := ["common"] },
  { goName := "MessageSafetyAllowedArea", id := 55, defPkg := "common", chain := ["common"] },
  { goName := "MessageAttitudeQuaternionCov", id := 61, defPkg := "common", chain := ["common"] },
  { goName := "MessageNavControllerOutput", id := 62, defPkg := "common", chain := ["common"] },
  { goName := "MessageGlobalPositionIntCov", id := 63, defPkg := "common", chain := ["common"] },
  { goName := "MessageLocalPositionNedCov", id := 64, defPkg := "common", chain := ["common"] },
  { goName := "MessageRcChannels", id := 65, defPkg := "common", chain := ["common"] },
  { goName := "MessageRequestDataStream", id := 66, defPkg := "common", chain := ["common"] },
  { goName := "MessageDataStream", id := 67, defPkg := "common", chain := ["common"] },
  { goName := "MessageManualControl", id := 69, defPkg := "common", chain := ["common"] },
  { goName := "MessageRcChannelsOverride", id := 70, defPkg := "common", chain := ["common"] },
  { goName := "MessageMissionItemInt", id := 73, defPkg := "common", chain := ["common"] },
  { goName := "MessageVfrHud", id := 74, defPkg := "common", chain := ["common"] },
  { goName := "MessageCommandInt", id := 75, defPkg := "common", chain := ["common"] },
  { goName := "MessageCommandLong", id := 76, defPkg := "common", chain := ["common"] },
  { goName := "MessageCommandAck", id := 77, defPkg := "common", chain := ["common"] },
  { goName := "MessageCommandCancel", id := 80, defPkg := "common", chain := ["common"] },
  { goName := "MessageManualSetpoint", id := 81, defPkg := "common", chain := ["common"] }] ++
[
  { goName := "MessageSetAttitudeTarget", id := 82, defPkg := "common", chain := ["common"] },
  { goName := "MessageAttitudeTarget", id := 83, defPkg := "common", chain := ["common"] },
  { goName := "MessageSetPositionTargetLocalNed", id := 84, defPkg := "common", chain := ["common"] },
  { goName := "MessagePositionTargetLocalNed", id := 85, defPkg := "common", chain := ["common"] },
  { goName := "MessageSetPositionTargetGlobalInt", id := 86, defPkg := "common", chain := ["common"] },
  { goName := "MessagePositionTargetGlobalInt", id := 87, defPkg := "common", chain := ["common"] },
  { goName := "MessageLocalPositionNedSystemGlobalOffset", id := 89, defPkg := "common", chain := ["common"] },
  { goName := "MessageHilState", id := 90, defPkg := "common", chain := ["common"] },
  { goName := "MessageHilControls", id := 91, defPkg := "common", chain := ["common"] },
  { goName := "MessageHilRcInputsRaw", id := 92, defPkg := "common", chain := ["common"] },
  { goName := "MessageHilActuatorControls", id := 93, defPkg := "common", chain := ["common"] },
  { goName := "MessageOpticalFlow", id := 100, defPkg := "common", chain := ["common"] },
  { goName := "MessageGlobalVisionPositionEstimate", id := 101, defPkg := "common", chain := ["common"] },
  { goName := "MessageVisionPositionEstimate", id := 102, defPkg := "common", chain := ["common"] },
  { goName := "MessageVisionSpeedEstimate", id := 103, defPkg := "common", chain := ["common"] },
  { goName := "MessageViconPositionEstimate", id := 104, defPkg := "common", chain := ["common"] },
  { goName := "MessageHighresImu", id := 105, defPkg := "common", chain := ["common"] },
  { goName := "MessageOpticalFlowRad", id := 106, defPkg := "common", chain := ["common"] },
  { goName := "MessageHilSensor", id := 107, defPkg := "common", chain := ["common"] },
  { goName := "MessageSimState", id := 108, defPkg := "common", chain := ["common"] },
  { goName := "MessageRadioStatus", id := 109, defPkg := "common", chain := ["common"] },
  { goName := "MessageFileTransferProtocol", id := 110, defPkg := "common", chain := ["common"] },
  { goName := "MessageTimesync", id := 111, defPkg := "common", chain := ["common"] },
  { goName := "MessageCameraTrigger", id := 112, defPkg := "common", chain := ["common"] },
  { goName := "MessageHilGps", id := 113, defPkg := "common", chain := ["common"] },
  { goName := "MessageHilOpticalFlow", id := 114, defPkg := "common", chain := ["common"] },
  { goName := "MessageHilStateQuaternion", id := 115, defPkg := "common", chain := ["common"] },
  { goName := "MessageScaledImu2", id := 116, defPkg := "common", chain := ["common"] },
  { goName := "MessageLogRequestList", id := 117, defPkg := "common", chain := ["common"] },
  { goName := "MessageLogEntry", id := 118, defPkg := "common", chain := ["common"] }] ++
[
  { goName := "MessageLogRequestData", id := 119, defPkg := "common", chain := ["common"] },
  { goName := "MessageLogData", id := 120, defPkg := "common", chain := ["common"] },
  { goName := "MessageLogErase", id := 121, defPkg := "common", chain := ["common"] },
  { goName := "MessageLogRequestEnd", id := 122, defPkg := "common", chain := ["common"] },
  { goName := "MessageGpsInjectData", id := 123, defPkg := "common", chain := ["common"] },
  { goName := "MessageGps2Raw", id := 124, defPkg := "common", chain := ["common"] },
  { goName := "MessagePowerStatus", id := 125, defPkg := "common", chain := ["common"] },
  { goName := "MessageSerialControl", id := 126, defPkg := "common", chain := ["common"] },
  { goName := "MessageGpsRtk", id := 127, defPkg := "common", chain := ["common"] },
  { goName := "MessageGps2Rtk", id := 128, defPkg := "common", chain := ["common"] },
  { goName := "MessageScaledImu3", id := 129, defPkg := "common", chain := ["common"] },
  { goName := "MessageDataTransmissionHandshake", id := 130, defPkg := "common", chain := ["common"] },
  { goName := "MessageEncapsulatedData", id := 131, defPkg := "common", chain := ["common"] },
  { goName := "MessageDistanceSensor", id := 132, defPkg := "common", chain := ["common"] },
  { goName := "MessageTerrainRequest", id := 133, defPkg := "common", chain := ["common"] },
  { goName := "MessageTerrainData", id := 134, defPkg := "common", chain := ["common"] },
  { goName := "MessageTerrainCheck", id := 135, defPkg := "common", chain := ["common"] },
  { goName := "MessageTerrainReport", id := 136, defPkg := "common", chain := ["common"] },
  { goName := "MessageScaledPressure2", id := 137, defPkg := "common", chain := ["common"] },
  { goName := "MessageAttPosMocap", id := 138, defPkg := "common", chain := ["common"] },
  { goName := "MessageSetActuatorControlTarget", id := 139, defPkg := "common", chain := ["common"] },
  { goName := "MessageActuatorControlTarget", id := 140, defPkg := "common", chain := ["common"] },
  { goName := "MessageAltitude", id := 141, defPkg := "common", chain := ["common"] },
  { goName := "MessageResourceRequest", id := 142, defPkg := "common", chain := ["common"] },
  { goName := "MessageScaledPressure3", id := 143, defPkg := "common", chain := ["common"] },
  { goName := "MessageFollowTarget", id := 144, defPkg := "common", chain := ["common"] },
  { goName := "MessageControlSystemState", id := 146, defPkg := "common", chain := ["common"] },
  { goName := "MessageBatteryStatus", id := 147, defPkg := "common", chain := ["common"] },
  { goName := "MessageAutopilotVersion", id := 148, defPkg := "common", chain := ["common"] },
  { goName := "MessageLandingTarget", id := 149, defPkg := "common", chain := ["common"] }] ++
[
  { goName := "MessageFenceStatus", id := 162, defPkg := "common", chain := ["common"] },
  { goName := "MessageMagCalReport", id := 192, defPkg := "common", chain := ["common"] },
  { goName := "MessageEfiStatus", id := 225, defPkg := "common", chain := ["common"] },
  { goName := "MessageEstimatorStatus", id := 230, defPkg := "common", chain := ["common"] },
  { goName := "MessageWindCov", id := 231, defPkg := "common", chain := ["common"] },
  { goName := "MessageGpsInput", id := 232, defPkg := "common", chain := ["common"] },
  { goName := "MessageGpsRtcmData", id := 233, defPkg := "common", chain := ["common"] },
  { goName := "MessageHighLatency", id := 234, defPkg := "common", chain := ["common"] },
  { goName := "MessageHighLatency2", id := 235, defPkg := "common", chain := ["common"] },
  { goName := "MessageVibration", id := 241, defPkg := "common", chain := ["common"] },
  { goName := "MessageHomePosition", id := 242, defPkg := "common", chain := ["common"] },
  { goName := "MessageSetHomePosition", id := 243, defPkg := "common", chain := ["common"] },
  { goName := "MessageMessageInterval", id := 244, defPkg := "common", chain := ["common"] },
  { goName := "MessageExtendedSysState", id := 245, defPkg := "common", chain := ["common"] },
  { goName := "MessageAdsbVehicle", id := 246, defPkg := "common", chain := ["common"] },
  { goName := "MessageCollision", id := 247, defPkg := "common", chain := ["common"] },
  { goName := "MessageV2Extension", id := 248, defPkg := "common", chain := ["common"] },
  { goName := "MessageMemoryVect", id := 249, defPkg := "common", chain := ["common"] },
  { goName := "MessageDebugVect", id := 250, defPkg := "common", chain := ["common"] },
  { goName := "MessageNamedValueFloat", id := 251, defPkg := "common", chain := ["common"] },
  { goName := "MessageNamedValueInt", id := 252, defPkg := "common", chain := ["common"] },
  { goName := "MessageStatustext", id := 253, defPkg := "common", chain := ["common"] },
  { goName := "MessageDebug", id := 254, defPkg := "common", chain := ["common"] },
  { goName := "MessageSetupSigning", id := 256, defPkg := "common", chain := ["common"] },
  { goName := "MessageButtonChange", id := 257, defPkg := "common", chain := ["common"] },
  { goName := "MessagePlayTune", id := 258, defPkg := "common", chain := ["common"] },
  { goName := "MessageCameraInformation", id := 259, defPkg := "common", chain := ["common"] },
  { goName := "MessageCameraSettings", id := 260, defPkg := "common", chain := ["common"] },
  { goName := "MessageStorageInformation", id := 261, defPkg := "common", chain := ["common"] },
  { goName := "MessageCameraCaptureStatus", id := 262, defPkg := "common", chain := ["common"] }] ++
[
  { goName := "MessageCameraImageCaptured", id := 263, defPkg := "common", chain := ["common"] },
  { goName := "MessageFlightInformation", id := 264, defPkg := "common", chain := ["common"] },
  { goName := "MessageMountOrientation", id := 265, defPkg := "common", chain := ["common"] },
  { goName := "MessageLoggingData", id := 266, defPkg := "common", chain := ["common"] },
  { goName := "MessageLoggingDataAcked", id := 267, defPkg := "common", chain := ["common"] },
  { goName := "MessageLoggingAck", id := 268, defPkg := "common", chain := ["common"] },
  { goName := "MessageVideoStreamInformation", id := 269, defPkg := "common", chain := ["common"] },
  { goName := "MessageVideoStreamStatus", id := 270, defPkg := "common", chain := ["common"] },
  { goName := "MessageCameraFovStatus", id := 271, defPkg := "common", chain := ["common"] },
  { goName := "MessageCameraTrackingImageStatus", id := 275, defPkg := "common", chain := ["common"] },
  { goName := "MessageCameraTrackingGeoStatus", id := 276, defPkg := "common", chain := ["common"] },
  { goName := "MessageCameraThermalRange", id := 277, defPkg := "common", chain := ["common"] },
  { goName := "MessageGimbalManagerInformation", id := 280, defPkg := "common", chain := ["common"] },
  { goName := "MessageGimbalManagerStatus", id := 281, defPkg := "common", chain := ["common"] },
  { goName := "MessageGimbalManagerSetAttitude", id := 282, defPkg := "common", chain := ["common"] },
  { goName := "MessageGimbalDeviceInformation", id := 283, defPkg := "common", chain := ["common"] },
  { goName := "MessageGimbalDeviceSetAttitude", id := 284, defPkg := "common", chain := ["common"] },
  { goName := "MessageGimbalDeviceAttitudeStatus", id := 285, defPkg := "common", chain := ["common"] },
  { goName := "MessageAutopilotStateForGimbalDevice", id := 286, defPkg := "common", chain := ["common"] },
  { goName := "MessageGimbalManagerSetPitchyaw", id := 287, defPkg := "common", chain := ["common"] },
  { goName := "MessageGimbalManagerSetManualControl", id := 288, defPkg := "common", chain := ["common"] },
  { goName := "MessageEscInfo", id := 290, defPkg := "common", chain := ["common"] },
  { goName := "MessageEscStatus", id := 291, defPkg := "common", chain := ["common"] },
  { goName := "MessageWifiConfigAp", id := 299, defPkg := "common", chain := ["common"] },
  { goName := "MessageAisVessel", id := 301, defPkg := "common", chain := ["common"] },
  { goName := "MessageUavcanNodeStatus", id := 310, defPkg := "common", chain := ["common"] },
  { goName := "MessageUavcanNodeInfo", id := 311, defPkg := "common", chain := ["common"] },
  { goName := "MessageParamExtRequestRead", id := 320, defPkg := "common", chain := ["common"] },
  { goName := "MessageParamExtRequestList", id := 321, defPkg := "common", chain := ["common"] },
  { goName := "MessageParamExtValue", id := 322, defPkg := "common", chain := ["common"] }] ++
[
  { goName := "MessageParamExtSet", id := 323, defPkg := "common", chain := ["common"] },
  { goName := "MessageParamExtAck", id := 324, defPkg := "common", chain := ["common"] },
  { goName := "MessageObstacleDistance", id := 330, defPkg := "common", chain := ["common"] },
  { goName := "MessageOdometry", id := 331, defPkg := "common", chain := ["common"] },
  { goName := "MessageTrajectoryRepresentationWaypoints", id := 332, defPkg := "common", chain := ["common"] },
  { goName := "MessageTrajectoryRepresentationBezier", id := 333, defPkg := "common", chain := ["common"] },
  { goName := "MessageCellularStatus", id := 334, defPkg := "common", chain := ["common"] },
  { goName := "MessageIsbdLinkStatus", id := 335, defPkg := "common", chain := ["common"] },
  { goName := "MessageCellularConfig", id := 336, defPkg := "common", chain := ["common"] },
  { goName := "MessageRawRpm", id := 339, defPkg := "common", chain := ["common"] },
  { goName := "MessageUtmGlobalPosition", id := 340, defPkg := "common", chain := ["common"] },
  { goName := "MessageDebugFloatArray", id := 350, defPkg := "common", chain := ["common"] },
  { goName := "MessageOrbitExecutionStatus", id := 360, defPkg := "common", chain := ["common"] },
  { goName := "MessageSmartBatteryInfo", id := 370, defPkg := "common", chain := ["common"] },
  { goName := "MessageFuelStatus", id := 371, defPkg := "common", chain := ["common"] },
  { goName := "MessageBatteryInfo", id := 372, defPkg := "common", chain := ["common"] },
  { goName := "MessageGeneratorStatus", id := 373, defPkg := "common", chain := ["common"] },
  { goName := "MessageActuatorOutputStatus", id := 375, defPkg := "common", chain := ["common"] },
  { goName := "MessageTimeEstimateToTarget", id := 380, defPkg := "common", chain := ["common"] },
  { goName := "MessageTunnel", id := 385, defPkg := "common", chain := ["common"] },
  { goName := "MessageCanFrame", id := 386, defPkg := "common", chain := ["common"] },
  { goName := "MessageOnboardComputerStatus", id := 390, defPkg := "common", chain := ["common"] },
  { goName := "MessageComponentInformation", id := 395, defPkg := "common", chain := ["common"] },
  { goName := "MessageComponentInformationBasic", id := 396, defPkg := "common", chain := ["common"] },
  { goName := "MessageComponentMetadata", id := 397, defPkg := "common", chain := ["common"] },
  { goName := "MessagePlayTuneV2", id := 400, defPkg := "common", chain := ["common"] },
  { goName := "MessageSupportedTunes", id := 401, defPkg := "common", chain := ["common"] },
  { goName := "MessageEvent", id := 410, defPkg := "common", chain := ["common"] },
  { goName := "MessageCurrentEventSequence", id := 411, defPkg := "common", chain := ["common"] },
  { goName := "MessageRequestEvent", id := 412, defPkg := "common", chain := ["common"] }] ++
[
  { goName := "MessageResponseEventError", id := 413, defPkg := "common", chain := ["common"] },
  { goName := "MessageAvailableModes", id := 435, defPkg := "common", chain := ["common"] },
  { goName := "MessageCurrentMode", id := 436, defPkg := "common", chain := ["common"] },
  { goName := "MessageAvailableModesMonitor", id := 437, defPkg := "common", chain := ["common"] },
  { goName := "MessageIlluminatorStatus", id := 440, defPkg := "common", chain := ["common"] },
  { goName := "MessageCanfdFrame", id := 387, defPkg := "common", chain := ["common"] },
  { goName := "MessageCanFilterModify", id := 388, defPkg := "common", chain := ["common"] },
  { goName := "MessageWheelDistance", id := 9000, defPkg := "common", chain := ["common"] },
  { goName := "MessageWinchStatus", id := 9005, defPkg := "common", chain := ["common"] },
  { goName := "MessageOpenDroneIdBasicId", id := 12900, defPkg := "common", chain := ["common"] },
  { goName := "MessageOpenDroneIdLocation", id := 12901, defPkg := "common", chain := ["common"] },
  { goName := "MessageOpenDroneIdAuthentication", id := 12902, defPkg := "common", chain := ["common"] },
  { goName := "MessageOpenDroneIdSelfId", id := 12903, defPkg := "common", chain := ["common"] },
  { goName := "MessageOpenDroneIdSystem", id := 12904, defPkg := "common", chain := ["common"] },
  { goName := "MessageOpenDroneIdOperatorId", id := 12905, defPkg := "common", chain := ["common"] },
  { goName := "MessageOpenDroneIdMessagePack", id := 12915, defPkg := "common", chain := ["common"] },
  { goName := "MessageOpenDroneIdArmStatus", id := 12918, defPkg := "common", chain := ["common"] },
  { goName := "MessageOpenDroneIdSystemUpdate", id := 12919, defPkg := "common", chain := ["common"] },
  { goName := "MessageHygrometerSensor", id := 12920, defPkg := "common", chain := ["common"] }] }

/-- the message ids of dialect common, in the order of its message list -/
def ids_common : List Nat := [0, 300, 1, 2, 4, 5, 6, 7, 8, 11, 20, 21, 22, 23, 24, 25, 26, 27, 28, 29, 30, 31, 32, 33, 34, 35, 36, 37, 38, 39, 40, 41, 42, 43, 44, 45, 46, 47, 48, 49] ++ [50, 51, 54, 55, 61, 62, 63, 64, 65, 66, 67, 69, 70, 73, 74, 75, 76, 77, 80, 81, 82, 83, 84, 85, 86, 87, 89, 90, 91, 92, 93, 100, 101, 102, 103, 104, 105, 106, 107, 108] ++ [109, 110, 111, 112, 113, 114, 115, 116, 117, 118, 119, 120, 121, 122, 123, 124, 125, 126, 127, 128, 129, 130, 131, 132, 133, 134, 135, 136, 137, 138, 139, 140, 141, 142, 143, 144, 146, 147, 148, 149] ++ [162, 192, 225, 230, 231, 232, 233, 234, 235, 241, 242, 243, 244, 245, 246, 247, 248, 249, 250, 251, 252, 253, 254, 256, 257, 258, 259, 260, 261, 262, 263, 264, 265, 266, 267, 268, 269, 270, 271, 275] ++ [276, 277, 280, 281, 282, 283, 284, 285, 286, 287, 288, 290, 291, 299, 301, 310, 311, 320, 321, 322, 323, 324, 330, 331, 332, 333, 334, 335, 336, 339, 340, 350, 360, 370, 371, 372, 373, 375, 380, 385] ++ [386, 390, 395, 396, 397, 400, 401, 410, 411, 412, 413, 435, 436, 437, 440, 387, 388, 9000, 9005, 12900, 12901, 12902, 12903, 12904, 12905, 12915, 12918, 12919, 12920]

def dialect_csairlink : Dialect := { name := "csairlink", version := 3, msgs :=
[
  { goName := "MessageAirlinkAuth", id := 52000, defPkg := "csairlink", chain := ["csairlink"] },
  { goName := "MessageAirlinkAuthResponse", id := 52001, defPkg := "csairlink", chain := ["csairlink"] },
  { goName := "MessageAirlinkEyeGsHolePushRequest", id := 52002, defPkg := "csairlink", chain := ["csairlink"] },
  { goName := "MessageAirlinkEyeGsHolePushResponse", id := 52003, defPkg := "csairlink", chain := ["csairlink"] },
  { goName := "MessageAirlinkEyeHp", id := 52004, defPkg := "csairlink", chain := ["csairlink"] },
  { goName := "MessageAirlinkEyeTurnInit", id := 52005, defPkg := "csairlink", chain := ["csairlink"] }] }

/-- the message ids of dialect csairlink, in the order of its message list -/
def ids_csairlink : List Nat := [52000, 52001, 52002, 52003, 52004, 52005]

def dialect_cubepilot : Dialect := { name := "cubepilot", version := 3, msgs :=
[
  { goName := "MessageHeartbeat", id := 0, defPkg := "minimal", chain := ["cubepilot", "minimal"] },
  { goName := "MessageProtocolVersion", id := 300, defPkg := "minimal", chain := ["cubepilot", "minimal"] },
  { goName := "MessageSysStatus", id := 1, defPkg := "common", chain := ["cubepilot", "common"] },
  { goName := "MessageSystemTime", id := 2, defPkg := "common", chain := ["cubepilot", "common"] },
  { goName := "MessagePing", id := 4, defPkg := "common", chain := ["cubepilot", "common"] },
  { goName := "MessageChangeOperatorControl", id := 5, defPkg := "common", chain := ["cubepilot", "common"] },
  { goName := "MessageChangeOperatorControlAck", id := 6, defPkg := "common", chain := ["cubepilot", "common"] },
  { goName := "MessageAuthKey", id := 7, defPkg := "common", chain := ["cubepilot", "common"] },
  { goName := "MessageLinkNodeStatus", id := 8, defPkg := "common", chain := ["cubepilot", "common"] },
  { goName := "MessageSetMode", id := 11, defPkg := "common", chain := ["cubepilot", "common"] },
  { goName := "MessageParamRequestRead", id := 20, defPkg := "common", chain := ["cubepilot", "common"] },
  { goName := "MessageParamRequestList", id := 21, defPkg := "common", chain := ["cubepilot", "common"] },
  { goName := "MessageParamValue", id := 22, defPkg := "common", chain := ["cubepilot", "common"] },
  { goName := "MessageParamSet", id := 23, defPkg := "common", chain := ["cubepilot", "common"] },
  { goName := "MessageGpsRawInt", id := 24, defPkg := "common", chain := ["cubepilot", "common"] },
  { goName := "MessageGpsStatus", id := 25, defPkg := "common", chain := ["cubepilot", "common"] },
  { goName := "MessageScaledImu", id := 26, defPkg := "common", chain := ["cubepilot", "common"] },
  { goName := "MessageRawImu", id := 27, defPkg := "common", chain := ["cubepilot", "common"] },
  { goName := "MessageRawPressure", id := 28, defPkg := "common", chain := ["cubepilot", "common"] },
  { goName := "MessageScaledPressure", id := 29, defPkg := "common", chain := ["cubepilot", "common"] },
  { goName := "MessageAttitude", id := 30, defPkg := "common", chain := ["cubepilot", "common"] },
  { goName := "MessageAttitudeQuaternion", id := 31, defPkg := "common", chain := ["cubepilot", "common"] },
  { goName := "MessageLocalPositionNed", id := 32, defPkg := "common", chain := ["cubepilot", "common"] },
  { goName := "MessageGlobalPositionInt", id := 33, defPkg := "common", chain := ["cubepilot", "common"] },
  { goName := "MessageRcChannelsScaled", id := 34, defPkg := "common", chain := ["cubepilot", "common"] },
  { goName := "MessageRcChannelsRaw", id := 35, defPkg := "common", chain := ["cubepilot", "common"] },
  { goName := "MessageServoOutputRaw", id := 36, defPkg := "common", chain := ["cubepilot", "common"] },
  { goName := "MessageMissionRequestPartialList", id := 37, defPkg := "common", chain := ["cubepilot", "common"] },
  { goName := "MessageMissionWritePartialList", id := 38, defPkg := "common", chain := ["cubepilot", "common"] },
  { goName := "MessageMissionItem", id := 39, defPkg := "common", chain := ["cubepilot", "common"] }] ++
[
  { goName := "MessageMissionRequest", id := 40, defPkg := "common", chain := ["cubepilot", "common"] },
  { goName := "MessageMissionSetCurrent", id := 41, defPkg := "common", chain := ["cubepilot", "common"] },
  { goName := "MessageMissionCurrent", id := 42, defPkg := "common", chain := ["cubepilot", "common"] },
  { goName := "MessageMissionRequestList", id := 43, defPkg := "common", chain := ["cubepilot", "common"] },
  { goName := "MessageMissionCount", id := 44, defPkg := "common", chain := ["cubepilot", "common"] },
  { goName := "MessageMissionClearAll", id := 45, defPkg := "common", chain := ["cubepilot", "common"] },
  { goName := "MessageMissionItemReached", id := 46, defPkg := "common", chain := ["cubepilot", "common"] },
  { goName := "MessageMissionAck", id := 47, defPkg := "common", chain := ["cubepilot", "common"] },
  { goName := "MessageSetGpsGlobalOrigin", id := 48, defPkg := "common", chain := ["cubepilot", "common"] },
  { goName := "MessageGpsGlobalOrigin", id := 49, defPkg := "common", chain := ["cubepilot", "common"] },
  { goName := "MessageParamMapRc", id := 50, defPkg := "common", chain := ["cubepilot", "common"] },
  { goName := "MessageMissionRequestInt", id := 51, defPkg := "common", chain := ["cubepilot", "common"] },
  { goName := "MessageSafetySetAllowedArea", id := 54, defPkg := "common", chain := ["cubepilot", "common"] },
  { goName := "MessageSafetyAllowedArea", id := 55, defPkg := "common", chain := ["cubepilot", "common"] },
  { goName := "MessageAttitudeQuaternionCov", id := 61, defPkg := "common", chain := ["cubepilot", "common"] },
  { goName := "MessageNavControllerOutput", id := 62, defPkg := "common", chain := ["cubepilot", "common"] },
  { goName := "MessageGlobalPositionIntCov", id := 63, defPkg := "common", chain := ["cubepilot", "common"] },
  { goName := "MessageLocalPositionNedCov", id := 64, defPkg := "common", chain := ["cubepilot", "common"] },
  { goName := "MessageRcChannels", id := 65, defPkg := "common", chain := ["cubepilot", "common"] },
  { goName := "MessageRequestDataStream", id := 66, defPkg := "common", chain := ["cubepilot", "common"] },
  { goName := "MessageDataStream", id := 67, defPkg := "common", chain := ["cubepilot", "common"] },
  { goName := "MessageManualControl", id := 69, defPkg := "common", chain := ["cubepilot", "common"] },
  { goName := "MessageRcChannelsOverride", id := 70, defPkg := "common", chain := ["cubepilot", "common"] },
  { goName := "MessageMissionItemInt", id := 73, defPkg := "common", chain := ["cubepilot", "common"] },
  { goName := "MessageVfrHud", id := 74, defPkg := "common", chain := ["cubepilot", "common"] },
  { goName := "MessageCommandInt", id := 75, defPkg := "common", chain := ["cubepilot", "common"] },
  { goName := "MessageCommandLong", id := 76, defPkg := "common", chain := ["cubepilot", "common"] },
  { goName := "MessageCommandAck", id := 77, defPkg := "common", chain := ["cubepilot", "common"] },
  { goName := "MessageCommandCancel", id := 80, defPkg := "common", chain := ["cubepilot", "common"] },
  { goName := "MessageManualSetpoint", id := 81, defPkg := "common", chain := ["cubepilot", "common"] }] ++
[
  { goName := "MessageSetAttitudeTarget", id := 82, defPkg := "common", chain := ["cubepilot", "common"] },
  { goName := "MessageAttitudeTarget", id := 83, defPkg := "common", chain := ["cubepilot", "common"] },
  { goName := "MessageSetPositionTargetLocalNed", id := 84, defPkg := "common", chain := ["cubepilot", "common"] },
  { goName := "MessagePositionTargetLocalNed", id := 85, defPkg := "common", chain := ["cubepilot", "common"] },
  { goName := "MessageSetPositionTargetGlobalInt", id := 86, defPkg := "common", chain := ["cubepilot", "common"] },
  { goName := "MessagePositionTargetGlobalInt", id := 87, defPkg := "common", chain := ["cubepilot", "common"] },
  { goName := "MessageLocalPositionNedSystemGlobalOffset", id := 89, defPkg := "common", chain := ["cubepilot", "common"] },
  { goName := "MessageHilState", id := 90, defPkg := "common", chain := ["cubepilot", "common"] },
  { goName := "MessageHilControls", id := 91, defPkg := "common", chain := ["cubepilot", "common"] },
  { goName := "MessageHilRcInputsRaw", id := 92, defPkg := "common", chain := ["cubepilot", "common"] },
  { goName := "MessageHilActuatorControls", id := 93, defPkg := "common", chain := ["cubepilot", "common"] },
  { goName := "MessageOpticalFlow", id := 100, defPkg := "common", chain := ["cubepilot", "common"] },
  { goName := "MessageGlobalVisionPositionEstimate", id := 101, defPkg := "common", chain := ["cubepilot", "common"] },
  { goName := "MessageVisionPositionEstimate", id := 102, defPkg := "common", chain := ["cubepilot", "common"] },
  { goName := "MessageVisionSpeedEstimate", id := 103, defPkg := "common", chain := ["cubepilot", "common"] },
  { goName := "MessageViconPositionEstimate", id := 104, defPkg := "common", chain := ["cubepilot", "common"] },
  { goName := "MessageHighresImu", id := 105, defPkg := "common", chain := ["cubepilot", "common"] },
  { goName := "MessageOpticalFlowRad", id := 106, defPkg := "common", chain := ["cubepilot", "common"] },
  { goName := "MessageHilSensor", id := 107, defPkg := "common", chain := ["cubepilot", "common"] },
  { goName := "MessageSimState", id := 108, defPkg := "common", chain := ["cubepilot", "common"] },
  { goName := "MessageRadioStatus", id := 109, defPkg := "common", chain := ["cubepilot", "common"] },
  { goName := "MessageFileTransferProtocol", id := 110, defPkg := "common", chain := ["cubepilot", "common"] },
  { goName := "MessageTimesync", id := 111, defPkg := "common", chain := ["cubepilot", "common"] },
  { goName := "MessageCameraTrigger", id := 112, defPkg := "common", chain := ["cubepilot", "common"] },
  { goName := "MessageHilGps", id := 113, defPkg := "common", chain := ["cubepilot", "common"] },
  { goName := "MessageHilOpticalFlow", id := 114, defPkg := "common", chain := ["cubepilot", "common"] },
  { goName := "MessageHilStateQuaternion", id := 115, defPkg := "common", chain := ["cubepilot", "common"] },
  { goName := "MessageScaledImu2", id := 116, defPkg := "common", chain := ["cubepilot", "common"] },
  { goName := "MessageLogRequestList", id := 117, defPkg := "common", chain := ["cubepilot", "common"] },
  { goName := "MessageLogEntry", id := 118, defPkg := "common", chain := ["cubepilot", "common"] }] ++
[
  { goName := "MessageLogRequestData", id := 119, defPkg := "common", chain := ["cubepilot", "common"] },
  { goName := "MessageLogData", id := 120, defPkg := "common", chain := ["cubepilot", "common"] },
  { goName := "MessageLogErase", id := 121, defPkg := "common", chain := ["cubepilot", "common"] },
  { goName := "MessageLogRequestEnd", id := 122, defPkg := "common", chain := ["cubepilot", "common"] },
  { goName := "MessageGpsInjectData", id := 123, defPkg := "common", chain := ["cubepilot", "common"] },
  { goName := "MessageGps2Raw", id := 124, defPkg := "common", chain := ["cubepilot", "common"] },
  { goName := "MessagePowerStatus", id := 125, defPkg := "common", chain := ["cubepilot", "common"] },
  { goName := "MessageSerialControl", id := 126, defPkg := "common", chain := ["cubepilot", "common"] },
  { goName := "MessageGpsRtk", id := 127, defPkg := "common", chain := ["cubepilot", "common"] },
  { goName := "MessageGps2Rtk", id := 128, defPkg := "common", chain := ["cubepilot", "common"] },
  { goName := "MessageScaledImu3", id := 129, defPkg := "common", chain := ["cubepilot", "common"] },
  { goName := "MessageDataTransmissionHandshake", id := 130, defPkg := "common", chain := ["cubepilot", "common"] },
  { goName := "MessageEncapsulatedData", id := 131, defPkg := "common", chain := ["cubepilot", "common"] },
  { goName := "MessageDistanceSensor", id := 132, defPkg := "common", chain := ["cubepilot", "common"] },
  { goName := "MessageTerrainRequest", id := 133, defPkg := "common", chain := ["cubepilot", "common"] },
  { goName := "MessageTerrainData", id := 134, defPkg := "common", chain := ["cubepilot", "common"] },
  { goName := "MessageTerrainCheck", id := 135, defPkg := "common", chain := ["cubepilot", "common"] },
  { goName := "MessageTerrainReport", id := 136, defPkg := "common", chain := ["cubepilot", "common"] },
  { goName := "MessageScaledPressure2", id := 137, defPkg := "common", chain := ["cubepilot", "common"] },
  { goName := "MessageAttPosMocap", id := 138, defPkg := "common", chain := ["cubepilot", "common"] },
  { goName := "MessageSetActuatorControlTarget", id := 139, defPkg := "common", chain := ["cubepilot", "common"] },
  { goName := "MessageActuatorControlTarget", id := 140, defPkg := "common", chain := ["cubepilot", "common"] },
  { goName := "MessageAltitude", id := 141, defPkg := "common", chain := ["cubepilot", "common"] },
  { goName := "MessageResourceRequest", id := 142, defPkg := "common", chain := ["cubepilot", "common"] },
  { goName := "MessageScaledPressure3", id := 143, defPkg := "common", chain := ["cubepilot", "common"] },
  { goName := "MessageFollowTarget", id := 144, defPkg := "common", chain := ["cubepilot", "common"] },
  { goName := "MessageControlSystemState", id := 146, defPkg := "common", chain := ["cubepilot", "common"] },
  { goName := "MessageBatteryStatus", id := 147, defPkg := "common", chain := ["cubepilot", "common"] },
  { goName := "MessageAutopilotVersion", id := 148, defPkg := "common", chain := ["cubepilot", "common"] },
  { goName := "MessageLandingTarget", id := 149, defPkg := "common", chain := ["cubepilot", "common"] }] ++
[
  { goName := "MessageFenceStatus", id := 162, defPkg := "common", chain := ["cubepilot", "common"] },
  { goName := "MessageMagCalReport", id := 192, defPkg := "common", chain := ["cubepilot", "common"] },
  { goName := "MessageEfiStatus", id := 225, defPkg := "common", chain := ["cubepilot", "common"] },
  { goName := "MessageEstimatorStatus", id := 230, defPkg := "common", chain := ["cubepilot", "common"] },
  { goName := "MessageWindCov", id := 231, defPkg := "common", chain := ["cubepilot", "common"] },
  { goName := "MessageGpsInput", id := 232, defPkg := "common", chain := ["cubepilot", "common"] },
  { goName := "MessageGpsRtcmData", id := 233, defPkg := "common", chain := ["cubepilot", "common"] },
  { goName := "MessageHighLatency", id := 234, defPkg := "common", chain := ["cubepilot", "common"] },
  { goName := "MessageHighLatency2", id := 235, defPkg := "common", chain := ["cubepilot", "common"] },
  { goName := "MessageVibration", id := 241, defPkg := "common", chain := ["cubepilot", "common"] },
  { goName := "MessageHomePosition", id := 242, defPkg := "common", chain := ["cubepilot", "common"] },
  { goName := "MessageSetHomePosition", id := 243, defPkg := "common", chain := ["cubepilot", "common"] },
  { goName := "MessageMessageInterval", id := 244, defPkg := "common", chain := ["cubepilot", "common"] },
  { goName := "MessageExtendedSysState", id := 245, defPkg := "common", chain := ["cubepilot", "common"] },
  { goName := "MessageAdsbVehicle", id := 246, defPkg := "common", chain := ["cubepilot", "common"] },
  { goName := "MessageCollision", id := 247, defPkg := "common", chain := ["cubepilot", "common"] },
  { goName := "MessageV2Extension", id := 248, defPkg := "common", chain := ["cubepilot", "common"] },
  { goName := "MessageMemoryVect", id := 249, defPkg := "common", chain := ["cubepilot", "common"] },
  { goName := "MessageDebugVect", id := 250, defPkg := "common", chain := ["cubepilot", "common"] },
  { goName := "MessageNamedValueFloat", id := 251, defPkg := "common", chain := ["cubepilot", "common"] },
  { goName := "MessageNamedValueInt", id := 252, defPkg := "common", chain := ["cubepilot", "common"] },
  { goName := "MessageStatustext", id := 253, defPkg := "common", chain := ["cubepilot", "common"] },
  { goName := "MessageDebug", id := 254, defPkg := "common", chain := ["cubepilot", "common"] },
  { goName := "MessageSetupSigning", id := 256, defPkg := "common", chain := ["cubepilot", "common"] },
  { goName := "MessageButtonChange", id := 257, defPkg := "common", chain := ["cubepilot", "common"] },
  { goName := "MessagePlayTune", id := 258, defPkg := "common", chain := ["cubepilot", "common"] },
  { goName := "MessageCameraInformation", id := 259, defPkg := "common", chain := ["cubepilot", "common"] },
  { goName := "MessageCameraSettings", id := 260, defPkg := "common", chain := ["cubepilot", "common"] },
  { goName := "MessageStorageInformation", id := 261, defPkg := "common", chain := ["cubepilot", "common"] },
  { goName := "MessageCameraCaptureStatus", id := 262, defPkg := "common", chain := ["cubepilot", "common"] }] ++
[
  { goName := "MessageCameraImageCaptured", id := 263, defPkg := "common", chain := ["cubepilot", "common"] },
  { goName := "MessageFlightInformation", id := 264, defPkg := "common", chain := ["cubepilot", "common"] },
  { goName := "MessageMountOrientation", id := 265, defPkg := "common", chain := ["cubepilot", "common"] },
  { goName := "MessageLoggingData", id := 266, defPkg := "common", chain := ["cubepilot", "common"] },
  { goName := "MessageLoggingDataAcked", id := 267, defPkg := "common", chain := ["cubepilot", "common"] },
  { goName := "MessageLoggingAck", id := 268, defPkg := "common", chain := ["cubepilot", "common"] },
  { goName := "MessageVideoStreamInformation", id := 269, defPkg := "common", chain := ["cubepilot", "common"] },
  { goName := "MessageVideoStreamStatus", id := 270, defPkg := "common", chain := ["cubepilot", "common"] },
  { goName := "MessageCameraFovStatus", id := 271, defPkg := "common", chain := ["cubepilot", "common"] },
  { goName := "MessageCameraTrackingImageStatus", id := 275, defPkg := "common", chain := ["cubepilot", "common"] },
  { goName := "MessageCameraTrackingGeoStatus", id := 276, defPkg := "common", chain := ["cubepilot", "common"] },
  { goName := "MessageCameraThermalRange", id := 277, defPkg := "common", chain := ["cubepilot", "common"] },
  { goName := "MessageGimbalManagerInformation", id := 280, defPkg := "common", chain := ["cubepilot", "common"] },
  { goName := "MessageGimbalManagerStatus", id := 281, defPkg := "common", chain := ["cubepilot", "common"] },
  { goName := "MessageGimbalManagerSetAttitude", id := 282, defPkg := "common", chain := ["cubepilot", "common"] },
  { goName := "MessageGimbalDeviceInformation", id := 283, defPkg := "common", chain := ["cubepilot", "common"] },
  { goName := "MessageGimbalDeviceSetAttitude", id := 284, defPkg := "common", chain := ["cubepilot", "common"] },
  { goName := "MessageGimbalDeviceAttitudeStatus", id := 285, defPkg := "common", chain := ["cubepilot", "common"] },
  { goName := "MessageAutopilotStateForGimbalDevice", id := 286, defPkg := "common", chain := ["cubepilot", "common"] },
  { goName := "MessageGimbalManagerSetPitchyaw", id := 287, defPkg := "common", chain := ["cubepilot", "common"] },
  { goName := "MessageGimbalManagerSetManualControl", id := 288, defPkg := "common", chain := ["cubepilot", "common"] },
  { goName := "MessageEscInfo", id := 290, defPkg := "common", chain := ["cubepilot", "common"] },
  { goName := "MessageEscStatus", id := 291, defPkg := "common", chain := ["cubepilot", "common"] },
  { goName := "MessageWifiConfigAp", id := 299, defPkg := "common", chain := ["cubepilot", "common"] },
  { goName := "MessageAisVessel", id := 301, defPkg := "common", chain := ["cubepilot", "common"] },
  { goName := "MessageUavcanNodeStatus", id := 310, defPkg := "common", chain := ["cubepilot", "common"] },
  { goName := "MessageUavcanNodeInfo", id := 311, defPkg := "common", chain := ["cubepilot", "common"] },
  { goName := "MessageParamExtRequestRead", id := 320, defPkg := "common", chain := ["cubepilot", "common"] },
  { goName := "MessageParamExtRequestList", id := 321, defPkg := "common", chain := ["cubepilot", "common"] },
  { goName := "MessageParamExtValue", id := 322, defPkg := "common", chain := ["cubepilot", "common"] }] ++
[
  { goName := "MessageParamExtSet", id := 323, defPkg := "common", chain := ["cubepilot", "common"] },
  { goName := "MessageParamExtAck", id := 324, defPkg := "common", chain := ["cubepilot", "common"] },
  { goName := "MessageObstacleDistance", id := 330, defPkg := "common", chain := ["cubepilot", "common"] },
  { goName := "MessageOdometry", id := 331, defPkg := "common", chain := ["cubepilot", "common"] },
  { goName := "MessageTrajectoryRepresentationWaypoints", id := 332, defPkg := "common", chain := ["cubepilot", "common"] },
  { goName := "MessageTrajectoryRepresentationBezier", id := 333, defPkg := "common", chain := ["cubepilot", "common"] },
  { goName := "MessageCellularStatus", id := 334, defPkg := "common", chain := ["cubepilot", "common"] },
  { goName := "MessageIsbdLinkStatus", id := 335, defPkg := "common", chain := ["cubepilot", "common"] },
  { goName := "MessageCellularConfig", id := 336, defPkg := "common", chain := ["cubepilot", "common"] },
  { goName := "MessageRawRpm", id := 339, defPkg := "common", chain := ["cubepilot", "common"] },
  { goName := "MessageUtmGlobalPosition", id := 340, defPkg := "common", chain := ["cubepilot", "common"] },
  { goName := "MessageDebugFloatArray", id := 350, defPkg := "common", chain := ["cubepilot", "common"] },
  { goName := "MessageOrbitExecutionStatus", id := 360, defPkg := "common", chain := ["cubepilot", "common"] },
  { goName := "MessageSmartBatteryInfo", id := 370, defPkg := "common", chain := ["cubepilot", "common"] },
  { goName := "MessageFuelStatus", id := 371, defPkg := "common", chain := ["cubepilot", "common"] },
  { goName := "MessageBatteryInfo", id := 372, defPkg := "common", chain := ["cubepilot", "common"] },
  { goName := "MessageGeneratorStatus", id := 373, defPkg := "common", chain := ["cubepilot", "common"] },
  { goName := "MessageActuatorOutputStatus", id := 375, defPkg := "common", chain := ["cubepilot", "common"] },
  { goName := "MessageTimeEstimateToTarget", id := 380, defPkg := "common", chain := ["cubepilot", "common"] },
  { goName := "MessageTunnel", id := 385, defPkg := "common", chain := ["cubepilot", "common"] },
  { goName := "MessageCanFrame", id := 386, defPkg := "common", chain := ["cubepilot", "common"] },
  { goName := "MessageOnboardComputerStatus", id := 390, defPkg := "common", chain := ["cubepilot", "common"] },
  { goName := "MessageComponentInformation", id := 395, defPkg := "common", chain := ["cubepilot", "common"] },
  { goName := "MessageComponentInformationBasic", id := 396, defPkg := "common", chain := ["cubepilot", "common"] },
  { goName := "MessageComponentMetadata", id := 397, defPkg := "common", chain := ["cubepilot", "common"] },
  { goName := "MessagePlayTuneV2", id := 400, defPkg := "common", chain := ["cubepilot", "common"] },
  { goName := "MessageSupportedTunes", id := 401, defPkg := "common", chain := ["cubepilot", "common"] },
  { goName := "MessageEvent", id := 410, defPkg := "common", chain := ["cubepilot", "common"] },
  { goName := "MessageCurrentEventSequence", id := 411, defPkg := "common", chain := ["cubepilot", "common"] },
  { goName := "MessageRequestEvent", id := 412, defPkg := "common", chain := ["cubepilot", "common"] }] ++
[
  { goName := "MessageResponseEventError", id := 413, defPkg := "common", chain := ["cubepilot", "common"] },
  { goName := "MessageAvailableModes", id := 435, defPkg := "common", chain := ["cubepilot", "common"] },
  { goName := "MessageCurrentMode", id := 436, defPkg := "common", chain := ["cubepilot", "common"] },
  { goName := "MessageAvailableModesMonitor", id := 437, defPkg := "common", chain := ["cubepilot", "common"] },
  { goName := "MessageIlluminatorStatus", id := 440, defPkg := "common", chain := ["cubepilot", "common"] },
  { goName := "MessageCanfdFrame", id := 387, defPkg := "common", chain := ["cubepilot", "common"] },
  { goName := "MessageCanFilterModify", id := 388, defPkg := "common", chain := ["cubepilot", "common"] },
  { goName := "MessageWheelDistance", id := 9000, defPkg := "common", chain := ["cubepilot", "common"] },
  { goName := "MessageWinchStatus", id := 9005, defPkg := "common", chain := ["cubepilot", "common"] },
  { goName := "MessageOpenDroneIdBasicId", id := 12900, defPkg := "common", chain := ["cubepilot", "common"] },
  { goName := "MessageOpenDroneIdLocation", id := 12901, defPkg := "common", chain := ["cubepilot", "common"] },
  { goName := "MessageOpenDroneIdAuthentication", id := 12902, defPkg := "common", chain := ["cubepilot", "common"] },
  { goName := "MessageOpenDroneIdSelfId", id := 12903, defPkg := "common", chain := ["cubepilot", "common"] },
  { goName := "MessageOpenDroneIdSystem", id := 12904, defPkg := "common", chain := ["cubepilot", "common"] },
  { goName := "MessageOpenDroneIdOperatorId", id := 12905, defPkg := "common", chain := ["cubepilot", "common"] },
  { goName := "MessageOpenDroneIdMessagePack", id := 12915, defPkg := "common", chain := ["cubepilot", "common"] },
  { goName := "MessageOpenDroneIdArmStatus", id := 12918, defPkg := "common", chain := ["cubepilot", "common"] },
  { goName := "MessageOpenDroneIdSystemUpdate", id := 12919, defPkg := "common", chain := ["cubepilot", "common"] },
  { goName := "MessageHygrometerSensor", id := 12920, defPkg := "common", chain := ["cubepilot", "common"] },
  { goName := "MessageCubepilotRawRc", id := 50001, defPkg := "cubepilot", chain := ["cubepilot"] },
  { goName := "MessageHerelinkVideoStreamInformation", id := 50002, defPkg := "cubepilot", chain := ["cubepilot"] },
  { goName := "MessageHerelinkTelem", id := 50003, defPkg := "cubepilot", chain := ["cubepilot"] },
  { goName := "MessageCubepilotFirmwareUpdateStart", id := 50004, defPkg := "cubepilot", chain := ["cubepilot"] },
  { goName := "MessageCubepilotFirmwareUpdateResp", id := 50005, defPkg := "cubepilot", chain := ["cubepilot"] }] }

/-- the message ids of dialect cubepilot, in the order of its message list -/
def ids_cubepilot : List Nat := [0, 300, 1, 2, 4, 5, 6, 7, 8, 11, 20, 21, 22, 23, 24, 25, 26, 27, 28, 29, 30, 31, 32, 33, 34, 35, 36, 37, 38, 39, 40, 41, 42, 43, 44, 45, 46, 47, 48, 49] ++ [50, 51, 54, 55, 61, 62, 63, 64, 65, 66, 67, 69, 70, 73, 74, 75, 76, 77, 80, 81, 82, 83, 84, 85, 86, 87, 89, 90, 91, 92, 93, 100, 101, 102, 103, 104, 105, 106, 107, 108] ++ [109, 110, 111, 112, 113, 114, 115, 116, 117, 118, 119, 120, 121, 122, 123, 124, 125, 126, 127, 128, 129, 130, 131, 132, 133, 134, 135, 136, 137, 138, 139, 140, 141, 142, 143, 144, 146, 147, 148, 149] ++ [162, 192, 225, 230, 231, 232, 233, 234, 235, 241, 242, 243, 244, 245, 246, 247, 248, 249, 250, 251, 252, 253, 254, 256, 257, 258, 259, 260, 261, 262, 263, 264, 265, 266, 267, 268, 269, 270, 271, 275] ++ [276, 277, 280, 281, 282, 283, 284, 285, 286, 287, 288, 290, 291, 299, 301, 310, 311, 320, 321, 322, 323, 324, 330, 331, 332, 333, 334, 335, 336, 339, 340, 350, 360, 370, 371, 372, 373, 375, 380, 385] ++ [386, 390, 395, 396, 397, 400, 401, 410, 411, 412, 413, 435, 436, 437, 440, 387, 388, 9000, 9005, 12900, 12901, 12902, 12903, 12904, 12905, 12915, 12918, 12919, 12920, 50001, 50002, 50003, 50004, 50005]

def dialect_development : Dialect := { name := "development", version := 0, msgs :=
[
  { goName := "MessageHeartbeat", id := 0, defPkg := "minimal", chain := ["development", "minimal"] },
  { goName := "MessageProtocolVersion", id := 300, defPkg := "minimal", chain := ["development", "minimal"] },
  { goName := "MessageSysStatus", id := 1, defPkg := "common", chain := ["development", "common"] },
  { goName := "MessageSystemTime", id := 2, defPkg := "common", chain := ["development", "common"] },
  { goName := "MessagePing", id := 4, defPkg := "common", chain := ["development", "common"] },
  { goName := "MessageChangeOperatorControl", id := 5, defPkg := "common", chain := ["development", "common"] },
  { goName := "MessageChangeOperatorControlAck", id := 6, defPkg := "common", chain := ["development", "common"] },
  { goName := "MessageAuthKey", id := 7, defPkg := "common", chain := ["development", "common"] },
  { goName := "MessageLinkNodeStatus", id := 8, defPkg := "common", chain := ["development", "common"] },
  { goName := "MessageSetMode", id := 11, defPkg := "common", chain := ["development", "common"] },
  { goName := "MessageParamRequestRead", id := 20, defPkg := "common", chain := ["development", "common"] },
  { goName := "MessageParamRequestList", id := 21, defPkg := "common", chain := ["development", "common"] },
  { goName := "MessageParamValue", id := 22, defPkg := "common", chain := ["development", "common"] },
  { goName := "MessageParamSet", id := 23, defPkg := "common", chain := ["development", "common"] },
  { goName := "MessageGpsRawInt", id := 24, defPkg := "common", chain := ["development", "common"] },
  { goName := "MessageGpsStatus", id := 25, defPkg := "common", chain := ["development", "common"] },
  { goName := "MessageScaledImu", id := 26, defPkg := "common", chain := ["development", "common"] },
  { goName := "MessageRawImu", id := 27, defPkg := "common", chain := ["development", "common"] },
  { goName := "MessageRawPressure", id := 28, defPkg := "common", chain := ["development", "common"] },
  { goName := "MessageScaledPressure", id := 29, defPkg := "common", chain := ["development", "common"] },
  { goName := "MessageAttitude", id := 30, defPkg := "common", chain := ["development", "common"] },
  { goName := "MessageAttitudeQuaternion", id := 31, defPkg := "common", chain := ["development", "common"] },
  { goName := "MessageLocalPositionNed", id := 32, defPkg := "common", chain := ["development", "common"] },
  { goName := "MessageGlobalPositionInt", id := 33, defPkg := "common", chain := ["development", "common"] },
  { goName := "MessageRcChannelsScaled", id := 34, defPkg := "common", chain := ["development", "common"] },
  { goName := "MessageRcChannelsRaw", id := 35, defPkg := "common", chain := ["development", "common"] },
  { goName := "MessageServoOutputRaw", id := 36, defPkg := "common", chain := ["development", "common"] },
  { goName := "MessageMissionRequestPartialList", id := 37, defPkg := "common", chain := ["development", "common"] },
  { goName := "MessageMissionWritePartialList", id := 38, defPkg := "common", chain := ["development", "common"] },
  { goName := "MessageMissionItem", id := 39, defPkg := "common", chain := ["development", "common"] }] ++
[
  { goName := "MessageMissionRequest", id := 40, defPkg := "common", chain := ["development", "common"] },
  { goName := "MessageMissionSetCurrent", id := 41, defPkg := "common", chain := ["development", "common"] },
  { goName := "MessageMissionCurrent", id := 42, defPkg := "common", chain := ["development", "common"] },
  { goName := "MessageMissionRequestList", id := 43, defPkg := "common", chain := ["development", "common"] },
  { goName := "MessageMissionCount", id := 44, defPkg := "common", chain := ["development", "common"] },
  { goName := "MessageMissionClearAll", id := 45, defPkg := "common", chain := ["development", "common"] },
  { goName := "MessageMissionItemReached", id := 46, defPkg := "common", chain := ["development", "common"] },
  { goName := "MessageMissionAck", id := 47, defPkg := "common", chain := ["development", "common"] },
  { goName := "MessageSetGpsGlobalOrigin", id := 48, defPkg := "common", chain := ["development", "common"] },
  { goName := "MessageGpsGlobalOrigin", id := 49, defPkg := "common", chain := ["development", "common"] },
  { goName := "MessageParamMapRc", id := 50, defPkg := "common", chain := ["development", "common"] },
  { goName := "MessageMissionRequestInt", id := 51, defPkg := "common", chain := ["development", "common"] },
  { goName := "MessageSafetySetAllowedArea", id := 54, defPkg := "common", chain := ["development", "common"] },
  { goName := "MessageSafetyAllowedArea", id := 55, defPkg := "common", chain := ["development", "common"] },
  { goName := "MessageAttitudeQuaternionCov", id := 61, defPkg := "common", chain := ["development", "common"] },
  { goName := "MessageNavControllerOutput", id := 62, defPkg := "common", chain := ["development", "common"] },
  { goName := "MessageGlobalPositionIntCov", id := 63, defPkg := "common", chain := ["development", "common"] },
  { goName := "MessageLocalPositionNedCov", id := 64, defPkg := "common", chain := ["development", "common"] },
  { goName := "MessageRcChannels", id := 65, defPkg := "common", chain := ["development", "common"] },
  { goName := "MessageRequestDataStream", id := 66, defPkg := "common", chain := ["development", "common"] },
  { goName := "MessageDataStream", id := 67, defPkg := "common", chain := ["development", "common"] },
  { goName := "MessageManualControl", id := 69, defPkg := "common", chain := ["development", "common"] },
  { goName := "MessageRcChannelsOverride", id := 70, defPkg := "common", chain := ["development", "common"] },
  { goName := "MessageMissionItemInt", id := 73, defPkg := "common", chain := ["development", "common"] },
  { goName := "MessageVfrHud", id := 74, defPkg := "common", chain := ["development", "common"] },
  { goName := "MessageCommandInt", id := 75, defPkg := "common", chain := ["development", "common"] },
  { goName := "MessageCommandLong", id := 76, defPkg := "common", chain := ["development", "common"] },
  { goName := "MessageCommandAck", id := 77, defPkg := "common", chain := ["development", "common"] },
  { goName := "MessageCommandCancel", id := 80, defPkg := "common", chain := ["development", "common"] },
  { goName := "MessageManualSetpoint", id := 81, defPkg := "common", chain := ["development", "common"] }] ++
[
  { goName := "MessageSetAttitudeTarget", id := 82, defPkg := "common", chain := ["development", "common"] },
  { goName := "MessageAttitudeTarget", id := 83, defPkg := "common", chain := ["development", "common"] },
  { goName := "MessageSetPositionTargetLocalNed", id := 84, defPkg := "common", chain := ["development", "common"] },
  { goName := "MessagePositionTargetLocalNed", id := 85, defPkg := "common", chain := ["development", "common"] },
  { goName := "MessageSetPositionTargetGlobalInt", id := 86, defPkg := "common", chain := ["development", "common"] },
  { goName := "MessagePositionTargetGlobalInt", id := 87, defPkg := "common", chain := ["development", "common"] },
  { goName := "MessageLocalPositionNedSystemGlobalOffset", id := 89, defPkg := "common", chain := ["development", "common"] },
  { goName := "MessageHilState", id := 90, defPkg := "common", chain := ["development", "common"] },
  { goName := "MessageHilControls", id := 91, defPkg := "common", chain := ["development", "common"] },
  { goName := "MessageHilRcInputsRaw", id := 92, defPkg := "common", chain := ["development", "common"] },
  { goName := "MessageHilActuatorControls", id := 93, defPkg := "common", chain := ["development", "common"] },
  { goName := "MessageOpticalFlow", id := 100, defPkg := "common", chain := ["development", "common"] },
  { goName := "MessageGlobalVisionPositionEstimate", id := 101, defPkg := "common", chain := ["development", "common"] },
  { goName := "MessageVisionPositionEstimate", id := 102, defPkg := "common", chain := ["development", "common"] },
  { goName := "MessageVisionSpeedEstimate", id := 103, defPkg := "common", chain := ["development", "common"] },
  { goName := "MessageViconPositionEstimate", id := 104, defPkg := "common", chain := ["development", "common"] },
  { goName := "MessageHighresImu", id := 105, defPkg := "common", chain := ["development", "common"] },
  { goName := "MessageOpticalFlowRad", id := 106, defPkg := "common", chain := ["development", "common"] },
  { goName := "MessageHilSensor", id := 107, defPkg := "common", chain := ["development", "common"] },
  { goName := "MessageSimState", id := 108, defPkg := "common", chain := ["development", "common"] },
  { goName := "MessageRadioStatus", id := 109, defPkg := "common", chain := ["development", "common"] },
  { goName := "MessageFileTransferProtocol", id := 110, defPkg := "common", chain := ["development", "common"] },
  { goName := "MessageTimesync", id := 111, defPkg := "common", chain := ["development", "common"] },
  { goName := "MessageCameraTrigger", id := 112, defPkg := "common", chain := ["development", "common"] },
  { goName := "MessageHilGps", id := 113, defPkg := "common", chain := ["development", "common"] },
  { goName := "MessageHilOpticalFlow", id := 114, defPkg := "common", chain := ["development", "common"] },
  { goName := "MessageHilStateQuaternion", id := 115, defPkg := "common", chain := ["development", "common"] },
  { goName := "MessageScaledImu2", id := 116, defPkg := "common", chain := ["development", "common"] },
  { goName := "MessageLogRequestList", id := 117, defPkg := "common", chain := ["development", "common"] },
  { goName := "MessageLogEntry", id := 118, defPkg := "common", chain := ["development", "common"] }] ++
[
  { goName := "MessageLogRequestData", id := 119, defPkg := "common", chain := ["development", "common"] },
  { goName := "MessageLogData", id := 120, defPkg := "common", chain := ["development", "common"] },
  { goName := "MessageLogErase", id := 121, defPkg := "common", chain := ["development", "common"] },
  { goName := "MessageLogRequestEnd", id := 122, defPkg := "common", chain := ["development", "common"] },
  { goName := "MessageGpsInjectData", id := 123, defPkg := "common", chain := ["development", "common"] },
  { goName := "MessageGps2Raw", id := 124, defPkg := "common", chain := ["development", "common"] },
  { goName := "MessagePowerStatus", id := 125, defPkg := "common", chain := ["development", "common"] },
  { goName := "MessageSerialControl", id := 126, defPkg := "common", chain := ["development", "common"] },
  { goName := "MessageGpsRtk", id := 127, defPkg := "common", chain := ["development", "common"] },
  { goName := "MessageGps2Rtk", id := 128, defPkg := "common", chain := ["development", "common"] },
  { goName := "MessageScaledImu3", id := 129, defPkg := "common", chain := ["development", "common"] },
  { goName := "MessageDataTransmissionHandshake", id := 130, defPkg := "common", chain := ["development", "common"] },
  { goName := "MessageEncapsulatedData", id := 131, defPkg := "common", chain := ["development", "common"] },
  { goName := "MessageDistanceSensor", id := 132, defPkg := "common", chain := ["development", "common"] },
  { goName := "MessageTerrainRequest", id := 133, defPkg := "common", chain := ["development", "common"] },
  { goName := "MessageTerrainData", id := 134, defPkg := "common", chain := ["development", "common"] },
  { goName := "MessageTerrainCheck", id := 135, defPkg := "common", chain := ["development", "common"] },
  { goName := "MessageTerrainReport", id := 136, defPkg := "common", chain := ["development", "common"] },
  { goName := "MessageScaledPressure2", id := 137, defPkg := "common", chain := ["development", "common"] },
  { goName := "MessageAttPosMocap", id := 138, defPkg := "common", chain := ["development", "common"] },
  { goName := "MessageSetActuatorControlTarget", id := 139, defPkg := "common", chain := ["development", "common"] },
  { goName := "MessageActuatorControlTarget", id := 140, defPkg := "common", chain := ["development", "common"] },
  { goName := "MessageAltitude", id := 141, defPkg := "common", chain := ["development", "common"] },
  { goName := "MessageResourceRequest", id := 142, defPkg := "common", chain := ["development", "common"] },
  { goName := "MessageScaledPressure3", id := 143, defPkg := "common", chain := ["development", "common"] },
  { goName := "MessageFollowTarget", id := 144, defPkg := "common", chain := ["development", "common"] },
  { goName := "MessageControlSystemState", id := 146, defPkg := "common", chain := ["development", "common"] },
  { goName := "MessageBatteryStatus", id := 147, defPkg := "common", chain := ["development", "common"] },
  { goName := "MessageAutopilotVersion", id := 148, defPkg := "common", chain := ["development", "common"] },
  { goName := "MessageLandingTarget", id := 149, defPkg := "common", chain := ["development", "common"] }] ++
[
  { goName := "MessageFenceStatus", id := 162, defPkg := "common", chain := ["development", "common"] },
  { goName := "MessageMagCalReport", id := 192, defPkg := "common", chain := ["development", "common"] },
  { goName := "MessageEfiStatus", id := 225, defPkg := "common", chain := ["development", "common"] },
  { goName := "MessageEstimatorStatus", id := 230, defPkg := "common", chain := ["development", "common"] },
  { goName := "MessageWindCov", id := 231, defPkg := "common", chain := ["development", "common"] },
  { goName := "MessageGpsInput", id := 232, defPkg := "common", chain := ["development", "common"] },
  { goName := "MessageGpsRtcmData", id := 233, defPkg := "common", chain := ["development", "common"] },
  { goName := "MessageHighLatency", id := 234, defPkg := "common", chain := ["development", "common"] },
  { goName := "MessageHighLatency2", id := 235, defPkg := "common", chain := ["development", "common"] },
  { goName := "MessageVibration", id := 241, defPkg := "common", chain := ["development", "common"] },
  { goName := "MessageHomePosition", id := 242, defPkg := "common", chain := ["development", "common"] },
  { goName := "MessageSetHomePosition", id := 243, defPkg := "common", chain := ["development", "common"] },
  { goName := "MessageMessageInterval", id := 244, defPkg := "common", chain := ["development", "common"] },
  { goName := "MessageExtendedSysState", id := 245, defPkg := "common", chain := ["development", "common"] },
  { goName := "MessageAdsbVehicle", id := 246, defPkg := "common", chain := ["development", "common"] },
  { goName := "MessageCollision", id := 247, defPkg := "common", chain := ["development", "common"] },
  { goName := "MessageV2Extension", id := 248, defPkg := "common", chain := ["development", "common"] },
  { goName := "MessageMemoryVect", id := 249, defPkg := "common", chain := ["development", "common"] },
  { goName := "MessageDebugVect", id := 250, defPkg := "common", chain := ["development", "common"] },
  { goName := "MessageNamedValueFloat", id := 251, defPkg := "common", chain := ["development", "common"] },
  { goName := "MessageNamedValueInt", id := 252, defPkg := "common", chain := ["development", "common"] },
  { goName := "MessageStatustext", id := 253, defPkg := "common", chain := ["development", "common"] },
  { goName := "MessageDebug", id := 254, defPkg := "common", chain := ["development", "common"] },
  { goName := "MessageSetupSigning", id := 256, defPkg := "common", chain := ["development", "common"] },
  { goName := "MessageButtonChange", id := 257, defPkg := "common", chain := ["development", "common"] },
  { goName := "MessagePlayTune", id := 258, defPkg := "common", chain := ["development", "common"] },
  { goName := "MessageCameraInformation", id := 259, defPkg := "common", chain := ["development", "common"] },
  { goName := "MessageCameraSettings", id := 260, defPkg := "common", chain := ["development", "common"] },
  { goName := "MessageStorageInformation", id := 261, defPkg := "common", chain := ["development", "common"] },
  { goName := "MessageCameraCaptureStatus", id := 262, defPkg := "common", chain := ["development", "common"] }] ++
[
  { goName := "MessageCameraImageCaptured", id := 263, defPkg := "common", chain := ["development", "common"] },
  { goName := "MessageFlightInformation", id := 264, defPkg := "common", chain := ["development", "common"] },
  { goName := "MessageMountOrientation", id := 265, defPkg := "common", chain := ["development", "common"] },
  { goName := "MessageLoggingData", id := 266, defPkg := "common", chain := ["development", "common"] },
  { goName := "MessageLoggingDataAcked", id := 267, defPkg := "common", chain := ["development", "common"] },
  { goName := "MessageLoggingAck", id := 268, defPkg := "common", chain := ["development", "common"] },
  { goName := "MessageVideoStreamInformation", id := 269, defPkg := "common", chain := ["development", "common"] },
  { goName := "MessageVideoStreamStatus", id := 270, defPkg := "common", chain := ["development", "common"] },
  { goName := "MessageCameraFovStatus", id := 271, defPkg := "common", chain := ["development", "common"] },
  { goName := "MessageCameraTrackingImageStatus", id := 275, defPkg := "common", chain := ["development", "common"] },
  { goName := "MessageCameraTrackingGeoStatus", id := 276, defPkg := "common", chain := ["development", "common"] },
  { goName := "MessageCameraThermalRange", id := 277, defPkg := "common", chain := ["development", "common"] },
  { goName := "MessageGimbalManagerInformation", id := 280, defPkg := "common", chain := ["development", "common"] },
  { goName := "MessageGimbalManagerStatus", id := 281, defPkg := "common", chain := ["development", "common"] },
  { goName := "MessageGimbalManagerSetAttitude", id := 282, defPkg := "common", chain := ["development", "common"] },
  { goName := "MessageGimbalDeviceInformation", id := 283, defPkg := "common", chain := ["development", "common"] },
  { goName := "MessageGimbalDeviceSetAttitude", id := 284, defPkg := "common", chain := ["development", "common"] },
  { goName := "MessageGimbalDeviceAttitudeStatus", id := 285, defPkg := "common", chain := ["development", "common"] },
  { goName := "MessageAutopilotStateForGimbalDevice", id := 286, defPkg := "common", chain := ["development", "common"] },
  { goName := "MessageGimbalManagerSetPitchyaw", id := 287, defPkg := "common", chain := ["development", "common"] },
  { goName := "MessageGimbalManagerSetManualControl", id := 288, defPkg := "common", chain := ["development", "common"] },
  { goName := "MessageEscInfo", id := 290, defPkg := "common", chain := ["development", "common"] },
  { goName := "MessageEscStatus", id := 291, defPkg := "common", chain := ["development", "common"] },
  { goName := "MessageWifiConfigAp", id := 299, defPkg := "common", chain := ["development", "common"] },
  { goName := "MessageAisVessel", id := 301, defPkg := "common", chain := ["development", "common"] },
  { goName := "MessageUavcanNodeStatus", id := 310, defPkg := "common", chain := ["development", "common"] },
  { goName := "MessageUavcanNodeInfo", id := 311, defPkg := "common", chain := ["development", "common"] },
  { goName := "MessageParamExtRequestRead", id := 320, defPkg := "common", chain := ["development", "common"] },
  { goName := "MessageParamExtRequestList", id := 321, defPkg := "common", chain := ["development", "common"] },
  { goName := "MessageParamExtValue", id := 322, defPkg := "common", chain := ["development", "common"] }] ++
[
  { goName := "MessageParamExtSet", id := 323, defPkg := "common", chain := ["development", "common"] },
  { goName := "MessageParamExtAck", id := 324, defPkg := "common", chain := ["development", "common"] },
  { goName := "MessageObstacleDistance", id := 330, defPkg := "common", chain := ["development", "common"] },
  { goName := "MessageOdometry", id := 331, defPkg := "common", chain := ["development", "common"] },
  { goName := "MessageTrajectoryRepresentationWaypoints", id := 332, defPkg := "common", chain := ["development", "common"] },
  { goName := "MessageTrajectoryRepresentationBezier", id := 333, defPkg := "common", chain := ["development", "common"] },
  { goName := "MessageCellularStatus", id := 334, defPkg := "common", chain := ["development", "common"] },
  { goName := "MessageIsbdLinkStatus", id := 335, defPkg := "common", chain := ["development", "common"] },
  { goName := "MessageCellularConfig", id := 336, defPkg := "common", chain := ["development", "common"] },
  { goName := "MessageRawRpm", id := 339, defPkg := "common", chain := ["development", "common"] },
  { goName := "MessageUtmGlobalPosition", id := 340, defPkg := "common", chain := ["development", "common"] },
  { goName := "MessageDebugFloatArray", id := 350, defPkg := "common", chain := ["development", "common"] },
  { goName := "MessageOrbitExecutionStatus", id := 360, defPkg := "common", chain := ["development", "common"] },
  { goName := "MessageSmartBatteryInfo", id := 370, defPkg := "common", chain := ["development", "common"] },
  { goName := "MessageFuelStatus", id := 371, defPkg := "common", chain := ["development", "common"] },
  { goName := "MessageBatteryInfo", id := 372, defPkg := "common", chain := ["development", "common"] },
  { goName := "MessageGeneratorStatus", id := 373, defPkg := "common", chain := ["development", "common"] },
  { goName := "MessageActuatorOutputStatus", id := 375, defPkg := "common", chain := ["development", "common"] },
  { goName := "MessageTimeEstimateToTarget", id := 380, defPkg := "common", chain := ["development", "common"] },
  { goName := "MessageTunnel", id := 385, defPkg := "common", chain := ["development", "common"] },
  { goName := "MessageCanFrame", id := 386, defPkg := "common", chain := ["development", "common"] },
  { goName := "MessageOnboardComputerStatus", id := 390, defPkg := "common", chain := ["development", "common"] },
  { goName := "MessageComponentInformation", id := 395, defPkg := "common", chain := ["development", "common"] },
  { goName := "MessageComponentInformationBasic", id := 396, defPkg := "common", chain := ["development", "common"] },
  { goName := "MessageComponentMetadata", id := 397, defPkg := "common", chain := ["development", "common"] },
  { goName := "MessagePlayTuneV2", id := 400, defPkg := "common", chain := ["development", "common"] },
  { goName := "MessageSupportedTunes", id := 401, defPkg := "common", chain := ["development", "common"] },
  { goName := "MessageEvent", id := 410, defPkg := "common", chain := ["development", "common"] },
  { goName := "MessageCurrentEventSequence", id := 411, defPkg := "common", chain := ["development", "common"] },
  { goName := "MessageRequestEvent", id := 412, defPkg := "common", chain := ["development", "common"] }] ++
[
  { goName := "MessageResponseEventError", id := 413, defPkg := "common", chain := ["development", "common"] },
  { goName := "MessageAvailableModes", id := 435, defPkg := "common", chain := ["development", "common"] },
  { goName := "MessageCurrentMode", id := 436, defPkg := "common", chain := ["development", "common"] },
  { goName := "MessageAvailableModesMonitor", id := 437, defPkg := "common", chain := ["development", "common"] },
  { goName := "MessageIlluminatorStatus", id := 440, defPkg := "common", chain := ["development", "common"] },
  { goName := "MessageCanfdFrame", id := 387, defPkg := "common", chain := ["development", "common"] },
  { goName := "MessageCanFilterModify", id := 388, defPkg := "common", chain := ["development", "common"] },
  { goName := "MessageWheelDistance", id := 9000, defPkg := "common", chain := ["development", "common"] },
  { goName := "MessageWinchStatus", id := 9005, defPkg := "common", chain := ["development", "common"] },
  { goName := "MessageOpenDroneIdBasicId", id := 12900, defPkg := "common", chain := ["development", "common"] },
  { goName := "MessageOpenDroneIdLocation", id := 12901, defPkg := "common", chain := ["development", "common"] },
  { goName := "MessageOpenDroneIdAuthentication", id := 12902, defPkg := "common", chain := ["development", "common"] },
  { goName := "MessageOpenDroneIdSelfId", id := 12903, defPkg := "common", chain := ["development", "common"] },
  { goName := "MessageOpenDroneIdSystem", id := 12904, defPkg := "common", chain := ["development", "common"] },
  { goName := "MessageOpenDroneIdOperatorId", id := 12905, defPkg := "common", chain := ["development", "common"] },
  { goName := "MessageOpenDroneIdMessagePack", id := 12915, defPkg := "common", chain := ["development", "common"] },
  { goName := "MessageOpenDroneIdArmStatus", id := 12918, defPkg := "common", chain := ["development", "common"] },
  { goName := "MessageOpenDroneIdSystemUpdate", id := 12919, defPkg := "common", chain := ["development", "common"] },
  { goName := "MessageHygrometerSensor", id := 12920, defPkg := "common", chain := ["development", "common"] },
  { goName := "MessageAirspeed", id := 295, defPkg := "development", chain := ["development"] },
  { goName := "MessageSetVelocityLimits", id := 354, defPkg := "development", chain := ["development"] },
  { goName := "MessageVelocityLimits", id := 355, defPkg := "development", chain := ["development"] },
  { goName := "MessageFigureEightExecutionStatus", id := 361, defPkg := "development", chain := ["development"] },
  { goName := "MessageBatteryStatusV2", id := 369, defPkg := "development", chain := ["development"] },
  { goName := "MessageGroupStart", id := 414, defPkg := "development", chain := ["development"] },
  { goName := "MessageGroupEnd", id := 415, defPkg := "development", chain := ["development"] },
  { goName := "MessageRadioRcChannels", id := 420, defPkg := "development", chain := ["development"] },
  { goName := "MessageGnssIntegrity", id := 441, defPkg := "development", chain := ["development"] },
  { goName := "MessageTargetAbsolute", id := 510, defPkg := "development", chain := ["development"] },
  { goName := "MessageTargetRelative", id := 511, defPkg := "development", chain := ["development"] }] ++
[
  { goName := "MessageControlStatus", id := 512, defPkg := "development", chain := ["development"] }] }

/-- the message ids of dialect development, in the order of its message list -/
def ids_development : List Nat := [0, 300, 1, 2, 4, 5, 6, 7, 8, 11, 20, 21, 22, 23, 24, 25, 26, 27, 28, 29, 30, 31, 32, 33, 34, 35, 36, 37, 38, 39, 40, 41, 42, 43, 44, 45, 46, 47, 48, 49] ++ [50, 51, 54, 55, 61, 62, 63, 64, 65, 66, 67, 69, 70, 73, 74, 75, 76, 77, 80, 81, 82, 83, 84, 85, 86, 87, 89, 90, 91, 92, 93, 100, 101, 102, 103, 104, 105, 106, 107, 108] ++ [109, 110, 111, 112, 113, 114, 115, 116, 117, 118, 119, 120, 121, 122, 123, 124, 125, 126, 127, 128, 129, 130, 131, 132, 133, 134, 135, 136, 137, 138, 139, 140, 141, 142, 143, 144, 146, 147, 148, 149] ++ [162, 192, 225, 230, 231, 232, 233, 234, 235, 241, 242, 243, 244, 245, 246, 247, 248, 249, 250, 251, 252, 253, 254, 256, 257, 258, 259, 260, 261, 262, 263, 264, 265, 266, 267, 268, 269, 270, 271, 275] ++ [276, 277, 280, 281, 282, 283, 284, 285, 286, 287, 288, 290, 291, 299, 301, 310, 311, 320, 321, 322, 323, 324, 330, 331, 332, 333, 334, 335, 336, 339, 340, 350, 360, 370, 371, 372, 373, 375, 380, 385] ++ [386, 390, 395, 396, 397, 400, 401, 410, 411, 412, 413, 435, 436, 437, 440, 387, 388, 9000, 9005, 12900, 12901, 12902, 12903, 12904, 12905, 12915, 12918, 12919, 12920, 295, 354, 355, 361, 369, 414, 415, 420, 441, 510, 511] ++ [512]

def dialect_icarous : Dialect := { name := "icarous", version := 0, msgs :=
[
  { goName := "MessageIcarousHeartbeat", id := 42000, defPkg := "icarous", chain := ["icarous"] },
  { goName := "MessageIcarousKinematicBands", id := 42001, defPkg := "icarous", chain := ["icarous"] }] }

/-- the message ids of dialect icarous, in the order of its message list -/
def ids_icarous : List Nat := [42000, 42001]

def dialect_loweheiser : Dialect := { name := "loweheiser", version := 3, msgs :=
[
  { goName := "MessageHeartbeat", id := 0, defPkg := "minimal", chain := ["loweheiser", "minimal"] },
  { goName := "MessageProtocolVersion", id := 300, defPkg := "minimal", chain := ["loweheiser", "minimal"] },
  { goName := "MessageLoweheiserGovEfi", id := 10151, defPkg := "loweheiser", chain := ["loweheiser"] }] }

/-- the message ids of dialect loweheiser, in the order of its message list -/
def ids_loweheiser : List Nat := [0, 300, 10151]

def dialect_matrixpilot : Dialect := { name := "matrixpilot", version := 3, msgs :=
[
  { goName := "MessageHeartbeat", id := 0, defPkg := "minimal", chain := ["matrixpilot", "minimal"] },
  { goName := "MessageProtocolVersion", id := 300, defPkg := "minimal", chain := ["matrixpilot", "minimal"] },
  { goName := "MessageSysStatus", id := 1, defPkg := "common", chain := ["matrixpilot", "common"] },
  { goName := "MessageSystemTime", id := 2, defPkg := "common", chain := ["matrixpilot", "common"] },
  { goName := "MessagePing", id := 4, defPkg := "common", chain := ["matrixpilot", "common"] },
  { goName := "MessageChangeOperatorControl", id := 5, defPkg := "common", chain := ["matrixpilot", "common"] },
  { goName := "MessageChangeOperatorControlAck", id := 6, defPkg := "common", chain := ["matrixpilot", "common"] },
  { goName := "MessageAuthKey", id := 7, defPkg := "common", chain := ["matrixpilot", "common"] },
  { goName := "MessageLinkNodeStatus", id := 8, defPkg := "common", chain := ["matrixpilot", "common"] },
  { goName := "MessageSetMode", id := 11, defPkg := "common", chain := ["matrixpilot", "common"] },
  { goName := "MessageParamRequestRead", id := 20, defPkg := "common", chain := ["matrixpilot", "common"] },
  { goName := "MessageParamRequestList", id := 21, defPkg := "common", chain := ["matrixpilot", "common"] },
  { goName := "MessageParamValue", id := 22, defPkg := "common", chain := ["matrixpilot", "common"] },
  { goName := "MessageParamSet", id := 23, defPkg := "common", chain := ["matrixpilot", "common"] },
  { goName := "MessageGpsRawInt", id := 24, defPkg := "common", chain := ["matrixpilot", "common"] },
  { goName := "MessageGpsStatus", id := 25, defPkg := "common", chain := ["matrixpilot", "common"] },
  { goName := "MessageScaledImu", id := 26, defPkg := "common", chain := ["matrixpilot", "common"] },
  { goName := "MessageRawImu", id := 27, defPkg := "common", chain := ["matrixpilot", "common"] },
  { goName := "MessageRawPressure", id := 28, defPkg := "common", chain := ["matrixpilot", "common"] },
  { goName := "MessageScaledPressure", id := 29, defPkg := "common", chain := ["matrixpilot", "common"] },
  { goName := "MessageAttitude", id := 30, defPkg := "common", chain := ["matrixpilot", "common"] },
  { goName := "MessageAttitudeQuaternion", id := 31, defPkg := "common", chain := ["matrixpilot", "common"] },
  { goName := "MessageLocalPositionNed", id := 32, defPkg := "common", chain := ["matrixpilot", "common"] },
  { goName := "MessageGlobalPositionInt", id := 33, defPkg := "common", chain := ["matrixpilot", "common"] },
  { goName := "MessageRcChannelsScaled", id := 34, defPkg := "common", chain := ["matrixpilot", "common"] },
  { goName := "MessageRcChannelsRaw", id := 35, defPkg := "common", chain := ["matrixpilot", "common"] },
  { goName := "MessageServoOutputRaw", id := 36, defPkg := "common", chain := ["matrixpilot", "common"] },
  { goName := "MessageMissionRequestPartialList", id := 37, defPkg := "common", chain := ["matrixpilot", "common"] },
  { goName := "MessageMissionWritePartialList", id := 38, defPkg := "common", chain := ["matrixpilot", "common"] },
  { goName := "MessageMissionItem", id := 39, defPkg := "common", chain := ["matrixpilot", "common"] }] ++
[
  { goName := "MessageMissionRequest", id := 40, defPkg := "common", chain := ["matrixpilot", "common"] },
  { goName := "MessageMissionSetCurrent", id := 41, defPkg := "common", chain := ["matrixpilot", "common"] },
  { goName := "MessageMissionCurrent", id := 42, defPkg := "common", chain := ["matrixpilot", "common"] },
  { goName := "MessageMissionRequestList", id := 43, defPkg := "common", chain := ["matrixpilot", "common"] },
  { goName := "MessageMissionCount", id := 44, defPkg := "common", chain := ["matrixpilot", "common"] },
  { goName := "MessageMissionClearAll", id := 45, defPkg := "common", chain := ["matrixpilot", "common"] },
  { goName := "MessageMissionItemReached", id := 46, defPkg := "common", chain := ["matrixpilot", "common"] },
  { goName := "MessageMissionAck", id := 47, defPkg := "common", chain := ["matrixpilot", "common"] },
  { goName := "MessageSetGpsGlobalOrigin", id := 48, defPkg := "common", chain := ["matrixpilot", "common"] },
  { goName := "MessageGpsGlobalOrigin", id := 49, defPkg := "common", chain := ["matrixpilot", "common"] },
  { goName := "MessageParamMapRc", id := 50, defPkg := "common", chain := ["matrixpilot", "common"] },
  { goName := "MessageMissionRequestInt", id := 51, defPkg := "common", chain := ["matrixpilot", "common"] },
  { goName := "MessageSafetySetAllowedArea", id := 54, defPkg := "common", chain := ["matrixpilot", "common"] },
  { goName := "MessageSafetyAllowedArea", id := 55, defPkg := "common", chain := ["matrixpilot", "common"] },
  { goName := "MessageAttitudeQuaternionCov", id := 61, defPkg := "common", chain := ["matrixpilot", "common"] },
  { goName := "MessageNavControllerOutput", id := 62, defPkg := "common", chain := ["matrixpilot", "common"] },
  { goName := "MessageGlobalPositionIntCov", id := 63, defPkg := "common", chain := ["matrixpilot", "common"] },
  { goName := "MessageLocalPositionNedCov", id := 64, defPkg := "common", chain := ["matrixpilot", "common"] },
  { goName := "MessageRcChannels", id := 65, defPkg := "common", chain := ["matrixpilot", "common"] },
  { goName := "MessageRequestDataStream", id := 66, defPkg := "common", chain := ["matrixpilot", "common"] },
  { goName := "MessageDataStream", id := 67, defPkg := "common", chain := ["matrixpilot", "common"] },
  { goName := "MessageManualControl", id := 69, defPkg := "common", chain := ["matrixpilot", "common"] },
  { goName := "MessageRcChannelsOverride", id := 70, defPkg := "common", chain := ["matrixpilot", "common"] },
  { goName := "MessageMissionItemInt", id := 73, defPkg := "common", chain := ["matrixpilot", "common"] },
  { goName := "MessageVfrHud", id := 74, defPkg := "common", chain := ["matrixpilot", "common"] },
  { goName := "MessageCommandInt", id := 75, defPkg := "common", chain := ["matrixpilot", "common"] },
  { goName := "MessageCommandLong", id := 76, defPkg := "common", chain := ["matrixpilot", "common"] },
  { goName := "MessageCommandAck", id := 77, defPkg := "common", chain := ["matrixpilot", "common"] },
  { goName := "MessageCommandCancel", id := 80, defPkg := "common", chain := ["matrixpilot", "common"] },
  { goName := "MessageManualSetpoint", id := 81, defPkg := "common", chain := ["matrixpilot", "common"] }] ++
[
  { goName := "MessageSetAttitudeTarget", id := 82, defPkg := "common", chain := ["matrixpilot", "common"] },
  { goName := "MessageAttitudeTarget", id := 83, defPkg := "common", chain := ["matrixpilot", "common"] },
  { goName := "MessageSetPositionTargetLocalNed", id := 84, defPkg := "common", chain := ["matrixpilot", "common"] },
  { goName := "MessagePositionTargetLocalNed", id := 85, defPkg := "common", chain := ["matrixpilot", "common"] },
  { goName := "MessageSetPositionTargetGlobalInt", id := 86, defPkg := "common", chain := ["matrixpilot", "common"] },
  { goName := "MessagePositionTargetGlobalInt", id := 87, defPkg := "common", chain := ["matrixpilot", "common"] },
  { goName := "MessageLocalPositionNedSystemGlobalOffset", id := 89, defPkg := "common", chain := ["matrixpilot", "common"] },
  { goName := "MessageHilState", id := 90, defPkg := "common", chain := ["matrixpilot", "common"] },
  { goName := "MessageHilControls", id := 91, defPkg := "common", chain := ["matrixpilot", "common"] },
  { goName := "MessageHilRcInputsRaw", id := 92, defPkg := "common", chain := ["matrixpilot", "common"] },
  { goName := "MessageHilActuatorControls", id := 93, defPkg := "common", chain := ["matrixpilot", "common"] },
  { goName := "MessageOpticalFlow", id := 100, defPkg := "common", chain := ["matrixpilot", "common"] },
  { goName := "MessageGlobalVisionPositionEstimate", id := 101, defPkg := "common", chain := ["matrixpilot", "common"] },
  { goName := "MessageVisionPositionEstimate", id := 102, defPkg := "common", chain := ["matrixpilot", "common"] },
  { goName := "MessageVisionSpeedEstimate", id := 103, defPkg := "common", chain := ["matrixpilot", "common"] },
  { goName := "MessageViconPositionEstimate", id := 104, defPkg := "common", chain := ["matrixpilot", "common"] },
  { goName := "MessageHighresImu", id := 105, defPkg := "common", chain := ["matrixpilot", "common"] },
  { goName := "MessageOpticalFlowRad", id := 106, defPkg := "common", chain := ["matrixpilot", "common"] },
  { goName := "MessageHilSensor", id := 107, defPkg := "common", chain := ["matrixpilot", "common"] },
  { goName := "MessageSimState", id := 108, defPkg := "common", chain := ["matrixpilot", "common"] },
  { goName := "MessageRadioStatus", id := 109, defPkg := "common", chain := ["matrixpilot", "common"] },
  { goName := "MessageFileTransferProtocol", id := 110, defPkg := "common", chain := ["matrixpilot", "common"] },
  { goName := "MessageTimesync", id := 111, defPkg := "common", chain := ["matrixpilot", "common"] },
  { goName := "MessageCameraTrigger", id := 112, defPkg := "common", chain := ["matrixpilot", "common"] },
  { goName := "MessageHilGps", id := 113, defPkg := "common", chain := ["matrixpilot", "common"] },
  { goName := "MessageHilOpticalFlow", id := 114, defPkg := "common", chain := ["matrixpilot", "common"] },
  { goName := "MessageHilStateQuaternion", id := 115, defPkg := "common", chain := ["matrixpilot", "common"] },
  { goName := "MessageScaledImu2", id := 116, defPkg := "common", chain := ["matrixpilot", "common"] },
  { goName := "MessageLogRequestList", id := 117, defPkg := "common", chain := ["matrixpilot", "common"] },
  { goName := "MessageLogEntry", id := 118, defPkg := "common", chain := ["matrixpilot", "common"] }] ++
[
  { goName := "MessageLogRequestData", id := 119, defPkg := "common", chain := ["matrixpilot", "common"] },
  { goName := "MessageLogData", id := 120, defPkg := "common", chain := ["matrixpilot", "common"] },
  { goName := "MessageLogErase", id := 121, defPkg := "common", chain := ["matrixpilot", "common"] },
  { goName := "MessageLogRequestEnd", id := 122, defPkg := "common", chain := ["matrixpilot", "common"] },
  { goName := "MessageGpsInjectData", id := 123, defPkg := "common", chain := ["matrixpilot", "common"] },
  { goName := "MessageGps2Raw", id := 124, defPkg := "common", chain := ["matrixpilot", "common"] },
  { goName := "MessagePowerStatus", id := 125, defPkg := "common", chain := ["matrixpilot", "common"] },
  { goName := "MessageSerialControl", id := 126, defPkg := "common", chain := ["matrixpilot", "common"] },
  { goName := "MessageGpsRtk", id := 127, defPkg := "common", chain := ["matrixpilot", "common"] },
  { goName := "MessageGps2Rtk", id := 128, defPkg := "common", chain := ["matrixpilot", "common"] },
  { goName := "MessageScaledImu3", id := 129, defPkg := "common", chain := ["matrixpilot", "common"] },
  { goName := "MessageDataTransmissionHandshake", id := 130, defPkg := "common", chain := ["matrixpilot", "common"] },
  { goName := "MessageEncapsulatedData", id := 131, defPkg := "common", chain := ["matrixpilot", "common"] },
  { goName := "MessageDistanceSensor", id := 132, defPkg := "common", chain := ["matrixpilot", "common"] },
  { goName := "MessageTerrainRequest", id := 133, defPkg := "common", chain := ["matrixpilot", "common"] },
  { goName := "MessageTerrainData", id := 134, defPkg := "common", chain := ["matrixpilot", "common"] },
  { goName := "MessageTerrainCheck", id := 135, defPkg := "common", chain := ["matrixpilot", "common"] },
  { goName := "MessageTerrainReport", id := 136, defPkg := "common", chain := ["matrixpilot", "common"] },
  { goName := "MessageScaledPressure2", id := 137, defPkg := "common", chain := ["matrixpilot", "common"] },
  { goName := "MessageAttPosMocap", id := 138, defPkg := "common", chain := ["matrixpilot", "common"] },
  { goName := "MessageSetActuatorControlTarget", id := 139, defPkg := "common", chain := ["matrixpilot", "common"] },
  { goName := "MessageActuatorControlTarget", id := 140, defPkg := "common", chain := ["matrixpilot", "common"] },
  { goName := "MessageAltitude", id := 141, defPkg := "common", chain := ["matrixpilot", "common"] },
  { goName := "MessageResourceRequest", id := 142, defPkg := "common", chain := ["matrixpilot", "common"] },
  { goName := "MessageScaledPressure3", id := 143, defPkg := "common", chain := ["matrixpilot", "common"] },
  { goName := "MessageFollowTarget", id := 144, defPkg := "common", chain := ["matrixpilot", "common"] },
  { goName := "MessageControlSystemState", id := 146, defPkg := "common", chain := ["matrixpilot", "common"] },
  { goName := "MessageBatteryStatus", id := 147, defPkg := "common", chain := ["matrixpilot", "common"] },
  { goName := "MessageAutopilotVersion", id := 148, defPkg := "common", chain := ["matrixpilot", "common"] },
  { goName := "MessageLandingTarget", id := 149, defPkg := "common", chain := ["matrixpilot", "common"] }] ++
[
  { goName := "MessageFenceStatus", id := 162, defPkg := "common", chain := ["matrixpilot", "common"] },
  { goName := "MessageMagCalReport", id := 192, defPkg := "common", chain := ["matrixpilot", "common"] },
  { goName := "MessageEfiStatus", id := 225, defPkg := "common", chain := ["matrixpilot", "common"] },
  { goName := "MessageEstimatorStatus", id := 230, defPkg := "common", chain := ["matrixpilot", "common"] },
  { goName := "MessageWindCov", id := 231, defPkg := "common", chain := ["matrixpilot", "common"] },
  { goName := "MessageGpsInput", id := 232, defPkg := "common", chain := ["matrixpilot", "common"] },
  { goName := "MessageGpsRtcmData", id := 233, defPkg := "common", chain := ["matrixpilot", "common"] },
  { goName := "MessageHighLatency", id := 234, defPkg := "common", chain := ["matrixpilot", "common"] },
  { goName := "MessageHighLatency2", id := 235, defPkg := "common", chain := ["matrixpilot", "common"] },
  { goName := "MessageVibration", id := 241, defPkg := "common", chain := ["matrixpilot", "common"] },
  { goName := "MessageHomePosition", id := 242, defPkg := "common", chain := ["matrixpilot", "common"] },
  { goName := "MessageSetHomePosition", id := 243, defPkg := "common", chain := ["matrixpilot", "common"] },
  { goName := "MessageMessageInterval", id := 244, defPkg := "common", chain := ["matrixpilot", "common"] },
  { goName := "MessageExtendedSysState", id := 245, defPkg := "common", chain := ["matrixpilot", "common"] },
  { goName := "MessageAdsbVehicle", id := 246, defPkg := "common", chain := ["matrixpilot", "common"] },
  { goName := "MessageCollision", id := 247, defPkg := "common", chain := ["matrixpilot", "common"] },
  { goName := "MessageV2Extension", id := 248, defPkg := "common", chain := ["matrixpilot", "common"] },
  { goName := "MessageMemoryVect", id := 249, defPkg := "common", chain := ["matrixpilot", "common"] },
  { goName := "MessageDebugVect", id := 250, defPkg := "common", chain := ["matrixpilot", "common"] },
  { goName := "MessageNamedValueFloat", id := 251, defPkg := "common", chain := ["matrixpilot", "common"] },
  { goName := "MessageNamedValueInt", id := 252, defPkg := "common", chain := ["matrixpilot", "common"] },
  { goName := "MessageStatustext", id := 253, defPkg := "common", chain := ["matrixpilot", "common"] },
  { goName := "MessageDebug", id := 254, defPkg := "common", chain := ["matrixpilot", "common"] },
  { goName := "MessageSetupSigning", id := 256, defPkg := "common", chain := ["matrixpilot", "common"] },
  { goName := "MessageButtonChange", id := 257, defPkg := "common", chain := ["matrixpilot", "common"] },
  { goName := "MessagePlayTune", id := 258, defPkg := "common", chain := ["matrixpilot", "common"] },
  { goName := "MessageCameraInformation", id := 259, defPkg := "common", chain := ["matrixpilot", "common"] },
  { goName := "MessageCameraSettings", id := 260, defPkg := "common", chain := ["matrixpilot", "common"] },
  { goName := "MessageStorageInformation", id := 261, defPkg := "common", chain := ["matrixpilot", "common"] },
  { goName := "MessageCameraCaptureStatus", id := 262, defPkg := "common", chain := ["matrixpilot", "common"] }] ++
[
  { goName := "MessageCameraImageCaptured", id := 263, defPkg := "common", chain := ["matrixpilot", "common"] },
  { goName := "MessageFlightInformation", id := 264, defPkg := "common", chain := ["matrixpilot", "common"] },
  { goName := "MessageMountOrientation", id := 265, defPkg := "common", chain := ["matrixpilot", "common"] },
  { goName := "MessageLoggingData", id := 266, defPkg := "common", chain := ["matrixpilot", "common"] },
  { goName := "MessageLoggingDataAcked", id := 267, defPkg := "common", chain := ["matrixpilot", "common"] },
  { goName := "MessageLoggingAck", id := 268, defPkg := "common", chain := ["matrixpilot", "common"] },
  { goName := "MessageVideoStreamInformation", id := 269, defPkg := "common", chain := ["matrixpilot", "common"] },
  { goName := "MessageVideoStreamStatus", id := 270, defPkg := "common", chain := ["matrixpilot", "common"] },
  { goName := "MessageCameraFovStatus", id := 271, defPkg := "common", chain := ["matrixpilot", "common"] },
  { goName := "MessageCameraTrackingImageStatus", id := 275, defPkg := "common", chain := ["matrixpilot", "common"] },
  { goName := "MessageCameraTrackingGeoStatus", id := 276, defPkg := "common", chain := ["matrixpilot", "common"] },
  { goName := "MessageCameraThermalRange", id := 277, defPkg := "common", chain := ["matrixpilot", "common"] },
  { goName := "MessageGimbalManagerInformation", id := 280, defPkg := "common", chain := ["matrixpilot", "common"] },
  { goName := "MessageGimbalManagerStatus", id := 281, defPkg := "common", chain := ["matrixpilot", "common"] },
  { goName := "MessageGimbalManagerSetAttitude", id := 282, defPkg := "common", chain := ["matrixpilot", "common"] },
  { goName := "MessageGimbalDeviceInformation", id := 283, defPkg := "common", chain := ["matrixpilot", "common"] },
  { goName := "MessageGimbalDeviceSetAttitude", id := 284, defPkg := "common", chain := ["matrixpilot", "common"] },
  { goName := "MessageGimbalDeviceAttitudeStatus", id := 285, defPkg := "common", chain := ["matrixpilot", "common"] },
  { goName := "MessageAutopilotStateForGimbalDevice", id := 286, defPkg := "common", chain := ["matrixpilot", "common"] },
  { goName := "MessageGimbalManagerSetPitchyaw", id := 287, defPkg := "common", chain := ["matrixpilot", "common"] },
  { goName := "MessageGimbalManagerSetManualControl", id := 288, defPkg := "common", chain := ["matrixpilot", "common"] },
  { goName := "MessageEscInfo", id := 290, defPkg := "common", chain := ["matrixpilot", "common"] },
  { goName := "MessageEscStatus", id := 291, defPkg := "common", chain := ["matrixpilot", "common"] },
  { goName := "MessageWifiConfigAp", id := 299, defPkg := "common", chain := ["matrixpilot", "common"] },
  { goName := "MessageAisVessel", id := 301, defPkg := "common", chain := ["matrixpilot", "common"] },
  { goName := "MessageUavcanNodeStatus", id := 310, defPkg := "common", chain := ["matrixpilot", "common"] },
  { goName := "MessageUavcanNodeInfo", id := 311, defPkg := "common", chain := ["matrixpilot", "common"] },
  { goName := "MessageParamExtRequestRead", id := 320, defPkg := "common", chain := ["matrixpilot", "common"] },
  { goName := "MessageParamExtRequestList", id := 321, defPkg := "common", chain := ["matrixpilot", "common"] },
  { goName := "MessageParamExtValue", id := 322, defPkg := "common", chain := ["matrixpilot", "common"] }] ++
[
  { goName := "MessageParamExtSet", id := 323, defPkg := "common", chain := ["matrixpilot", "common"] },
  { goName := "MessageParamExtAck", id := 324, defPkg := "common", chain := ["matrixpilot", "common"] },
  { goName := "MessageObstacleDistance", id := 330, defPkg := "common", chain := ["matrixpilot", "common"] },
  { goName := "MessageOdometry", id := 331, defPkg := "common", chain := ["matrixpilot", "common"] },
  { goName := "MessageTrajectoryRepresentationWaypoints", id := 332, defPkg := "common", chain := ["matrixpilot", "common"] },
  { goName := "MessageTrajectoryRepresentationBezier", id := 333, defPkg := "common", chain := ["matrixpilot", "common"] },
  { goName := "MessageCellularStatus", id := 334, defPkg := "common", chain := ["matrixpilot", "common"] },
  { goName := "MessageIsbdLinkStatus", id := 335, defPkg := "common", chain := ["matrixpilot", "common"] },
  { goName := "MessageCellularConfig", id := 336, defPkg := "common", chain := ["matrixpilot", "common"] },
  { goName := "MessageRawRpm", id := 339, defPkg := "common", chain := ["matrixpilot", "common"] },
  { goName := "MessageUtmGlobalPosition", id := 340, defPkg := "common", chain := ["matrixpilot", "common"] },
  { goName := "MessageDebugFloatArray", id := 350, defPkg := "common", chain := ["matrixpilot", "common"] },
  { goName := "MessageOrbitExecutionStatus", id := 360, defPkg := "common", chain := ["matrixpilot", "common"] },
  { goName := "MessageSmartBatteryInfo", id := 370, defPkg := "common", chain := ["matrixpilot", "common"] },
  { goName := "MessageFuelStatus", id := 371, defPkg := "common", chain := ["matrixpilot", "common"] },
  { goName := "MessageBatteryInfo", id := 372, defPkg := "common", chain := ["matrixpilot", "common"] },
  { goName := "MessageGeneratorStatus", id := 373, defPkg := "common", chain := ["matrixpilot", "common"] },
  { goName := "MessageActuatorOutputStatus", id := 375, defPkg := "common", chain := ["matrixpilot", "common"] },
  { goName := "MessageTimeEstimateToTarget", id := 380, defPkg := "common", chain := ["matrixpilot", "common"] },
  { goName := "MessageTunnel", id := 385, defPkg := "common", chain := ["matrixpilot", "common"] },
  { goName := "MessageCanFrame", id := 386, defPkg := "common", chain := ["matrixpilot", "common"] },
  { goName := "MessageOnboardComputerStatus", id := 390, defPkg := "common", chain := ["matrixpilot", "common"] },
  { goName := "MessageComponentInformation", id := 395, defPkg := "common", chain := ["matrixpilot", "common"] },
  { goName := "MessageComponentInformationBasic", id := 396, defPkg := "common", chain := ["matrixpilot", "common"] },
  { goName := "MessageComponentMetadata", id := 397, defPkg := "common", chain := ["matrixpilot", "common"] },
  { goName := "MessagePlayTuneV2", id := 400, defPkg := "common", chain := ["matrixpilot", "common"] },
  { goName := "MessageSupportedTunes", id := 401, defPkg := "common", chain := ["matrixpilot", "common"] },
  { goName := "MessageEvent", id := 410, defPkg := "common", chain := ["matrixpilot", "common"] },
  { goName := "MessageCurrentEventSequence", id := 411, defPkg := "common", chain := ["matrixpilot", "common"] },
  { goName := "MessageRequestEvent", id := 412, defPkg := "common", chain := ["matrixpilot", "common"] }] ++
[
  { goName := "MessageResponseEventError", id := 413, defPkg := "common", chain := ["matrixpilot", "common"] },
  { goName := "MessageAvailableModes", id := 435, defPkg := "common", chain := ["matrixpilot", "common"] },
  { goName := "MessageCurrentMode", id := 436, defPkg := "common", chain := ["matrixpilot", "common"] },
  { goName := "MessageAvailableModesMonitor", id := 437, defPkg := "common", chain := ["matrixpilot", "common"] },
  { goName := "MessageIlluminatorStatus", id := 440, defPkg := "common", chain := ["matrixpilot", "common"] },
  { goName := "MessageCanfdFrame", id := 387, defPkg := "common", chain := ["matrixpilot", "common"] },
  { goName := "MessageCanFilterModify", id := 388, defPkg := "common", chain := ["matrixpilot", "common"] },
  { goName := "MessageWheelDistance", id := 9000, defPkg := "common", chain := ["matrixpilot", "common"] },
  { goName := "MessageWinchStatus", id := 9005, defPkg := "common", chain := ["matrixpilot", "common"] },
  { goName := "MessageOpenDroneIdBasicId", id := 12900, defPkg := "common", chain := ["matrixpilot", "common"] },
  { goName := "MessageOpenDroneIdLocation", id := 12901, defPkg := "common", chain := ["matrixpilot", "common"] },
  { goName := "MessageOpenDroneIdAuthentication", id := 12902, defPkg := "common", chain := ["matrixpilot", "common"] },
  { goName := "MessageOpenDroneIdSelfId", id := 12903, defPkg := "common", chain := ["matrixpilot", "common"] },
  { goName := "MessageOpenDroneIdSystem", id := 12904, defPkg := "common", chain := ["matrixpilot", "common"] },
  { goName := "MessageOpenDroneIdOperatorId", id := 12905, defPkg := "common", chain := ["matrixpilot", "common"] },
  { goName := "MessageOpenDroneIdMessagePack", id := 12915, defPkg := "common", chain := ["matrixpilot", "common"] },
  { goName := "MessageOpenDroneIdArmStatus", id := 12918, defPkg := "common", chain := ["matrixpilot", "common"] },
  { goName := "MessageOpenDroneIdSystemUpdate", id := 12919, defPkg := "common", chain := ["matrixpilot", "common"] },
  { goName := "MessageHygrometerSensor", id := 12920, defPkg := "common", chain := ["matrixpilot", "common"] },
  { goName := "MessageFlexifunctionSet", id := 150, defPkg := "matrixpilot", chain := ["matrixpilot"] },
  { goName := "MessageFlexifunctionReadReq", id := 151, defPkg := "matrixpilot", chain := ["matrixpilot"] },
  { goName := "MessageFlexifunctionBufferFunction", id := 152, defPkg := "matrixpilot", chain := ["matrixpilot"] },
  { goName := "MessageFlexifunctionBufferFunctionAck", id := 153, defPkg := "matrixpilot", chain := ["matrixpilot"] },
  { goName := "MessageFlexifunctionDirectory", id := 155, defPkg := "matrixpilot", chain := ["matrixpilot"] },
  { goName := "MessageFlexifunctionDirectoryAck", id := 156, defPkg := "matrixpilot", chain := ["matrixpilot"] },
  { goName := "MessageFlexifunctionCommand", id := 157, defPkg := "matrixpilot", chain := ["matrixpilot"] },
  { goName := "MessageFlexifunctionCommandAck", id := 158, defPkg := "matrixpilot", chain := ["matrixpilot"] },
  { goName := "MessageSerialUdbExtraF2A", id := 170, defPkg := "matrixpilot", chain := ["matrixpilot"] },
  { goName := "MessageSerialUdbExtraF2B", id := 171, defPkg := "matrixpilot", chain := ["matrixpilot"] },
  { goName := "MessageSerialUdbExtraF4", id := 172, defPkg := "matrixpilot", chain := ["matrixpilot"] }] ++
[
  { goName := "MessageSerialUdbExtraF5", id := 173, defPkg := "matrixpilot", chain := ["matrixpilot"] },
  { goName := "MessageSerialUdbExtraF6", id := 174, defPkg := "matrixpilot", chain := ["matrixpilot"] },
  { goName := "MessageSerialUdbExtraF7", id := 175, defPkg := "matrixpilot", chain := ["matrixpilot"] },
  { goName := "MessageSerialUdbExtraF8", id := 176, defPkg := "matrixpilot", chain := ["matrixpilot"] },
  { goName := "MessageSerialUdbExtraF13", id := 177, defPkg := "matrixpilot", chain := ["matrixpilot"] },
  { goName := "MessageSerialUdbExtraF14", id := 178, defPkg := "matrixpilot", chain := ["matrixpilot"] },
  { goName := "MessageSerialUdbExtraF15", id := 179, defPkg := "matrixpilot", chain := ["matrixpilot"] },
  { goName := "MessageSerialUdbExtraF16", id := 180, defPkg := "matrixpilot", chain := ["matrixpilot"] },
  { goName := "MessageAltitudes", id := 181, defPkg := "matrixpilot", chain := ["matrixpilot"] },
  { goName := "MessageAirspeeds", id := 182, defPkg := "matrixpilot", chain := ["matrixpilot"] },
  { goName := "MessageSerialUdbExtraF17", id := 183, defPkg := "matrixpilot", chain := ["matrixpilot"] },
  { goName := "MessageSerialUdbExtraF18", id := 184, defPkg := "matrixpilot", chain := ["matrixpilot"] },
  { goName := "MessageSerialUdbExtraF19", id := 185, defPkg := "matrixpilot", chain := ["matrixpilot"] },
  { goName := "MessageSerialUdbExtraF20", id := 186, defPkg := "matrixpilot", chain := ["matrixpilot"] },
  { goName := "MessageSerialUdbExtraF21", id := 187, defPkg := "matrixpilot", chain := ["matrixpilot"] },
  { goName := "MessageSerialUdbExtraF22", id := 188, defPkg := "matrixpilot", chain := ["matrixpilot"] }] }

/-- the message ids of dialect matrixpilot, in the order of its message list -/
def ids_matrixpilot : List Nat := [0, 300, 1, 2, 4, 5, 6, 7, 8, 11, 20, 21, 22, 23, 24, 25, 26, 27, 28, 29, 30, 31, 32, 33, 34, 35, 36, 37, 38, 39, 40, 41, 42, 43, 44, 45, 46, 47, 48, 49] ++ [50, 51, 54, 55, 61, 62, 63, 64, 65, 66, 67, 69, 70, 73, 74, 75, 76, 77, 80, 81, 82, 83, 84, 85, 86, 87, 89, 90, 91, 92, 93, 100, 101, 102, 103, 104, 105, 106, 107, 108] ++ [109, 110, 111, 112, 113, 114, 115, 116, 117, 118, 119, 120, 121, 122, 123, 124, 125, 126, 127, 128, 129, 130, 131, 132, 133, 134, 135, 136, 137, 138, 139, 140, 141, 142, 143, 144, 146, 147, 148, 149] ++ [162, 192, 225, 230, 231, 232, 233, 234, 235, 241, 242, 243, 244, 245, 246, 247, 248, 249, 250, 251, 252, 253, 254, 256, 257, 258, 259, 260, 261, 262, 263, 264, 265, 266, 267, 268, 269, 270, 271, 275] ++ [276, 277, 280, 281, 282, 283, 284, 285, 286, 287, 288, 290, 291, 299, 301, 310, 311, 320, 321, 322, 323, 324, 330, 331, 332, 333, 334, 335, 336, 339, 340, 350, 360, 370, 371, 372, 373, 375, 380, 385] ++ [386, 390, 395, 396, 397, 400, 401, 410, 411, 412, 413, 435, 436, 437, 440, 387, 388, 9000, 9005, 12900, 12901, 12902, 12903, 12904, 12905, 12915, 12918, 12919, 12920, 150, 151, 152, 153, 155, 156, 157, 158, 170, 171, 172] ++ [173, 174, 175, 176, 177, 178, 179, 180, 181, 182, 183, 184, 185, 186, 187, 188]

def dialect_minimal : Dialect := { name := "minimal", version := 3, msgs :=
[
  { goName := "MessageHeartbeat", id := 0, defPkg := "minimal", chain := ["minimal"] },
  { goName := "MessageProtocolVersion", id := 300, defPkg := "minimal", chain := ["minimal"] }] }

/-- the message ids of dialect minimal, in the order of its message list -/
def ids_minimal : List Nat := [0, 300]

def dialect_paparazzi : Dialect := { name := "paparazzi", version := 3, msgs :=
[
  { goName := "MessageHeartbeat", id := 0, defPkg := "minimal", chain := ["paparazzi", "minimal"] },
  { goName := "MessageProtocolVersion", id := 300, defPkg := "minimal", chain := ["paparazzi", "minimal"] },
  { goName := "MessageSysStatus", id := 1, defPkg := "common", chain := ["paparazzi", "common"] },
  { goName := "MessageSystemTime", id := 2, defPkg := "common", chain := ["paparazzi", "common"] },
  { goName := "MessagePing", id := 4, defPkg := "common", chain := ["paparazzi", "common"] },
  { goName := "MessageChangeOperatorControl", id := 5, defPkg := "common", chain := ["paparazzi", "common"] },
  { goName := "MessageChangeOperatorControlAck", id := 6, defPkg := "common", chain := ["paparazzi", "common"] },
  { goName := "MessageAuthKey", id := 7, defPkg := "common", chain := ["paparazzi", "common"] },
  { goName := "MessageLinkNodeStatus", id := 8, defPkg := "common", chain := ["paparazzi", "common"] },
  { goName := "MessageSetMode", id := 11, defPkg := "common", chain := ["paparazzi", "common"] },
  { goName := "MessageParamRequestRead", id := 20, defPkg := "common", chain := ["paparazzi", "common"] },
  { goName := "MessageParamRequestList", id := 21, defPkg := "common", chain := ["paparazzi", "common"] },
  { goName := "MessageParamValue", id := 22, defPkg := "common", chain := ["paparazzi", "common"] },
  { goName := "MessageParamSet", id := 23, defPkg := "common", chain := ["paparazzi", "common"] },
  { goName := "MessageGpsRawInt", id := 24, defPkg := "common", chain := ["paparazzi", "common"] },
  { goName := "MessageGpsStatus", id := 25, defPkg := "common", chain := ["paparazzi", "common"] },
  { goName := "MessageScaledImu", id := 26, defPkg := "common", chain := ["paparazzi", "common"] },
  { goName := "MessageRawImu", id := 27, defPkg := "common", chain := ["paparazzi", "common"] },
  { goName := "MessageRawPressure", id := 28, defPkg := "common", chain := ["paparazzi", "common"] },
  { goName := "MessageScaledPressure", id := 29, defPkg := "common", chain := ["paparazzi", "common"] },
  { goName := "MessageAttitude", id := 30, defPkg := "common", chain := ["paparazzi", "common"] },
  { goName := "MessageAttitudeQuaternion", id := 31, defPkg := "common", chain := ["paparazzi", "common"] },
  { goName := "MessageLocalPositionNed", id := 32, defPkg := "common", chain := ["paparazzi", "common"] },
  { goName := "MessageGlobalPositionInt", id := 33, defPkg := "common", chain := ["paparazzi", "common"] },
  { goName := "MessageRcChannelsScaled", id := 34, defPkg := "common", chain := ["paparazzi", "common"] },
  { goName := "MessageRcChannelsRaw", id := 35, defPkg := "common", chain := ["paparazzi", "common"] },
  { goName := "MessageServoOutputRaw", id := 36, defPkg := "common", chain := ["paparazzi", "common"] },
  { goName := "MessageMissionRequestPartialList", id := 37, defPkg := "common", chain := ["paparazzi", "common"] },
  { goName := "MessageMissionWritePartialList", id := 38, defPkg := "common", chain := ["paparazzi", "common"] },
  { goName := "MessageMissionItem", id := 39, defPkg := "common", chain := ["paparazzi", "common"] }] ++
[
  { goName := "MessageMissionRequest", id := 40, defPkg := "common", chain := ["paparazzi", "common"] },
  { goName := "MessageMissionSetCurrent", id := 41, defPkg := "common", chain := ["paparazzi", "common"] },
  { goName := "MessageMissionCurrent", id := 42, defPkg := "common", chain := ["paparazzi", "common"] },
  { goName := "MessageMissionRequestList", id := 43, defPkg := "common", chain := ["paparazzi", "common"] },
  { goName := "MessageMissionCount", id := 44, defPkg := "common", chain := ["paparazzi", "common"] },
  { goName := "MessageMissionClearAll", id := 45, defPkg := "common", chain := ["paparazzi", "common"] },
  { goName := "MessageMissionItemReached", id := 46, defPkg := "common", chain := ["paparazzi", "common"] },
  { goName := "MessageMissionAck", id := 47, defPkg := "common", chain := ["paparazzi", "common"] },
  { goName := "MessageSetGpsGlobalOrigin", id := 48, defPkg := "common", chain := ["paparazzi", "common"] },
  { goName := "MessageGpsGlobalOrigin", id := 49, defPkg := "common", chain := ["paparazzi", "common"] },
  { goName := "MessageParamMapRc", id := 50, defPkg := "common", chain := ["paparazzi", "common"] },
  { goName := "MessageMissionRequestInt", id := 51, defPkg := "common", chain := ["paparazzi", "common"] },
  { goName := "MessageSafetySetAllowedArea", id := 54, defPkg := "common", chain := ["paparazzi", "common"] },
  { goName := "MessageSafetyAllowedArea", id := 55, defPkg := "common", chain := ["paparazzi", "common"] },
  { goName := "MessageAttitudeQuaternionCov", id := 61, defPkg := "common", chain := ["paparazzi", "common"] },
  { goName := "MessageNavControllerOutput", id := 62, defPkg := "common", chain := ["paparazzi", "common"] },
  { goName := "MessageGlobalPositionIntCov", id := 63, defPkg := "common", chain := ["paparazzi", "common"] },
  { goName := "MessageLocalPositionNedCov", id := 64, defPkg := "common", chain := ["paparazzi", "common"] },
  { goName := "MessageRcChannels", id := 65, defPkg := "common", chain := ["paparazzi", "common"] },
  { goName := "MessageRequestDataStream", id := 66, defPkg := "common", chain := ["paparazzi", "common"] },
  { goName := "MessageDataStream", id := 67, defPkg := "common", chain := ["paparazzi", "common"] },
  { goName := "MessageManualControl", id := 69, defPkg := "common", chain := ["paparazzi", "common"] },
  { goName := "MessageRcChannelsOverride", id := 70, defPkg := "common", chain := ["paparazzi", "common"] },
  { goName := "MessageMissionItemInt", id := 73, defPkg := "common", chain := ["paparazzi", "common"] },
  { goName := "MessageVfrHud", id := 74, defPkg := "common", chain := ["paparazzi", "common"] },
  { goName := "MessageCommandInt", id := 75, defPkg := "common", chain := ["paparazzi", "common"] },
  { goName := "MessageCommandLong", id := 76, defPkg := "common", chain := ["paparazzi", "common"] },
  { goName := "MessageCommandAck", id := 77, defPkg := "common", chain := ["paparazzi", "common"] },
  { goName := "MessageCommandCancel", id := 80, defPkg := "common", chain := ["paparazzi", "common"] },
  { goName := "MessageManualSetpoint", id := 81, defPkg := "common", chain := ["paparazzi", "common"] }] ++
[
  { goName := "MessageSetAttitudeTarget", id := 82, defPkg := "common", chain := ["paparazzi", "common"] },
  { goName := "MessageAttitudeTarget", id := 83, defPkg := "common", chain := ["paparazzi", "common"] },
  { goName := "MessageSetPositionTargetLocalNed", id := 84, defPkg := "common", chain := ["paparazzi", "common"] },
  { goName := "MessagePositionTargetLocalNed", id := 85, defPkg := "common", chain := ["paparazzi", "common"] },
  { goName := "MessageSetPositionTargetGlobalInt", id := 86, defPkg := "common", chain := ["paparazzi", "common"] },
  { goName := "MessagePositionTargetGlobalInt", id := 87, defPkg := "common", chain := ["paparazzi", "common"] },
  { goName := "MessageLocalPositionNedSystemGlobalOffset", id := 89, defPkg := "common", chain := ["paparazzi", "common"] },
  { goName := "MessageHilState", id := 90, defPkg := "common", chain := ["paparazzi", "common"] },
  { goName := "MessageHilControls", id := 91, defPkg := "common", chain := ["paparazzi", "common"] },
  { goName := "MessageHilRcInputsRaw", id := 92, defPkg := "common", chain := ["paparazzi", "common"] },
  { goName := "MessageHilActuatorControls", id := 93, defPkg := "common", chain := ["paparazzi", "common"] },
  { goName := "MessageOpticalFlow", id := 100, defPkg := "common", chain := ["paparazzi", "common"] },
  { goName := "MessageGlobalVisionPositionEstimate", id := 101, defPkg := "common", chain := ["paparazzi", "common"] },
  { goName := "MessageVisionPositionEstimate", id := 102, defPkg := "common", chain := ["paparazzi", "common"] },
  { goName := "MessageVisionSpeedEstimate", id := 103, defPkg := "common", chain := ["paparazzi", "common"] },
  { goName := "MessageViconPositionEstimate", id := 104, defPkg := "common", chain := ["paparazzi", "common"] },
  { goName := "MessageHighresImu", id := 105, defPkg := "common", chain := ["paparazzi", "common"] },
  { goName := "MessageOpticalFlowRad", id := 106, defPkg := "common", chain := ["paparazzi", "common"] },
  { goName := "MessageHilSensor", id := 107, defPkg := "common", chain := ["paparazzi", "common"] },
  { goName := "MessageSimState", id := 108, defPkg := "common", chain := ["paparazzi", "common"] },
  { goName := "MessageRadioStatus", id := 109, defPkg := "common", chain := ["paparazzi", "common"] },
  { goName := "MessageFileTransferProtocol", id := 110, defPkg := "common", chain := ["paparazzi", "common"] },
  { goName := "MessageTimesync", id := 111, defPkg := "common", chain := ["paparazzi", "common"] },
  { goName := "MessageCameraTrigger", id := 112, defPkg := "common", chain := ["paparazzi", "common"] },
  { goName := "MessageHilGps", id := 113, defPkg := "common", chain := ["paparazzi", "common"] },
  { goName := "MessageHilOpticalFlow", id := 114, defPkg := "common", chain := ["paparazzi", "common"] },
  { goName := "MessageHilStateQuaternion", id := 115, defPkg := "common", chain := ["paparazzi", "common"] },
  { goName := "MessageScaledImu2", id := 116, defPkg := "common", chain := ["paparazzi", "common"] },
  { goName := "MessageLogRequestList", id := 117, defPkg := "common", chain := ["paparazzi", "common"] },
  { goName := "MessageLogEntry", id := 118, defPkg := "common", chain := ["paparazzi", "common"] }] ++
[
  { goName := "MessageLogRequestData", id := 119, defPkg := "common", chain := ["paparazzi", "common"] },
  { goName := "MessageLogData", id := 120, defPkg := "common", chain := ["paparazzi", "common"] },
  { goName := "MessageLogErase", id := 121, defPkg := "common", chain := ["paparazzi", "common"] },
  { goName := "MessageLogRequestEnd", id := 122, defPkg := "common", chain := ["paparazzi", "common"] },
  { goName := "MessageGpsInjectData", id := 123, defPkg := "common", chain := ["paparazzi", "common"] },
  { goName := "MessageGps2Raw", id := 124, defPkg := "common", chain := ["paparazzi", "common"] },
  { goName := "MessagePowerStatus", id := 125, defPkg := "common", chain := ["paparazzi", "common"] },
  { goName := "MessageSerialControl", id := 126, defPkg := "common", chain := ["paparazzi", "common"] },
  { goName := "MessageGpsRtk", id := 127, defPkg := "common", chain := ["paparazzi", "common"] },
  { goName := "MessageGps2Rtk", id := 128, defPkg := "common", chain := ["paparazzi", "common"] },
  { goName := "MessageScaledImu3", id := 129, defPkg := "common", chain := ["paparazzi", "common"] },
  { goName := "MessageDataTransmissionHandshake", id := 130, defPkg := "common", chain := ["paparazzi", "common"] },
  { goName := "MessageEncapsulatedData", id := 131, defPkg := "common", chain := ["paparazzi", "common"] },
  { goName := "MessageDistanceSensor", id := 132, defPkg := "common", chain := ["paparazzi", "common"] },
  { goName := "MessageTerrainRequest", id := 133, defPkg := "common", chain := ["paparazzi", "common"] },
  { goName := "MessageTerrainData", id := 134, defPkg := "common", chain := ["paparazzi", "common"] },
  { goName := "MessageTerrainCheck", id := 135, defPkg := "common", chain := ["paparazzi", "common"] },
  { goName := "MessageTerrainReport", id := 136, defPkg := "common", chain := ["paparazzi", "common"] },
  { goName := "MessageScaledPressure2", id := 137, defPkg := "common", chain := ["paparazzi", "common"] },
  { goName := "MessageAttPosMocap", id := 138, defPkg := "common", chain := ["paparazzi", "common"] },
  { goName := "MessageSetActuatorControlTarget", id := 139, defPkg := "common", chain := ["paparazzi", "common"] },
  { goName := "MessageActuatorControlTarget", id := 140, defPkg := "common", chain := ["paparazzi", "common"] },
  { goName := "MessageAltitude", id := 141, defPkg := "common", chain := ["paparazzi", "common"] },
  { goName := "MessageResourceRequest", id := 142, defPkg := "common", chain := ["paparazzi", "common"] },
  { goName := "MessageScaledPressure3", id := 143, defPkg := "common", chain := ["paparazzi", "common"] },
  { goName := "MessageFollowTarget", id := 144, defPkg := "common", chain := ["paparazzi", "common"] },
  { goName := "MessageControlSystemState", id := 146, defPkg := "common", chain := ["paparazzi", "common"] },
  { goName := "MessageBatteryStatus", id := 147, defPkg := "common", chain := ["paparazzi", "common"] },
  { goName := "MessageAutopilotVersion", id := 148, defPkg := "common", chain := ["paparazzi", "common"] },
  { goName := "MessageLandingTarget", id := 149, defPkg := "common", chain := ["paparazzi", "common"] }] ++
[
  { goName := "MessageFenceStatus", id := 162, defPkg := "common", chain := ["paparazzi", "common"] },
  { goName := "MessageMagCalReport", id := 192, defPkg := "common", chain := ["paparazzi", "common"] },
  { goName := "MessageEfiStatus", id := 225, defPkg := "common", chain := ["paparazzi", "common"] },
  { goName := "MessageEstimatorStatus", id := 230, defPkg := "common", chain := ["paparazzi", "common"] },
  { goName := "MessageWindCov", id := 231, defPkg := "common", chain := ["paparazzi", "common"] },
  { goName := "MessageGpsInput", id := 232, defPkg := "common", chain := ["paparazzi", "common"] },
  { goName := "MessageGpsRtcmData", id := 233, defPkg := "common", chain := ["paparazzi", "common"] },
  { goName := "MessageHighLatency", id := 234, defPkg := "common", chain := ["paparazzi", "common"] },
  { goName := "MessageHighLatency2", id := 235, defPkg := "common", chain := ["paparazzi", "common"] },
  { goName := "MessageVibration", id := 241, defPkg := "common", chain := ["paparazzi", "common"] },
  { goName := "MessageHomePosition", id := 242, defPkg := "common", chain := ["paparazzi", "common"] },
  { goName := "MessageSetHomePosition", id := 243, defPkg := "common", chain := ["paparazzi", "common"] },
  { goName := "MessageMessageInterval", id := 244, defPkg := "common", chain := ["paparazzi", "common"] },
  { goName := "MessageExtendedSysState", id := 245, defPkg := "common", chain := ["paparazzi", "common"] },
  { goName := "MessageAdsbVehicle", id := 246, defPkg := "common", chain := ["paparazzi", "common"] },
  { goName := "MessageCollision", id := 247, defPkg := "common", chain := ["paparazzi", "common"] },
  { goName := "MessageV2Extension", id := 248, defPkg := "common", chain := ["paparazzi", "common"] },
  { goName := "MessageMemoryVect", id := 249, defPkg := "common", chain := ["paparazzi", "common"] },
  { goName := "MessageDebugVect", id := 250, defPkg := "common", chain := ["paparazzi", "common"] },
  { goName := "MessageNamedValueFloat", id := 251, defPkg := "common", chain := ["paparazzi", "common"] },
  { goName := "MessageNamedValueInt", id := 252, defPkg := "common", chain := ["paparazzi", "common"] },
  { goName := "MessageStatustext", id := 253, defPkg := "common", chain := ["paparazzi", "common"] },
  { goName := "MessageDebug", id := 254, defPkg := "common", chain := ["paparazzi", "common"] },
  { goName := "MessageSetupSigning", id := 256, defPkg := "common", chain := ["paparazzi", "common"] },
  { goName := "MessageButtonChange", id := 257, defPkg := "common", chain := ["paparazzi", "common"] },
  { goName := "MessagePlayTune", id := 258, defPkg := "common", chain := ["paparazzi", "common"] },
  { goName := "MessageCameraInformation", id := 259, defPkg := "common", chain := ["paparazzi", "common"] },
  { goName := "MessageCameraSettings", id := 260, defPkg := "common", chain := ["paparazzi", "common"] },
  { goName := "MessageStorageInformation", id := 261, defPkg := "common", chain := ["paparazzi", "common"] },
  { goName := "MessageCameraCaptureStatus", id := 262, defPkg := "common", chain := ["paparazzi", "common"] }] ++
[
  { goName := "MessageCameraImageCaptured", id := 263, defPkg := "common", chain := ["paparazzi", "common"] },
  { goName := "MessageFlightInformation", id := 264, defPkg := "common", chain := ["paparazzi", "common"] },
  { goName := "MessageMountOrientation", id := 265, defPkg := "common", chain := ["paparazzi", "common"] },
  { goName := "MessageLoggingData", id := 266, defPkg := "common", chain := ["paparazzi", "common"] },
  { goName := "MessageLoggingDataAcked", id := 267, defPkg := "common", chain := ["paparazzi", "common"] },
  { goName := "MessageLoggingAck", id := 268, defPkg := "common", chain := ["paparazzi", "common"] },
  { goName := "MessageVideoStreamInformation", id := 269, defPkg := "common", chain := ["paparazzi", "common"] },
  { goName := "MessageVideoStreamStatus", id := 270, defPkg := "common", chain := ["paparazzi", "common"] },
  { goName := "MessageCameraFovStatus", id := 271, defPkg := "common", chain := ["paparazzi", "common"] },
  { goName := "MessageCameraTrackingImageStatus", id := 275, defPkg := "common", chain := ["paparazzi", "common"] },
  { goName := "MessageCameraTrackingGeoStatus", id := 276, defPkg := "common", chain := ["paparazzi", "common"] },
  { goName := "MessageCameraThermalRange", id := 277, defPkg := "common", chain := ["paparazzi", "common"] },
  { goName := "MessageGimbalManagerInformation", id := 280, defPkg := "common", chain := ["paparazzi", "common"] },
  { goName := "MessageGimbalManagerStatus", id := 281, defPkg := "common", chain := ["paparazzi", "common"] },
  { goName := "MessageGimbalManagerSetAttitude", id := 282, defPkg := "common", chain := ["paparazzi", "common"] },
  { goName := "MessageGimbalDeviceInformation", id := 283, defPkg := "common", chain := ["paparazzi", "common"] },
  { goName := "MessageGimbalDeviceSetAttitude", id := 284, defPkg := "common", chain := ["paparazzi", "common"] },
  { goName := "MessageGimbalDeviceAttitudeStatus", id := 285, defPkg := "common", chain := ["paparazzi", "common"] },
  { goName := "MessageAutopilotStateForGimbalDevice", id := 286, defPkg := "common", chain := ["paparazzi", "common"] },
  { goName := "MessageGimbalManagerSetPitchyaw", id := 287, defPkg := "common", chain := ["paparazzi", "common"] },
  { goName := "MessageGimbalManagerSetManualControl", id := 288, defPkg := "common", chain := ["paparazzi", "common"] },
  { goName := "MessageEscInfo", id := 290, defPkg := "common", chain := ["paparazzi", "common"] },
  { goName := "MessageEscStatus", id := 291, defPkg := "common", chain := ["paparazzi", "common"] },
  { goName := "MessageWifiConfigAp", id := 299, defPkg := "common", chain := ["paparazzi", "common"] },
  { goName := "MessageAisVessel", id := 301, defPkg := "common", chain := ["paparazzi", "common"] },
  { goName := "MessageUavcanNodeStatus", id := 310, defPkg := "common", chain := ["paparazzi", "common"] },
  { goName := "MessageUavcanNodeInfo", id := 311, defPkg := "common", chain := ["paparazzi", "common"] },
  { goName := "MessageParamExtRequestRead", id := 320, defPkg := "common", chain := ["paparazzi", "common"] },
  { goName := "MessageParamExtRequestList", id := 321, defPkg := "common", chain := ["paparazzi", "common"] },
  { goName := "MessageParamExtValue", id := 322, defPkg := "common", chain := ["paparazzi", "common"] }] ++
[
  { goName := "MessageParamExtSet", id := 323, defPkg := "common", chain := ["paparazzi", "common"] },
  { goName := "MessageParamExtAck", id := 324, defPkg := "common", chain := ["paparazzi", "common"] },
  { goName := "MessageObstacleDistance", id := 330, defPkg := "common", chain := ["paparazzi", "common"] },
  { goName := "MessageOdometry", id := 331, defPkg := "common", chain := ["paparazzi", "common"] },
  { goName := "MessageTrajectoryRepresentationWaypoints", id := 332, defPkg := "common", chain := ["paparazzi", "common"] },
  { goName := "MessageTrajectoryRepresentationBezier", id := 333, defPkg := "common", chain := ["paparazzi", "common"] },
  { goName := "MessageCellularStatus", id := 334, defPkg := "common", chain := ["paparazzi", "common"] },
  { goName := "MessageIsbdLinkStatus", id := 335, defPkg := "common", chain := ["paparazzi", "common"] },
  { goName := "MessageCellularConfig", id := 336, defPkg := "common", chain := ["paparazzi", "common"] },
  { goName := "MessageRawRpm", id := 339, defPkg := "common", chain := ["paparazzi", "common"] },
  { goName := "MessageUtmGlobalPosition", id := 340, defPkg := "common", chain := ["paparazzi", "common"] },
  { goName := "MessageDebugFloatArray", id := 350, defPkg := "common", chain := ["paparazzi", "common"] },
  { goName := "MessageOrbitExecutionStatus", id := 360, defPkg := "common", chain := ["paparazzi", "common"] },
  { goName := "MessageSmartBatteryInfo", id := 370, defPkg := "common", chain := ["paparazzi", "common"] },
  { goName := "MessageFuelStatus", id := 371, defPkg := "common", chain := ["paparazzi", "common"] },
  { goName := "MessageBatteryInfo", id := 372, defPkg := "common", chain := ["paparazzi", "common"] },
  { goName := "MessageGeneratorStatus", id := 373, defPkg := "common", chain := ["paparazzi", "common"] },
  { goName := "MessageActuatorOutputStatus", id := 375, defPkg := "common", chain := ["paparazzi", "common"] },
  { goName := "MessageTimeEstimateToTarget", id := 380, defPkg := "common", chain := ["paparazzi", "common"] },
  { goName := "MessageTunnel", id := 385, defPkg := "common", chain := ["paparazzi", "common"] },
  { goName := "MessageCanFrame", id := 386, defPkg := "common", chain := ["paparazzi", "common"] },
  { goName := "MessageOnboardComputerStatus", id := 390, defPkg := "common", chain := ["paparazzi", "common"] },
  { goName := "MessageComponentInformation", id := 395, defPkg := "common", chain := ["paparazzi", "common"] },
  { goName := "MessageComponentInformationBasic", id := 396, defPkg := "common", chain := ["paparazzi", "common"] },
  { goName := "MessageComponentMetadata", id := 397, defPkg := "common", chain := ["paparazzi", "common"] },
  { goName := "MessagePlayTuneV2", id := 400, defPkg := "common", chain := ["paparazzi", "common"] },
  { goName := "MessageSupportedTunes", id := 401, defPkg := "common", chain := ["paparazzi", "common"] },
  { goName := "MessageEvent", id := 410, defPkg := "common", chain := ["paparazzi", "common"] },
  { goName := "MessageCurrentEventSequence", id := 411, defPkg := "common", chain := ["paparazzi", "common"] },
  { goName := "MessageRequestEvent", id := 412, defPkg := "common", chain := ["paparazzi", "common"] }] ++
[
  { goName := "MessageResponseEventError", id := 413, defPkg := "common", chain := ["paparazzi", "common"] },
  { goName := "MessageAvailableModes", id := 435, defPkg := "common", chain := ["paparazzi", "common"] },
  { goName := "MessageCurrentMode", id := 436, defPkg := "common", chain := ["paparazzi", "common"] },
  { goName := "MessageAvailableModesMonitor", id := 437, defPkg := "common", chain := ["paparazzi", "common"] },
  { goName := "MessageIlluminatorStatus", id := 440, defPkg := "common", chain := ["paparazzi", "common"] },
  { goName := "MessageCanfdFrame", id := 387, defPkg := "common", chain := ["paparazzi", "common"] },
  { goName := "MessageCanFilterModify", id := 388, defPkg := "common", chain := ["paparazzi", "common"] },
  { goName := "MessageWheelDistance", id := 9000, defPkg := "common", chain := ["paparazzi", "common"] },
  { goName := "MessageWinchStatus", id := 9005, defPkg := "common", chain := ["paparazzi", "common"] },
  { goName := "MessageOpenDroneIdBasicId", id := 12900, defPkg := "common", chain := ["paparazzi", "common"] },
  { goName := "MessageOpenDroneIdLocation", id := 12901, defPkg := "common", chain := ["paparazzi", "common"] },
  { goName := "MessageOpenDroneIdAuthentication", id := 12902, defPkg := "common", chain := ["paparazzi", "common"] },
  { goName := "MessageOpenDroneIdSelfId", id := 12903, defPkg := "common", chain := ["paparazzi", "common"] },
  { goName := "MessageOpenDroneIdSystem", id := 12904, defPkg := "common", chain := ["paparazzi", "common"] },
  { goName := "MessageOpenDroneIdOperatorId", id := 12905, defPkg := "common", chain := ["paparazzi", "common"] },
  { goName := "MessageOpenDroneIdMessagePack", id := 12915, defPkg := "common", chain := ["paparazzi", "common"] },
  { goName := "MessageOpenDroneIdArmStatus", id := 12918, defPkg := "common", chain := ["paparazzi", "common"] },
  { goName := "MessageOpenDroneIdSystemUpdate", id := 12919, defPkg := "common", chain := ["paparazzi", "common"] },
  { goName := "MessageHygrometerSensor", id := 12920, defPkg := "common", chain := ["paparazzi", "common"] },
  { goName := "MessageScriptItem", id := 180, defPkg := "paparazzi", chain := ["paparazzi"] },
  { goName := "MessageScriptRequest", id := 181, defPkg := "paparazzi", chain := ["paparazzi"] },
  { goName := "MessageScriptRequestList", id := 182, defPkg := "paparazzi", chain := ["paparazzi"] },
  { goName := "MessageScriptCount", id := 183, defPkg := "paparazzi", chain := ["paparazzi"] },
  { goName := "MessageScriptCurrent", id := 184, defPkg := "paparazzi", chain := ["paparazzi"] }] }

/-- the message ids of dialect paparazzi, in the order of its message list -/
def ids_paparazzi : List Nat := [0, 300, 1, 2, 4, 5, 6, 7, 8, 11, 20, 21, 22, 23, 24, 25, 26, 27, 28, 29, 30, 31, 32, 33, 34, 35, 36, 37, 38, 39, 40, 41, 42, 43, 44, 45, 46, 47, 48, 49] ++ [50, 51, 54, 55, 61, 62, 63, 64, 65, 66, 67, 69, 70, 73, 74, 75, 76, 77, 80, 81, 82, 83, 84, 85, 86, 87, 89, 90, 91, 92, 93, 100, 101, 102, 103, 104, 105, 106, 107, 108] ++ [109, 110, 111, 112, 113, 114, 115, 116, 117, 118, 119, 120, 121, 122, 123, 124, 125, 126, 127, 128, 129, 130, 131, 132, 133, 134, 135, 136, 137, 138, 139, 140, 141, 142, 143, 144, 146, 147, 148, 149] ++ [162, 192, 225, 230, 231, 232, 233, 234, 235, 241, 242, 243, 244, 245, 246, 247, 248, 249, 250, 251, 252, 253, 254, 256, 257, 258, 259, 260, 261, 262, 263, 264, 265, 266, 267, 268, 269, 270, 271, 275] ++ [276, 277, 280, 281, 282, 283, 284, 285, 286, 287, 288, 290, 291, 299, 301, 310, 311, 320, 321, 322, 323, 324, 330, 331, 332, 333, 334, 335, 336, 339, 340, 350, 360, 370, 371, 372, 373, 375, 380, 385] ++ [386, 390, 395, 396, 397, 400, 401, 410, 411, 412, 413, 435, 436, 437, 440, 387, 388, 9000, 9005, 12900, 12901, 12902, 12903, 12904, 12905, 12915, 12918, 12919, 12920, 180, 181, 182, 183, 184]

def dialect_pythonarraytest : Dialect := { name := "pythonarraytest", version := 3, msgs :=
[
  { goName := "MessageHeartbeat", id := 0, defPkg := "minimal", chain := ["pythonarraytest", "minimal"] },
  { goName := "MessageProtocolVersion", id := 300, defPkg := "minimal", chain := ["pythonarraytest", "minimal"] },
  { goName := "MessageSysStatus", id := 1, defPkg := "common", chain := ["pythonarraytest", "common"] },
  { goName := "MessageSystemTime", id := 2, defPkg := "common", chain := ["pythonarraytest", "common"] },
  { goName := "MessagePing", id := 4, defPkg := "common", chain := ["pythonarraytest", "common"] },
  { goName := "MessageChangeOperatorControl", id := 5, defPkg := "common", chain := ["pythonarraytest", "common"] },
  { goName := "MessageChangeOperatorControlAck", id := 6, defPkg := "common", chain := ["pythonarraytest", "common"] },
  { goName := "MessageAuthKey", id := 7, defPkg := "common", chain := ["pythonarraytest", "common"] },
  { goName := "MessageLinkNodeStatus", id := 8, defPkg := "common", chain := ["pythonarraytest", "common"] },
  { goName := "MessageSetMode", id := 11, defPkg := "common", chain := ["pythonarraytest", "common"] },
  { goName := "MessageParamRequestRead", id := 20, defPkg := "common", chain := ["pythonarraytest", "common"] },
  { goName := "MessageParamRequestList", id := 21, defPkg := "common", chain := ["pythonarraytest", "common"] },
  { goName := "MessageParamValue", id := 22, defPkg := "common", chain := ["pythonarraytest", "common"] },
  { goName := "MessageParamSet", id := 23, defPkg := "common", chain := ["pythonarraytest", "common"] },
  { goName := "MessageGpsRawInt", id := 24, defPkg := "common", chain := ["pythonarraytest", "common"] },
  { goName := "MessageGpsStatus", id := 25, defPkg := "common", chain := ["pythonarraytest", "common"] },
  { goName := "MessageScaledImu", id := 26, defPkg := "common", chain := ["pythonarraytest", "common"] },
  { goName := "MessageRawImu", id := 27, defPkg := "common", chain := ["pythonarraytest", "common"] },
  { goName := "MessageRawPressure", id := 28, defPkg := "common", chain := ["pythonarraytest", "common"] },
  { goName := "MessageScaledPressure", id := 29, defPkg := "common", chain := ["pythonarraytest", "common"] },
  { goName := "MessageAttitude", id := 30, defPkg := "common", chain := ["pythonarraytest", "common"] },
  { goName := "MessageAttitudeQuaternion", id := 31, defPkg := "common", chain := ["pythonarraytest", "common"] },
  { goName := "MessageLocalPositionNed", id := 32, defPkg := "common", chain := ["pythonarraytest", "common"] },
  { goName := "MessageGlobalPositionInt", id := 33, defPkg := "common", chain := ["pythonarraytest", "common"] },
  { goName := "MessageRcChannelsScaled", id := 34, defPkg := "common", chain := ["pythonarraytest", "common"] },
  { goName := "MessageRcChannelsRaw", id := 35, defPkg := "common", chain := ["pythonarraytest", "common"] },
  { goName := "MessageServoOutputRaw", id := 36, defPkg := "common", chain := ["pythonarraytest", "common"] },
  { goName := "MessageMissionRequestPartialList", id := 37, defPkg := "common", chain := ["pythonarraytest", "common"] },
  { goName := "MessageMissionWritePartialList", id := 38, defPkg := "common", chain := ["pythonarraytest", "common"] },
  { goName := "MessageMissionItem", id := 39, defPkg := "common", chain := ["pythonarraytest", "common"] }] ++
[
  { goName := "MessageMissionRequest", id := 40, defPkg := "common", chain := ["pythonarraytest", "common"] },
  { goName := "MessageMissionSetCurrent", id := 41, defPkg := "common", chain := ["pythonarraytest", "common"] },
  { goName := "MessageMissionCurrent", id := 42, defPkg := "common", chain := ["pythonarraytest", "common"] },
  { goName := "MessageMissionRequestList", id := 43, defPkg := "common", chain := ["pythonarraytest", "common"] },
  { goName := "MessageMissionCount", id := 44, defPkg := "common", chain := ["pythonarraytest", "common"] },
  { goName := "MessageMissionClearAll", id := 45, defPkg := "common", chain := ["pythonarraytest", "common"] },
  { goName := "MessageMissionItemReached", id := 46, defPkg := "common", chain := ["pythonarraytest", "common"] },
  { goName := "MessageMissionAck", id := 47, defPkg := "common", chain := ["pythonarraytest", "common"] },
  { goName := "MessageSetGpsGlobalOrigin", id := 48, defPkg := "common", chain := ["pythonarraytest", "common"] },
  { goName := "MessageGpsGlobalOrigin", id := 49, defPkg := "common", chain := ["pythonarraytest", "common"] },
  { goName := "MessageParamMapRc", id := 50, defPkg := "common", chain := ["pythonarraytest", "common"] },
  { goName := "MessageMissionRequestInt", id := 51, defPkg := "common", chain := ["pythonarraytest", "common"] },
  { goName := "MessageSafetySetAllowedArea", id := 54, defPkg := "common", chain := ["pythonarraytest", "common"] },
  { goName := "MessageSafetyAllowedArea", id := 55, defPkg := "common", chain := ["pythonarraytest", "common"] },
  { goName := "MessageAttitudeQuaternionCov", id := 61, defPkg := "common", chain := ["pythonarraytest", "common"] },
  { goName := "MessageNavControllerOutput", id := 62, defPkg := "common", chain := ["pythonarraytest", "common"] },
  { goName := "MessageGlobalPositionIntCov", id := 63, defPkg := "common", chain := ["pythonarraytest", "common"] },
  { goName := "MessageLocalPositionNedCov", id := 64, defPkg := "common", chain := ["pythonarraytest", "common"] },
  { goName := "MessageRcChannels", id := 65, defPkg := "common", chain := ["pythonarraytest", "common"] },
  { goName := "MessageRequestDataStream", id := 66, defPkg := "common", chain := ["pythonarraytest", "common"] },
  { goName := "MessageDataStream", id := 67, defPkg := "common", chain := ["pythonarraytest", "common"] },
  { goName := "MessageManualControl", id := 69, defPkg := "common", chain := ["pythonarraytest", "common"] },
  { goName := "MessageRcChannelsOverride", id := 70, defPkg := "common", chain := ["pythonarraytest", "common"] },
  { goName := "MessageMissionItemInt", id := 73, defPkg := "common", chain := ["pythonarraytest", "common"] },
  { goName := "MessageVfrHud", id := 74, defPkg := "common", chain := ["pythonarraytest", "common"] },
  { goName := "MessageCommandInt", id := 75, defPkg := "common", chain := ["pythonarraytest", "common"] },
  { goName := "MessageCommandLong", id := 76, defPkg := "common", chain := ["pythonarraytest", "common"] },
  { goName := "MessageCommandAck", id := 77, defPkg := "common", chain := ["pythonarraytest", "common"] },
  { goName := "MessageCommandCancel", id := 80, defPkg := "common", chain := ["pythonarraytest", "common"] },
  { goName := "MessageManualSetpoint", id := 81, defPkg := "common", chain := ["pythonarraytest", "common"] }] ++
[
  { goName := "MessageSetAttitudeTarget", id := 82, defPkg := "common", chain := ["pythonarraytest", "common"] },
  { goName := "MessageAttitudeTarget", id := 83, defPkg := "common", chain := ["pythonarraytest", "common"] },
  { goName := "MessageSetPositionTargetLocalNed", id := 84, defPkg := "common", chain := ["pythonarraytest", "common"] },
  { goName := "MessagePositionTargetLocalNed", id := 85, defPkg := "common", chain := ["pythonarraytest", "common"] },
  { goName := "MessageSetPositionTargetGlobalInt", id := 86, defPkg := "common", chain := ["pythonarraytest", "common"] },
  { goName := "MessagePositionTargetGlobalInt", id := 87, defPkg := "common", chain := ["pythonarraytest", "common"] },
  { goName := "MessageLocalPositionNedSystemGlobalOffset", id := 89, defPkg := "common", chain := ["pythonarraytest", "common"] },
  { goName := "MessageHilState", id := 90, defPkg := "common", chain := ["pythonarraytest", "common"] },
  { goName := "MessageHilControls", id := 91, defPkg := "common", chain := ["pythonarraytest", "common"] },
  { goName := "MessageHilRcInputsRaw", id := 92, defPkg := "common", chain := ["pythonarraytest", "common"] },
  { goName := "MessageHilActuatorControls", id := 93, defPkg := "common", chain := ["pythonarraytest", "common"] },
  { goName := "MessageOpticalFlow", id := 100, defPkg := "common", chain := ["pythonarraytest", "common"] },
  { goName := "MessageGlobalVisionPositionEstimate", id := 101, defPkg := "common", chain := ["pythonarraytest", "common"] },
  { goName := "MessageVisionPositionEstimate", id := 102, defPkg := "common", chain := ["pythonarraytest", "common"] },
  { goName := "MessageVisionSpeedEstimate", id := 103, defPkg := "common", chain := ["pythonarraytest", "common"] },
  { goName := "MessageViconPositionEstimate", id := 104, defPkg := "common", chain := ["pythonarraytest", "common"] },
  { goName := "MessageHighresImu", id := 105, defPkg := "common", chain := ["pythonarraytest", "common"] },
  { goName := "MessageOpticalFlowRad", id := 106, defPkg := "common", chain := ["pythonarraytest", "common"] },
  { goName := "MessageHilSensor", id := 107, defPkg := "common", chain := ["pythonarraytest", "common"] },
  { goName := "MessageSimState", id := 108, defPkg := "common", chain := ["pythonarraytest", "common"] },
  { goName := "MessageRadioStatus", id := 109, defPkg := "common", chain := ["pythonarraytest", "common"] },
  { goName := "MessageFileTransferProtocol", id := 110, defPkg := "common", chain := ["pythonarraytest", "common"] },
  { goName := "MessageTimesync", id := 111, defPkg := "common", chain := ["pythonarraytest", "common"] },
  { goName := "MessageCameraTrigger", id := 112, defPkg := "common", chain := ["pythonarraytest", "common"] },
  { goName := "MessageHilGps", id := 113, defPkg := "common", chain := ["pythonarraytest", "common"] },
  { goName := "MessageHilOpticalFlow", id := 114, defPkg := "common", chain := ["pythonarraytest", "common"] },
  { goName := "MessageHilStateQuaternion", id := 115, defPkg := "common", chain := ["pythonarraytest", "common"] },
  { goName := "MessageScaledImu2", id := 116, defPkg := "common", chain := ["pythonarraytest", "common"] },
  { goName := "MessageLogRequestList", id := 117, defPkg := "common", chain := ["pythonarraytest", "common"] },
  { goName := "MessageLogEntry", id := 118, defPkg := "common", chain := ["pythonarraytest", "common"] }] ++
[
  { goName := "MessageLogRequestData", id := 119, defPkg := "common", chain := ["pythonarraytest", "common"] },
  { goName := "MessageLogData", id := 120, defPkg := "common", chain := ["pythonarraytest", "common"] },
  { goName := "MessageLogErase", id := 121, defPkg := "common", chain := ["pythonarraytest", "common"] },
  { goName := "MessageLogRequestEnd", id := 122, defPkg := "common", chain := ["pythonarraytest", "common"] },
  { goName := "MessageGpsInjectData", id := 123, defPkg := "common", chain := ["pythonarraytest", "common"] },
  { goName := "MessageGps2Raw", id := 124, defPkg := "common", chain := ["pythonarraytest", "common"] },
  { goName := "MessagePowerStatus", id := 125, defPkg := "common", chain := ["pythonarraytest", "common"] },
  { goName := "MessageSerialControl", id := 126, defPkg := "common", chain := ["pythonarraytest", "common"] },
  { goName := "MessageGpsRtk", id := 127, defPkg := "common", chain := ["pythonarraytest", "common"] },
  { goName := "MessageGps2Rtk", id := 128, defPkg := "common", chain := ["pythonarraytest", "common"] },
  { goName := "MessageScaledImu3", id := 129, defPkg := "common", chain := ["pythonarraytest", "common"] },
  { goName := "MessageDataTransmissionHandshake", id := 130, defPkg := "common", chain := ["pythonarraytest", "common"] },
  { goName := "MessageEncapsulatedData", id := 131, defPkg := "common", chain := ["pythonarraytest", "common"] },
  { goName := "MessageDistanceSensor", id := 132, defPkg := "common", chain := ["pythonarraytest", "common"] },
  { goName := "MessageTerrainRequest", id := 133, defPkg := "common", chain := ["pythonarraytest", "common"] },
  { goName := "MessageTerrainData", id := 134, defPkg := "common", chain := ["pythonarraytest", "common"] },
  { goName := "MessageTerrainCheck", id := 135, defPkg := "common", chain := ["pythonarraytest", "common"] },
  { goName := "MessageTerrainReport", id := 136, defPkg := "common", chain := ["pythonarraytest", "common"] },
  { goName := "MessageScaledPressure2", id := 137, defPkg := "common", chain := ["pythonarraytest", "common"] },
  { goName := "MessageAttPosMocap", id := 138, defPkg := "common", chain := ["pythonarraytest", "common"] },
  { goName := "MessageSetActuatorControlTarget", id := 139, defPkg := "common", chain := ["pythonarraytest", "common"] },
  { goName := "MessageActuatorControlTarget", id := 140, defPkg := "common", chain := ["pythonarraytest", "common"] },
  { goName := "MessageAltitude", id := 141, defPkg := "common", chain := ["pythonarraytest", "common"] },
  { goName := "MessageResourceRequest", id := 142, defPkg := "common", chain := ["pythonarraytest", "common"] },
  { goName := "MessageScaledPressure3", id := 143, defPkg := "common", chain := ["pythonarraytest", "common"] },
  { goName := "MessageFollowTarget", id := 144, defPkg := "common", chain := ["pythonarraytest", "common"] },
  { goName := "MessageControlSystemState", id := 146, defPkg := "common", chain := ["pythonarraytest", "common"] },
  { goName := "MessageBatteryStatus", id := 147, defPkg := "common", chain := ["pythonarraytest", "common"] },
  { goName := "MessageAutopilotVersion", id := 148, defPkg := "common", chain := ["pythonarraytest", "common"] },
  { goName := "MessageLandingTarget", id := 149, defPkg := "common", chain := ["pythonarraytest", "common"] }] ++
[
  { goName := "MessageFenceStatus", id := 162, defPkg := "common", chain := ["pythonarraytest", "common"] },
  { goName := "MessageMagCalReport", id := 192, defPkg := "common", chain := ["pythonarraytest", "common"] },
  { goName := "MessageEfiStatus", id := 225, defPkg := "common", chain := ["pythonarraytest", "common"] },
  { goName := "MessageEstimatorStatus", id := 230, defPkg := "common", chain := ["pythonarraytest", "common"] },
  { goName := "MessageWindCov", id := 231, defPkg := "common", chain := ["pythonarraytest", "common"] },
  { goName := "MessageGpsInput", id := 232, defPkg := "common", chain := ["pythonarraytest", "common"] },
  { goName := "MessageGpsRtcmData", id := 233, defPkg := "common", chain := ["pythonarraytest", "common"] },
  { goName := "MessageHighLatency", id := 234, defPkg := "common", chain := ["pythonarraytest", "common"] },
  { goName := "MessageHighLatency2", id := 235, defPkg := "common", chain := ["pythonarraytest", "common"] },
  { goName := "MessageVibration", id := 241, defPkg := "common", chain := ["pythonarraytest", "common"] },
  { goName := "MessageHomePosition", id := 242, defPkg := "common", chain := ["pythonarraytest", "common"] },
  { goName := "MessageSetHomePosition", id := 243, defPkg := "common", chain := ["pythonarraytest", "common"] },
  { goName := "MessageMessageInterval", id := 244, defPkg := "common", chain := ["pythonarraytest", "common"] },
  { goName := "MessageExtendedSysState", id := 245, defPkg := "common", chain := ["pythonarraytest", "common"] },
  { goName := "MessageAdsbVehicle", id := 246, defPkg := "common", chain := ["pythonarraytest", "common"] },
  { goName := "MessageCollision", id := 247, defPkg := "common", chain := ["pythonarraytest", "common"] },
  { goName := "MessageV2Extension", id := 248, defPkg := "common", chain := ["pythonarraytest", "common"] },
  { goName := "MessageMemoryVect", id := 249, defPkg := "common", chain := ["pythonarraytest", "common"] },
  { goName := "MessageDebugVect", id := 250, defPkg := "common", chain := ["pythonarraytest", "common"] },
  { goName := "MessageNamedValueFloat", id := 251, defPkg := "common", chain := ["pythonarraytest", "common"] },
  { goName := "MessageNamedValueInt", id := 252, defPkg := "common", chain := ["pythonarraytest", "common"] },
  { goName := "MessageStatustext", id := 253, defPkg := "common", chain := ["pythonarraytest", "common"] },
  { goName := "MessageDebug", id := 254, defPkg := "common", chain := ["pythonarraytest", "common"] },
  { goName := "MessageSetupSigning", id := 256, defPkg := "common", chain := ["pythonarraytest", "common"] },
  { goName := "MessageButtonChange", id := 257, defPkg := "common", chain := ["pythonarraytest", "common"] },
  { goName := "MessagePlayTune", id := 258, defPkg := "common", chain := ["pythonarraytest", "common"] },
  { goName := "MessageCameraInformation", id := 259, defPkg := "common", chain := ["pythonarraytest", "common"] },
  { goName := "MessageCameraSettings", id := 260, defPkg := "common", chain := ["pythonarraytest", "common"] },
  { goName := "MessageStorageInformation", id := 261, defPkg := "common", chain := ["pythonarraytest", "common"] },
  { goName := "MessageCameraCaptureStatus", id := 262, defPkg := "common", chain := ["pythonarraytest", "common"] }] ++
[
  { goName := "MessageCameraImageCaptured", id := 263, defPkg := "common", chain := ["pythonarraytest", "common"] },
  { goName := "MessageFlightInformation", id := 264, defPkg := "common", chain := ["pythonarraytest", "common"] },
  { goName := "MessageMountOrientation", id := 265, defPkg := "common", chain := ["pythonarraytest", "common"] },
  { goName := "MessageLoggingData", id := 266, defPkg := "common", chain := ["pythonarraytest", "common"] },
  { goName := "MessageLoggingDataAcked", id := 267, defPkg := "common", chain := ["pythonarraytest", "common"] },
  { goName := "MessageLoggingAck", id := 268, defPkg := "common", chain := ["pythonarraytest", "common"] },
  { goName := "MessageVideoStreamInformation", id := 269, defPkg := "common", chain := ["pythonarraytest", "common"] },
  { goName := "MessageVideoStreamStatus", id := 270, defPkg := "common", chain := ["pythonarraytest", "common"] },
  { goName := "MessageCameraFovStatus", id := 271, defPkg := "common", chain := ["pythonarraytest", "common"] },
  { goName := "MessageCameraTrackingImageStatus", id := 275, defPkg := "common", chain := ["pythonarraytest", "common"] },
  { goName := "MessageCameraTrackingGeoStatus", id := 276, defPkg := "common", chain := ["pythonarraytest", "common"] },
  { goName := "MessageCameraThermalRange", id := 277, defPkg := "common", chain := ["pythonarraytest", "common"] },
  { goName := "MessageGimbalManagerInformation", id := 280, defPkg := "common", chain := ["pythonarraytest", "common"] },
  { goName := "MessageGimbalManagerStatus", id := 281, defPkg := "common", chain := ["pythonarraytest", "common"] },
  { goName := "MessageGimbalManagerSetAttitude", id := 282, defPkg := "common", chain := ["pythonarraytest", "common"] },
  { goName := "MessageGimbalDeviceInformation", id := 283, defPkg := "common", chain := ["pythonarraytest", "common"] },
  { goName := "MessageGimbalDeviceSetAttitude", id := 284, defPkg := "common", chain := ["pythonarraytest", "common"] },
  { goName := "MessageGimbalDeviceAttitudeStatus", id := 285, defPkg := "common", chain := ["pythonarraytest", "common"] },
  { goName := "MessageAutopilotStateForGimbalDevice", id := 286, defPkg := "common", chain := ["pythonarraytest", "common"] },
  { goName := "MessageGimbalManagerSetPitchyaw", id := 287, defPkg := "common", chain := ["pythonarraytest", "common"] },
  { goName := "MessageGimbalManagerSetManualControl", id := 288, defPkg := "common", chain := ["pythonarraytest", "common"] },
  { goName := "MessageEscInfo", id := 290, defPkg := "common", chain := ["pythonarraytest", "common"] },
  { goName := "MessageEscStatus", id := 291, defPkg := "common", chain := ["pythonarraytest", "common"] },
  { goName := "MessageWifiConfigAp", id := 299, defPkg := "common", chain := ["pythonarraytest", "common"] },
  { goName := "MessageAisVessel", id := 301, defPkg := "common", chain := ["pythonarraytest", "common"] },
  { goName := "MessageUavcanNodeStatus", id := 310, defPkg := "common", chain := ["pythonarraytest", "common"] },
  { goName := "MessageUavcanNodeInfo", id := 311, defPkg := "common", chain := ["pythonarraytest", "common"] },
  { goName := "MessageParamExtRequestRead", id := 320, defPkg := "common", chain := ["pythonarraytest", "common"] },
  { goName := "MessageParamExtRequestList", id := 321, defPkg := "common", chain := ["pythonarraytest", "common"] },
  { goName := "MessageParamExtValue", id := 322, defPkg := "common", chain := ["pythonarraytest", "common"] }] ++
[
  { goName := "MessageParamExtSet", id := 323, defPkg := "common", chain := ["pythonarraytest", "common"] },
  { goName := "MessageParamExtAck", id := 324, defPkg := "common", chain := ["pythonarraytest", "common"] },
  { goName := "MessageObstacleDistance", id := 330, defPkg := "common", chain := ["pythonarraytest", "common"] },
  { goName := "MessageOdometry", id := 331, defPkg := "common", chain := ["pythonarraytest", "common"] },
  { goName := "MessageTrajectoryRepresentationWaypoints", id := 332, defPkg := "common", chain := ["pythonarraytest", "common"] },
  { goName := "MessageTrajectoryRepresentationBezier", id := 333, defPkg := "common", chain := ["pythonarraytest", "common"] },
  { goName := "MessageCellularStatus", id := 334, defPkg := "common", chain := ["pythonarraytest", "common"] },
  { goName := "MessageIsbdLinkStatus", id := 335, defPkg := "common", chain := ["pythonarraytest", "common"] },
  { goName := "MessageCellularConfig", id := 336, defPkg := "common", chain := ["pythonarraytest", "common"] },
  { goName := "MessageRawRpm", id := 339, defPkg := "common", chain := ["pythonarraytest", "common"] },
  { goName := "MessageUtmGlobalPosition", id := 340, defPkg := "common", chain := ["pythonarraytest", "common"] },
  { goName := "MessageDebugFloatArray", id := 350, defPkg := "common", chain := ["pythonarraytest", "common"] },
  { goName := "MessageOrbitExecutionStatus", id := 360, defPkg := "common", chain := ["pythonarraytest", "common"] },
  { goName := "MessageSmartBatteryInfo", id := 370, defPkg := "common", chain := ["pythonarraytest", "common"] },
  { goName := "MessageFuelStatus", id := 371, defPkg := "common", chain := ["pythonarraytest", "common"] },
  { goName := "MessageBatteryInfo", id := 372, defPkg := "common", chain := ["pythonarraytest", "common"] },
  { goName := "MessageGeneratorStatus", id := 373, defPkg := "common", chain := ["pythonarraytest", "common"] },
  { goName := "MessageActuatorOutputStatus", id := 375, defPkg := "common", chain := ["pythonarraytest", "common"] },
  { goName := "MessageTimeEstimateToTarget", id := 380, defPkg := "common", chain := ["pythonarraytest", "common"] },
  { goName := "MessageTunnel", id := 385, defPkg := "common", chain := ["pythonarraytest", "common"] },
  { goName := "MessageCanFrame", id := 386, defPkg := "common", chain := ["pythonarraytest", "common"] },
  { goName := "MessageOnboardComputerStatus", id := 390, defPkg := "common", chain := ["pythonarraytest", "common"] },
  { goName := "MessageComponentInformation", id := 395, defPkg := "common", chain := ["pythonarraytest", "common"] },
  { goName := "MessageComponentInformationBasic", id := 396, defPkg := "common", chain := ["pythonarraytest", "common"] },
  { goName := "MessageComponentMetadata", id := 397, defPkg := "common", chain := ["pythonarraytest", "common"] },
  { goName := "MessagePlayTuneV2", id := 400, defPkg := "common", chain := ["pythonarraytest", "common"] },
  { goName := "MessageSupportedTunes", id := 401, defPkg := "common", chain := ["pythonarraytest", "common"] },
  { goName := "MessageEvent", id := 410, defPkg := "common", chain := ["pythonarraytest", "common"] },
  { goName := "MessageCurrentEventSequence", id := 411, defPkg := "common", chain := ["pythonarraytest", "common"] },
  { goName := "MessageRequestEvent", id := 412, defPkg := "common", chain := ["pythonarraytest", "common"] }] ++
[
  { goName := "MessageResponseEventError", id := 413, defPkg := "common", chain := ["pythonarraytest", "common"] },
  { goName := "MessageAvailableModes", id := 435, defPkg := "common", chain := ["pythonarraytest", "common"] },
  { goName := "MessageCurrentMode", id := 436, defPkg := "common", chain := ["pythonarraytest", "common"] },
  { goName := "MessageAvailableModesMonitor", id := 437, defPkg := "common", chain := ["pythonarraytest", "common"] },
  { goName := "MessageIlluminatorStatus", id := 440, defPkg := "common", chain := ["pythonarraytest", "common"] },
  { goName := "MessageCanfdFrame", id := 387, defPkg := "common", chain := ["pythonarraytest", "common"] },
  { goName := "MessageCanFilterModify", id := 388, defPkg := "common", chain := ["pythonarraytest", "common"] },
  { goName := "MessageWheelDistance", id := 9000, defPkg := "common", chain := ["pythonarraytest", "common"] },
  { goName := "MessageWinchStatus", id := 9005, defPkg := "common", chain := ["pythonarraytest", "common"] },
  { goName := "MessageOpenDroneIdBasicId", id := 12900, defPkg := "common", chain := ["pythonarraytest", "common"] },
  { goName := "MessageOpenDroneIdLocation", id := 12901, defPkg := "common", chain := ["pythonarraytest", "common"] },
  { goName := "MessageOpenDroneIdAuthentication", id := 12902, defPkg := "common", chain := ["pythonarraytest", "common"] },
  { goName := "MessageOpenDroneIdSelfId", id := 12903, defPkg := "common", chain := ["pythonarraytest", "common"] },
  { goName := "MessageOpenDroneIdSystem", id := 12904, defPkg := "common", chain := ["pythonarraytest", "common"] },
  { goName := "MessageOpenDroneIdOperatorId", id := 12905, defPkg := "common", chain := ["pythonarraytest", "common"] },
  { goName := "MessageOpenDroneIdMessagePack", id := 12915, defPkg := "common", chain := ["pythonarraytest", "common"] },
  { goName := "MessageOpenDroneIdArmStatus", id := 12918, defPkg := "common", chain := ["pythonarraytest", "common"] },
  { goName := "MessageOpenDroneIdSystemUpdate", id := 12919, defPkg := "common", chain := ["pythonarraytest", "common"] },
  { goName := "MessageHygrometerSensor", id := 12920, defPkg := "common", chain := ["pythonarraytest", "common"] },
  { goName := "MessageArrayTest_0", id := 17150, defPkg := "pythonarraytest", chain := ["pythonarraytest"] },
  { goName := "MessageArrayTest_1", id := 17151, defPkg := "pythonarraytest", chain := ["pythonarraytest"] },
  { goName := "MessageArrayTest_3", id := 17153, defPkg := "pythonarraytest", chain := ["pythonarraytest"] },
  { goName := "MessageArrayTest_4", id := 17154, defPkg := "pythonarraytest", chain := ["pythonarraytest"] },
  { goName := "MessageArrayTest_5", id := 17155, defPkg := "pythonarraytest", chain := ["pythonarraytest"] },
  { goName := "MessageArrayTest_6", id := 17156, defPkg := "pythonarraytest", chain := ["pythonarraytest"] },
  { goName := "MessageArrayTest_7", id := 17157, defPkg := "pythonarraytest", chain := ["pythonarraytest"] },
  { goName := "MessageArrayTest_8", id := 17158, defPkg := "pythonarraytest", chain := ["pythonarraytest"] }] }

/-- the message ids of dialect pythonarraytest, in the order of its message list -/
def ids_pythonarraytest : List Nat := [0, 300, 1, 2, 4, 5, 6, 7, 8, 11, 20, 21, 22, 23, 24, 25, 26, 27, 28, 29, 30, 31, 32, 33, 34, 35, 36, 37, 38, 39, 40, 41, 42, 43, 44, 45, 46, 47, 48, 49] ++ [50, 51, 54, 55, 61, 62, 63, 64, 65, 66, 67, 69, 70, 73, 74, 75, 76, 77, 80, 81, 82, 83, 84, 85, 86, 87, 89, 90, 91, 92, 93, 100, 101, 102, 103, 104, 105, 106, 107, 108] ++ [109, 110, 111, 112, 113, 114, 115, 116, 117, 118, 119, 120, 121, 122, 123, 124, 125, 126, 127, 128, 129, 130, 131, 132, 133, 134, 135, 136, 137, 138, 139, 140, 141, 142, 143, 144, 146, 147, 148, 149] ++ [162, 192, 225, 230, 231, 232, 233, 234, 235, 241, 242, 243, 244, 245, 246, 247, 248, 249, 250, 251, 252, 253, 254, 256, 257, 258, 259, 260, 261, 262, 263, 264, 265, 266, 267, 268, 269, 270, 271, 275] ++ [276, 277, 280, 281, 282, 283, 284, 285, 286, 287, 288, 290, 291, 299, 301, 310, 311, 320, 321, 322, 323, 324, 330, 331, 332, 333, 334, 335, 336, 339, 340, 350, 360, 370, 371, 372, 373, 375, 380, 385] ++ [386, 390, 395, 396, 397, 400, 401, 410, 411, 412, 413, 435, 436, 437, 440, 387, 388, 9000, 9005, 12900, 12901, 12902, 12903, 12904, 12905, 12915, 12918, 12919, 12920, 17150, 17151, 17153, 17154, 17155, 17156, 17157, 17158]

def dialect_standard : Dialect := { name := "standard", version := 3, msgs :=
[
  { goName := "MessageHeartbeat", id := 0, defPkg := "minimal", chain := ["standard", "minimal"] },
  { goName := "MessageProtocolVersion", id := 300, defPkg := "minimal", chain := ["standard", "minimal"] }] }

/-- the message ids of dialect standard, in the order of its message list -/
def ids_standard : List Nat := [0, 300]

def dialect_storm32 : Dialect := { name := "storm32", version := 1, msgs :=
[
  { goName := "MessageHeartbeat", id := 0, defPkg := "minimal", chain := ["storm32", "minimal"] },
  { goName := "MessageProtocolVersion", id := 300, defPkg := "minimal", chain := ["storm32", "minimal"] },
  { goName := "MessageSysStatus", id := 1, defPkg := "common", chain := ["storm32", "common"] },
  { goName := "MessageSystemTime", id := 2, defPkg := "common", chain := ["storm32", "common"] },
  { goName := "MessagePing", id := 4, defPkg := "common", chain := ["storm32", "common"] },
  { goName := "MessageChangeOperatorControl", id := 5, defPkg := "common", chain := ["storm32", "common"] },
  { goName := "MessageChangeOperatorControlAck", id := 6, defPkg := "common", chain := ["storm32", "common"] },
  { goName := "MessageAuthKey", id := 7, defPkg := "common", chain := ["storm32", "common"] },
  { goName := "MessageLinkNodeStatus", id := 8, defPkg := "common", chain := ["storm32", "common"] },
  { goName := "MessageSetMode", id := 11, defPkg := "common", chain := ["storm32", "common"] },
  { goName := "MessageParamRequestRead", id := 20, defPkg := "common", chain := ["storm32", "common"] },
  { goName := "MessageParamRequestList", id := 21, defPkg := "common", chain := ["storm32", "common"] },
  { goName := "MessageParamValue", id := 22, defPkg := "common", chain := ["storm32", "common"] },
  { goName := "MessageParamSet", id := 23, defPkg := "common", chain := ["storm32", "common"] },
  { goName := "MessageGpsRawInt", id := 24, defPkg := "common", chain := ["storm32", "common"] },
  { goName := "MessageGpsStatus", id := 25, defPkg := "common", chain := ["storm32", "common"] },
  { goName := "MessageScaledImu", id := 26, defPkg := "common", chain := ["storm32", "common"] },
  { goName := "MessageRawImu", id := 27, defPkg := "common", chain := ["storm32", "common"] },
  { goName := "MessageRawPressure", id := 28, defPkg := "common", chain := ["storm32", "common"] },
  { goName := "MessageScaledPressure", id := 29, defPkg := "common", chain := ["storm32", "common"] },
  { goName := "MessageAttitude", id := 30, defPkg := "common", chain := ["storm32", "common"] },
  { goName := "MessageAttitudeQuaternion", id := 31, defPkg := "common", chain := ["storm32", "common"] },
  { goName := "MessageLocalPositionNed", id := 32, defPkg := "common", chain := ["storm32", "common"] },
  { goName := "MessageGlobalPositionInt", id := 33, defPkg := "common", chain := ["storm32", "common"] },
  { goName := "MessageRcChannelsScaled", id := 34, defPkg := "common", chain := ["storm32", "common"] },
  { goName := "MessageRcChannelsRaw", id := 35, defPkg := "common", chain := ["storm32", "common"] },
  { goName := "MessageServoOutputRaw", id := 36, defPkg := "common", chain := ["storm32", "common"] },
  { goName := "MessageMissionRequestPartialList", id := 37, defPkg := "common", chain := ["storm32", "common"] },
  { goName := "MessageMissionWritePartialList", id := 38, defPkg := "common", chain := ["storm32", "common"] },
  { goName := "MessageMissionItem", id := 39, defPkg := "common", chain := ["storm32", "common"] }] ++
[
  { goName := "MessageMissionRequest", id := 40, defPkg := "common", chain := ["storm32", "common"] },
  { goName := "MessageMissionSetCurrent", id := 41, defPkg := "common", chain := ["storm32", "common"] },
  { goName := "MessageMissionCurrent", id := 42, defPkg := "common", chain := ["storm32", "common"] },
  { goName := "MessageMissionRequestList", id := 43, defPkg := "common", chain := ["storm32", "common"] },
  { goName := "MessageMissionCount", id := 44, defPkg := "common", chain := ["storm32", "common"] },
  { goName := "MessageMissionClearAll", id := 45, defPkg := "common", chain := ["storm32", "common"] },
  { goName := "MessageMissionItemReached", id := 46, defPkg := "common", chain := ["storm32", "common"] },
  { goName := "MessageMissionAck", id := 47, defPkg := "common", chain := ["storm32", "common"] },
  { goName := "MessageSetGpsGlobalOrigin", id := 48, defPkg := "common", chain := ["storm32", "common"] },
  { goName := "MessageGpsGlobalOrigin", id := 49, defPkg := "common", chain := ["storm32", "common"] },
  { goName := "MessageParamMapRc", id := 50, defPkg := "common", chain := ["storm32", "common"] },
  { goName := "MessageMissionRequestInt", id := 51, defPkg := "common", chain := ["storm32", "common"] },
  { goName := "MessageSafetySetAllowedArea", id := 54, defPkg := "common", chain := ["storm32", "common"] },
  { goName := "MessageSafetyAllowedArea", id := 55, defPkg := "common", chain := ["storm32", "common"] },
  { goName := "MessageAttitudeQuaternionCov", id := 61, defPkg := "common", chain := ["storm32", "common"] },
  { goName := "MessageNavControllerOutput", id := 62, defPkg := "common", chain := ["storm32", "common"] },
  { goName := "MessageGlobalPositionIntCov", id := 63, defPkg := "common", chain := ["storm32", "common"] },
  { goName := "MessageLocalPositionNedCov", id := 64, defPkg := "common", chain := ["storm32", "common"] },
  { goName := "MessageRcChannels", id := 65, defPkg := "common", chain := ["storm32", "common"] },
  { goName := "MessageRequestDataStream", id := 66, defPkg := "common", chain := ["storm32", "common"] },
  { goName := "MessageDataStream", id := 67, defPkg := "common", chain := ["storm32", "common"] },
  { goName := "MessageManualControl", id := 69, defPkg := "common", chain := ["storm32", "common"] },
  { goName := "MessageRcChannelsOverride", id := 70, defPkg := "common", chain := ["storm32", "common"] },
  { goName := "MessageMissionItemInt", id := 73, defPkg := "common", chain := ["storm32", "common"] },
  { goName := "MessageVfrHud", id := 74, defPkg := "common", chain := ["storm32", "common"] },
  { goName := "MessageCommandInt", id := 75, defPkg := "common", chain := ["storm32", "common"] },
  { goName := "MessageCommandLong", id := 76, defPkg := "common", chain := ["storm32", "common"] },
  { goName := "MessageCommandAck", id := 77, defPkg := "common", chain := ["storm32", "common"] },
  { goName := "MessageCommandCancel", id := 80, defPkg := "common", chain := ["storm32", "common"] },
  { goName := "MessageManualSetpoint", id := 81, defPkg := "common", chain := ["storm32", "common"] }] ++
[
  { goName := "MessageSetAttitudeTarget", id := 82, defPkg := "common", chain := ["storm32", "common"] },
  { goName := "MessageAttitudeTarget", id := 83, defPkg := "common", chain := ["storm32", "common"] },
  { goName := "MessageSetPositionTargetLocalNed", id := 84, defPkg := "common", chain := ["storm32", "common"] },
  { goName := "MessagePositionTargetLocalNed", id := 85, defPkg := "common", chain := ["storm32", "common"] },
  { goName := "MessageSetPositionTargetGlobalInt", id := 86, defPkg := "common", chain := ["storm32", "common"] },
  { goName := "MessagePositionTargetGlobalInt", id := 87, defPkg := "common", chain := ["storm32", "common"] },
  { goName := "MessageLocalPositionNedSystemGlobalOffset", id := 89, defPkg := "common", chain := ["storm32", "common"] },
  { goName := "MessageHilState", id := 90, defPkg := "common", chain := ["storm32", "common"] },
  { goName := "MessageHilControls", id := 91, defPkg := "common", chain := ["storm32", "common"] },
  { goName := "MessageHilRcInputsRaw", id := 92, defPkg := "common", chain := ["storm32", "common"] },
  { goName := "MessageHilActuatorControls", id := 93, defPkg := "common", chain := ["storm32", "common"] },
  { goName := "MessageOpticalFlow", id := 100, defPkg := "common", chain := ["storm32", "common"] },
  { goName := "MessageGlobalVisionPositionEstimate", id := 101, defPkg := "common", chain := ["storm32", "common"] },
  { goName := "MessageVisionPositionEstimate", id := 102, defPkg := "common", chain := ["storm32", "common"] },
  { goName := "MessageVisionSpeedEstimate", id := 103, defPkg := "common", chain := ["storm32", "common"] },
  { goName := "MessageViconPositionEstimate", id := 104, defPkg := "common", chain := ["storm32", "common"] },
  { goName := "MessageHighresImu", id := 105, defPkg := "common", chain := ["storm32", "common"] },
  { goName := "MessageOpticalFlowRad", id := 106, defPkg := "common", chain := ["storm32", "common"] },
  { goName := "MessageHilSensor", id := 107, defPkg := "common", chain := ["storm32", "common"] },
  { goName := "MessageSimState", id := 108, defPkg := "common", chain := ["storm32", "common"] },
  { goName := "MessageRadioStatus", id := 109, defPkg := "common", chain := ["storm32", "common"] },
  { goName := "MessageFileTransferProtocol", id := 110, defPkg := "common", chain := ["storm32", "common"] },
  { goName := "MessageTimesync", id := 111, defPkg := "common", chain := ["storm32", "common"] },
  { goName := "MessageCameraTrigger", id := 112, defPkg := "common", chain := ["storm32", "common"] },
  { goName := "MessageHilGps", id := 113, defPkg := "common", chain := ["storm32", "common"] },
  { goName := "MessageHilOpticalFlow", id := 114, defPkg := "common", chain := ["storm32", "common"] },
  { goName := "MessageHilStateQuaternion", id := 115, defPkg := "common", chain := ["storm32", "common"] },
  { goName := "MessageScaledImu2", id := 116, defPkg := "common", chain := ["storm32", "common"] },
  { goName := "MessageLogRequestList", id := 117, defPkg := "common", chain := ["storm32", "common"] },
  { goName := "MessageLogEntry", id := 118, defPkg := "common", chain := ["storm32", "common"] }] ++
[
  { goName := "MessageLogRequestData", id := 119, defPkg := "common", chain := ["storm32", "common"] },
  { goName := "MessageLogData", id := 120, defPkg := "common", chain := ["storm32", "common"] },
  { goName := "MessageLogErase", id := 121, defPkg := "common", chain := ["storm32", "common"] },
  { goName := "MessageLogRequestEnd", id := 122, defPkg := "common", chain := ["storm32", "common"] },
  { goName := "MessageGpsInjectData", id := 123, defPkg := "common", chain := ["storm32", "common"] },
  { goName := "MessageGps2Raw", id := 124, defPkg := "common", chain := ["storm32", "common"] },
  { goName := "MessagePowerStatus", id := 125, defPkg := "common", chain := ["storm32", "common"] },
  { goName := "MessageSerialControl", id := 126, defPkg := "common", chain := ["storm32", "common"] },
  { goName := "MessageGpsRtk", id := 127, defPkg := "common", chain := ["storm32", "common"] },
  { goName := "MessageGps2Rtk", id := 128, defPkg := "common", chain := ["storm32", "common"] },
  { goName := "MessageScaledImu3", id := 129, defPkg := "common", chain := ["storm32", "common"] },
  { goName := "MessageDataTransmissionHandshake", id := 130, defPkg := "common", chain := ["storm32", "common"] },
  { goName := "MessageEncapsulatedData", id := 131, defPkg := "common", chain := ["storm32", "common"] },
  { goName := "MessageDistanceSensor", id := 132, defPkg := "common", chain := ["storm32", "common"] },
  { goName := "MessageTerrainRequest", id := 133, defPkg := "common", chain := ["storm32", "common"] },
  { goName := "MessageTerrainData", id := 134, defPkg := "common", chain := ["storm32", "common"] },
  { goName := "MessageTerrainCheck", id := 135, defPkg := "common", chain := ["storm32", "common"] },
  { goName := "MessageTerrainReport", id := 136, defPkg := "common", chain := ["storm32", "common"] },
  { goName := "MessageScaledPressure2", id := 137, defPkg := "common", chain := ["storm32", "common"] },
  { goName := "MessageAttPosMocap", id := 138, defPkg := "common", chain := ["storm32", "common"] },
  { goName := "MessageSetActuatorControlTarget", id := 139, defPkg := "common", chain := ["storm32", "common"] },
  { goName := "MessageActuatorControlTarget", id := 140, defPkg := "common", chain := ["storm32", "common"] },
  { goName := "MessageAltitude", id := 141, defPkg := "common", chain := ["storm32", "common"] },
  { goName := "MessageResourceRequest", id := 142, defPkg := "common", chain := ["storm32", "common"] },
  { goName := "MessageScaledPressure3", id := 143, defPkg := "common", chain := ["storm32", "common"] },
  { goName := "MessageFollowTarget", id := 144, defPkg := "common", chain := ["storm32", "common"] },
  { goName := "MessageControlSystemState", id := 146, defPkg := "common", chain := ["storm32", "common"] },
  { goName := "MessageBatteryStatus", id := 147, defPkg := "common", chain := ["storm32", "common"] },
  { goName := "MessageAutopilotVersion", id := 148, defPkg := "common", chain := ["storm32", "common"] },
  { goName := "MessageLandingTarget", id := 149, defPkg := "common", chain := ["storm32", "common"] }] ++
[
  { goName := "MessageFenceStatus", id := 162, defPkg := "common", chain := ["storm32", "common"] },
  { goName := "MessageMagCalReport", id := 192, defPkg := "common", chain := ["storm32", "common"] },
  { goName := "MessageEfiStatus", id := 225, defPkg := "common", chain := ["storm32", "common"] },
  { goName := "MessageEstimatorStatus", id := 230, defPkg := "common", chain := ["storm32", "common"] },
  { goName := "MessageWindCov", id := 231, defPkg := "common", chain := ["storm32", "common"] },
  { goName := "MessageGpsInput", id := 232, defPkg := "common", chain := ["storm32", "common"] },
  { goName := "MessageGpsRtcmData", id := 233, defPkg := "common", chain := ["storm32", "common"] },
  { goName := "MessageHighLatency", id := 234, defPkg := "common", chain := ["storm32", "common"] },
  { goName := "MessageHighLatency2", id := 235, defPkg := "common", chain := ["storm32", "common"] },
  { goName := "MessageVibration", id := 241, defPkg := "common", chain := ["storm32", "common"] },
  { goName := "MessageHomePosition", id := 242, defPkg := "common", chain := ["storm32", "common"] },
  { goName := "MessageSetHomePosition", id := 243, defPkg := "common", chain := ["storm32", "common"] },
  { goName := "MessageMessageInterval", id := 244, defPkg := "common", chain := ["storm32", "common"] },
  { goName := "MessageExtendedSysState", id := 245, defPkg := "common", chain := ["storm32", "common"] },
  { goName := "MessageAdsbVehicle", id := 246, defPkg := "common", chain := ["storm32", "common"] },
  { goName := "MessageCollision", id := 247, defPkg := "common", chain := ["storm32", "common"] },
  { goName := "MessageV2Extension", id := 248, defPkg := "common", chain := ["storm32", "common"] },
  { goName := "MessageMemoryVect", id := 249, defPkg := "common", chain := ["storm32", "common"] },
  { goName := "MessageDebugVect", id := 250, defPkg := "common", chain := ["storm32", "common"] },
  { goName := "MessageNamedValueFloat", id := 251, defPkg := "common", chain := ["storm32", "common"] },
  { goName := "MessageNamedValueInt", id := 252, defPkg := "common", chain := ["storm32", "common"] },
  { goName := "MessageStatustext", id := 253, defPkg := "common", chain := ["storm32", "common"] },
  { goName := "MessageDebug", id := 254, defPkg := "common", chain := ["storm32", "common"] },
  { goName := "MessageSetupSigning", id := 256, defPkg := "common", chain := ["storm32", "common"] },
  { goName := "MessageButtonChange", id := 257, defPkg := "common", chain := ["storm32", "common"] },
  { goName := "MessagePlayTune", id := 258, defPkg := "common", chain := ["storm32", "common"] },
  { goName := "MessageCameraInformation", id := 259, defPkg := "common", chain := ["storm32", "common"] },
  { goName := "MessageCameraSettings", id := 260, defPkg := "common", chain := ["storm32", "common"] },
  { goName := "MessageStorageInformation", id := 261, defPkg := "common", chain := ["storm32", "common"] },
  { goName := "MessageCameraCaptureStatus", id := 262, defPkg := "common", chain := ["storm32", "common"] }] ++
[
  { goName := "MessageCameraImageCaptured", id := 263, defPkg := "common", chain := ["storm32", "common"] },
  { goName := "MessageFlightInformation", id := 264, defPkg := "common", chain := ["storm32", "common"] },
  { goName := "MessageMountOrientation", id := 265, defPkg := "common", chain := ["storm32", "common"] },
  { goName := "MessageLoggingData", id := 266, defPkg := "common", chain := ["storm32", "common"] },
  { goName := "MessageLoggingDataAcked", id := 267, defPkg := "common", chain := ["storm32", "common"] },
  { goName := "MessageLoggingAck", id := 268, defPkg := "common", chain := ["storm32", "common"] },
  { goName := "MessageVideoStreamInformation", id := 269, defPkg := "common", chain := ["storm32", "common"] },
  { goName := "MessageVideoStreamStatus", id := 270, defPkg := "common", chain := ["storm32", "common"] },
  { goName := "MessageCameraFovStatus", id := 271, defPkg := "common", chain := ["storm32", "common"] },
  { goName := "MessageCameraTrackingImageStatus", id := 275, defPkg := "common", chain := ["storm32", "common"] },
  { goName := "MessageCameraTrackingGeoStatus", id := 276, defPkg := "common", chain := ["storm32", "common"] },
  { goName := "MessageCameraThermalRange", id := 277, defPkg := "common", chain := ["storm32", "common"] },
  { goName := "MessageGimbalManagerInformation", id := 280, defPkg := "common", chain := ["storm32", "common"] },
  { goName := "MessageGimbalManagerStatus", id := 281, defPkg := "common", chain := ["storm32", "common"] },
  { goName := "MessageGimbalManagerSetAttitude", id := 282, defPkg := "common", chain := ["storm32", "common"] },
  { goName := "MessageGimbalDeviceInformation", id := 283, defPkg := "common", chain := ["storm32", "common"] },
  { goName := "MessageGimbalDeviceSetAttitude", id := 284, defPkg := "common", chain := ["storm32", "common"] },
  { goName := "MessageGimbalDeviceAttitudeStatus", id := 285, defPkg := "common", chain := ["storm32", "common"] },
  { goName := "MessageAutopilotStateForGimbalDevice", id := 286, defPkg := "common", chain := ["storm32", "common"] },
  { goName := "MessageGimbalManagerSetPitchyaw", id := 287, defPkg := "common", chain := ["storm32", "common"] },
  { goName := "MessageGimbalManagerSetManualControl", id := 288, defPkg := "common", chain := ["storm32", "common"] },
  { goName := "MessageEscInfo", id := 290, defPkg := "common", chain := ["storm32", "common"] },
  { goName := "MessageEscStatus", id := 291, defPkg := "common", chain := ["storm32", "common"] },
  { goName := "MessageWifiConfigAp", id := 299, defPkg := "common", chain := ["storm32", "common"] },
  { goName := "MessageAisVessel", id := 301, defPkg := "common", chain := ["storm32", "common"] },
  { goName := "MessageUavcanNodeStatus", id := 310, defPkg := "common", chain := ["storm32", "common"] },
  { goName := "MessageUavcanNodeInfo", id := 311, defPkg := "common", chain := ["storm32", "common"] },
  { goName := "MessageParamExtRequestRead", id := 320, defPkg := "common", chain := ["storm32", "common"] },
  { goName := "MessageParamExtRequestList", id := 321, defPkg := "common", chain := ["storm32", "common"] },
  { goName := "MessageParamExtValue", id := 322, defPkg := "common", chain := ["storm32", "common"] }] ++
[
  { goName := "MessageParamExtSet", id := 323, defPkg := "common", chain := ["storm32", "common"] },
  { goName := "MessageParamExtAck", id := 324, defPkg := "common", chain := ["storm32", "common"] },
  { goName := "MessageObstacleDistance", id := 330, defPkg := "common", chain := ["storm32", "common"] },
  { goName := "MessageOdometry", id := 331, defPkg := "common", chain := ["storm32", "common"] },
  { goName := "MessageTrajectoryRepresentationWaypoints", id := 332, defPkg := "common", chain := ["storm32", "common"] },
  { goName := "MessageTrajectoryRepresentationBezier", id := 333, defPkg := "common", chain := ["storm32", "common"] },
  { goName := "MessageCellularStatus", id := 334, defPkg := "common", chain := ["storm32", "common"] },
  { goName := "MessageIsbdLinkStatus", id := 335, defPkg := "common", chain := ["storm32", "common"] },
  { goName := "MessageCellularConfig", id := 336, defPkg := "common", chain := ["storm32", "common"] },
  { goName := "MessageRawRpm", id := 339, defPkg := "common", chain := ["storm32", "common"] },
  { goName := "MessageUtmGlobalPosition", id := 340, defPkg := "common", chain := ["storm32", "common"] },
  { goName := "MessageDebugFloatArray", id := 350, defPkg := "common", chain := ["storm32", "common"] },
  { goName := "MessageOrbitExecutionStatus", id := 360, defPkg := "common", chain := ["storm32", "common"] },
  { goName := "MessageSmartBatteryInfo", id := 370, defPkg := "common", chain := ["storm32", "common"] },
  { goName := "MessageFuelStatus", id := 371, defPkg := "common", chain := ["storm32", "common"] },
  { goName := "MessageBatteryInfo", id := 372, defPkg := "common", chain := ["storm32", "common"] },
  { goName := "MessageGeneratorStatus", id := 373, defPkg := "common", chain := ["storm32", "common"] },
  { goName := "MessageActuatorOutputStatus", id := 375, defPkg := "common", chain := ["storm32", "common"] },
  { goName := "MessageTimeEstimateToTarget", id := 380, defPkg := "common", chain := ["storm32", "common"] },
  { goName := "MessageTunnel", id := 385, defPkg := "common", chain := ["storm32", "common"] },
  { goName := "MessageCanFrame", id := 386, defPkg := "common", chain := ["storm32", "common"] },
  { goName := "MessageOnboardComputerStatus", id := 390, defPkg := "common", chain := ["storm32", "common"] },
  { goName := "MessageComponentInformation", id := 395, defPkg := "common", chain := ["storm32", "common"] },
  { goName := "MessageComponentInformationBasic", id := 396, defPkg := "common", chain := ["storm32", "common"] },
  { goName := "MessageComponentMetadata", id := 397, defPkg := "common", chain := ["storm32", "common"] },
  { goName := "MessagePlayTuneV2", id := 400, defPkg := "common", chain := ["storm32", "common"] },
  { goName := "MessageSupportedTunes", id := 401, defPkg := "common", chain := ["storm32", "common"] },
  { goName := "MessageEvent", id := 410, defPkg := "common", chain := ["storm32", "common"] },
  { goName := "MessageCurrentEventSequence", id := 411, defPkg := "common", chain := ["storm32", "common"] },
  { goName := "MessageRequestEvent", id := 412, defPkg := "common", chain := ["storm32", "common"] }] ++
[
  { goName := "MessageResponseEventError", id := 413, defPkg := "common", chain := ["storm32", "common"] },
  { goName := "MessageAvailableModes", id := 435, defPkg := "common", chain := ["storm32", "common"] },
  { goName := "MessageCurrentMode", id := 436, defPkg := "common", chain := ["storm32", "common"] },
  { goName := "MessageAvailableModesMonitor", id := 437, defPkg := "common", chain := ["storm32", "common"] },
  { goName := "MessageIlluminatorStatus", id := 440, defPkg := "common", chain := ["storm32", "common"] },
  { goName := "MessageCanfdFrame", id := 387, defPkg := "common", chain := ["storm32", "common"] },
  { goName := "MessageCanFilterModify", id := 388, defPkg := "common", chain := ["storm32", "common"] },
  { goName := "MessageWheelDistance", id := 9000, defPkg := "common", chain := ["storm32", "common"] },
  { goName := "MessageWinchStatus", id := 9005, defPkg := "common", chain := ["storm32", "common"] },
  { goName := "MessageOpenDroneIdBasicId", id := 12900, defPkg := "common", chain := ["storm32", "common"] },
  { goName := "MessageOpenDroneIdLocation", id := 12901, defPkg := "common", chain := ["storm32", "common"] },
  { goName := "MessageOpenDroneIdAuthentication", id := 12902, defPkg := "common", chain := ["storm32", "common"] },
  { goName := "MessageOpenDroneIdSelfId", id := 12903, defPkg := "common", chain := ["storm32", "common"] },
  { goName := "MessageOpenDroneIdSystem", id := 12904, defPkg := "common", chain := ["storm32", "common"] },
  { goName := "MessageOpenDroneIdOperatorId", id := 12905, defPkg := "common", chain := ["storm32", "common"] },
  { goName := "MessageOpenDroneIdMessagePack", id := 12915, defPkg := "common", chain := ["storm32", "common"] },
  { goName := "MessageOpenDroneIdArmStatus", id := 12918, defPkg := "common", chain := ["storm32", "common"] },
  { goName := "MessageOpenDroneIdSystemUpdate", id := 12919, defPkg := "common", chain := ["storm32", "common"] },
  { goName := "MessageHygrometerSensor", id := 12920, defPkg := "common", chain := ["storm32", "common"] },
  { goName := "MessageUavionixAdsbOutCfg", id := 10001, defPkg := "uavionix", chain := ["storm32", "uavionix"] },
  { goName := "MessageUavionixAdsbOutDynamic", id := 10002, defPkg := "uavionix", chain := ["storm32", "uavionix"] },
  { goName := "MessageUavionixAdsbTransceiverHealthReport", id := 10003, defPkg := "uavionix", chain := ["storm32", "uavionix"] },
  { goName := "MessageUavionixAdsbOutCfgRegistration", id := 10004, defPkg := "uavionix", chain := ["storm32", "uavionix"] },
  { goName := "MessageUavionixAdsbOutCfgFlightid", id := 10005, defPkg := "uavionix", chain := ["storm32", "uavionix"] },
  { goName := "MessageUavionixAdsbGet", id := 10006, defPkg := "uavionix", chain := ["storm32", "uavionix"] },
  { goName := "MessageUavionixAdsbOutControl", id := 10007, defPkg := "uavionix", chain := ["storm32", "uavionix"] },
  { goName := "MessageUavionixAdsbOutStatus", id := 10008, defPkg := "uavionix", chain := ["storm32", "uavionix"] },
  { goName := "MessageIcarousHeartbeat", id := 42000, defPkg := "icarous", chain := ["storm32", "icarous"] },
  { goName := "MessageIcarousKinematicBands", id := 42001, defPkg := "icarous", chain := ["storm32", "icarous"] },
  { goName := "MessageLoweheiserGovEfi", id := 10151, defPkg := "loweheiser", chain := ["storm32", "loweheiser"] }] ++
[
  { goName := "MessageCubepilotRawRc", id := 50001, defPkg := "cubepilot", chain := ["storm32", "cubepilot"] },
  { goName := "MessageHerelinkVideoStreamInformation", id := 50002, defPkg := "cubepilot", chain := ["storm32", "cubepilot"] },
  { goName := "MessageHerelinkTelem", id := 50003, defPkg := "cubepilot", chain := ["storm32", "cubepilot"] },
  { goName := "MessageCubepilotFirmwareUpdateStart", id := 50004, defPkg := "cubepilot", chain := ["storm32", "cubepilot"] },
  { goName := "MessageCubepilotFirmwareUpdateResp", id := 50005, defPkg := "cubepilot", chain := ["storm32", "cubepilot"] },
  { goName := "MessageAirlinkAuth", id := 52000, defPkg := "csairlink", chain := ["storm32", "csairlink"] },
  { goName := "MessageAirlinkAuthResponse", id := 52001, defPkg := "csairlink", chain := ["storm32", "csairlink"] },
  { goName := "MessageAirlinkEyeGsHolePushRequest", id := 52002, defPkg := "csairlink", chain := ["storm32", "csairlink"] },
  { goName := "MessageAirlinkEyeGsHolePushResponse", id := 52003, defPkg := "csairlink", chain := ["storm32", "csairlink"] },
  { goName := "MessageAirlinkEyeHp", id := 52004, defPkg := "csairlink", chain := ["storm32", "csairlink"] },
  { goName := "MessageAirlinkEyeTurnInit", id := 52005, defPkg := "csairlink", chain := ["storm32", "csairlink"] },
  { goName := "MessageSensorOffsets", id := 150, defPkg := "ardupilotmega", chain := ["storm32", "ardupilotmega"] },
  { goName := "MessageSetMagOffsets", id := 151, defPkg := "ardupilotmega", chain := ["storm32", "ardupilotmega"] },
  { goName := "MessageMeminfo", id := 152, defPkg := "ardupilotmega", chain := ["storm32", "ardupilotmega"] },
  { goName := "MessageApAdc", id := 153, defPkg := "ardupilotmega", chain := ["storm32", "ardupilotmega"] },
  { goName := "MessageDigicamConfigure", id := 154, defPkg := "ardupilotmega", chain := ["storm32", "ardupilotmega"] },
  { goName := "MessageDigicamControl", id := 155, defPkg := "ardupilotmega", chain := ["storm32", "ardupilotmega"] },
  { goName := "MessageMountConfigure", id := 156, defPkg := "ardupilotmega", chain := ["storm32", "ardupilotmega"] },
  { goName := "MessageMountControl", id := 157, defPkg := "ardupilotmega", chain := ["storm32", "ardupilotmega"] },
  { goName := "MessageMountStatus", id := 158, defPkg := "ardupilotmega", chain := ["storm32", "ardupilotmega"] },
  { goName := "MessageFencePoint", id := 160, defPkg := "ardupilotmega", chain := ["storm32", "ardupilotmega"] },
  { goName := "MessageFenceFetchPoint", id := 161, defPkg := "ardupilotmega", chain := ["storm32", "ardupilotmega"] },
  { goName := "MessageAhrs", id := 163, defPkg := "ardupilotmega", chain := ["storm32", "ardupilotmega"] },
  { goName := "MessageSimstate", id := 164, defPkg := "ardupilotmega", chain := ["storm32", "ardupilotmega"] },
  { goName := "MessageHwstatus", id := 165, defPkg := "ardupilotmega", chain := ["storm32", "ardupilotmega"] },
  { goName := "MessageRadio", id := 166, defPkg := "ardupilotmega", chain := ["storm32", "ardupilotmega"] },
  { goName := "MessageLimitsStatus", id := 167, defPkg := "ardupilotmega", chain := ["storm32", "ardupilotmega"] },
  { goName := "MessageWind", id := 168, defPkg := "ardupilotmega", chain := ["storm32", "ardupilotmega"] },
  { goName := "MessageData16", id := 169, defPkg := "ardupilotmega", chain := ["storm32", "ardupilotmega"] },
  { goName := "MessageData32", id := 170, defPkg := "ardupilotmega", chain := ["storm32", "ardupilotmega"] }] ++
[
  { goName := "MessageData64", id := 171, defPkg := "ardupilotmega", chain := ["storm32", "ardupilotmega"] },
  { goName := "MessageData96", id := 172, defPkg := "ardupilotmega", chain := ["storm32", "ardupilotmega"] },
  { goName := "MessageRangefinder", id := 173, defPkg := "ardupilotmega", chain := ["storm32", "ardupilotmega"] },
  { goName := "MessageAirspeedAutocal", id := 174, defPkg := "ardupilotmega", chain := ["storm32", "ardupilotmega"] },
  { goName := "MessageRallyPoint", id := 175, defPkg := "ardupilotmega", chain := ["storm32", "ardupilotmega"] },
  { goName := "MessageRallyFetchPoint", id := 176, defPkg := "ardupilotmega", chain := ["storm32", "ardupilotmega"] },
  { goName := "MessageCompassmotStatus", id := 177, defPkg := "ardupilotmega", chain := ["storm32", "ardupilotmega"] },
  { goName := "MessageAhrs2", id := 178, defPkg := "ardupilotmega", chain := ["storm32", "ardupilotmega"] },
  { goName := "MessageCameraStatus", id := 179, defPkg := "ardupilotmega", chain := ["storm32", "ardupilotmega"] },
  { goName := "MessageCameraFeedback", id := 180, defPkg := "ardupilotmega", chain := ["storm32", "ardupilotmega"] },
  { goName := "MessageBattery2", id := 181, defPkg := "ardupilotmega", chain := ["storm32", "ardupilotmega"] },
  { goName := "MessageAhrs3", id := 182, defPkg := "ardupilotmega", chain := ["storm32", "ardupilotmega"] },
  { goName := "MessageAutopilotVersionRequest", id := 183, defPkg := "ardupilotmega", chain := ["storm32", "ardupilotmega"] },
  { goName := "MessageRemoteLogDataBlock", id := 184, defPkg := "ardupilotmega", chain := ["storm32", "ardupilotmega"] },
  { goName := "MessageRemoteLogBlockStatus", id := 185, defPkg := "ardupilotmega", chain := ["storm32", "ardupilotmega"] },
  { goName := "MessageLedControl", id := 186, defPkg := "ardupilotmega", chain := ["storm32", "ardupilotmega"] },
  { goName := "MessageMagCalProgress", id := 191, defPkg := "ardupilotmega", chain := ["storm32", "ardupilotmega"] },
  { goName := "MessageEkfStatusReport", id := 193, defPkg := "ardupilotmega", chain := ["storm32", "ardupilotmega"] },
  { goName := "MessagePidTuning", id := 194, defPkg := "ardupilotmega", chain := ["storm32", "ardupilotmega"] },
  { goName := "MessageDeepstall", id := 195, defPkg := "ardupilotmega", chain := ["storm32", "ardupilotmega"] },
  { goName := "MessageGimbalReport", id := 200, defPkg := "ardupilotmega", chain := ["storm32", "ardupilotmega"] },
  { goName := "MessageGimbalControl", id := 201, defPkg := "ardupilotmega", chain := ["storm32", "ardupilotmega"] },
  { goName := "MessageGimbalTorqueCmdReport", id := 214, defPkg := "ardupilotmega", chain := ["storm32", "ardupilotmega"] },
  { goName := "MessageGoproHeartbeat", id := 215, defPkg := "ardupilotmega", chain := ["storm32", "ardupilotmega"] },
  { goName := "MessageGoproGetRequest", id := 216, defPkg := "ardupilotmega", chain := ["storm32", "ardupilotmega"] },
  { goName := "MessageGoproGetResponse", id := 217, defPkg := "ardupilotmega", chain := ["storm32", "ardupilotmega"] },
  { goName := "MessageGoproSetRequest", id := 218, defPkg := "ardupilotmega", chain := ["storm32", "ardupilotmega"] },
  { goName := "MessageGoproSetResponse", id := 219, defPkg := "ardupilotmega", chain := ["storm32", "ardupilotmega"] },
  { goName := "MessageRpm", id := 226, defPkg := "ardupilotmega", chain := ["storm32", "ardupilotmega"] },
  { goName := "MessageDeviceOpRead", id := 11000, defPkg := "ardupilotmega", chain := ["storm32", "ardupilotmega"] }] ++
[
  { goName := "MessageDeviceOpReadReply", id := 11001, defPkg := "ardupilotmega", chain := ["storm32", "ardupilotmega"] },
  { goName := "MessageDeviceOpWrite", id := 11002, defPkg := "ardupilotmega", chain := ["storm32", "ardupilotmega"] },
  { goName := "MessageDeviceOpWriteReply", id := 11003, defPkg := "ardupilotmega", chain := ["storm32", "ardupilotmega"] },
  { goName := "MessageSecureCommand", id := 11004, defPkg := "ardupilotmega", chain := ["storm32", "ardupilotmega"] },
  { goName := "MessageSecureCommandReply", id := 11005, defPkg := "ardupilotmega", chain := ["storm32", "ardupilotmega"] },
  { goName := "MessageAdapTuning", id := 11010, defPkg := "ardupilotmega", chain := ["storm32", "ardupilotmega"] },
  { goName := "MessageVisionPositionDelta", id := 11011, defPkg := "ardupilotmega", chain := ["storm32", "ardupilotmega"] },
  { goName := "MessageAoaSsa", id := 11020, defPkg := "ardupilotmega", chain := ["storm32", "ardupilotmega"] },
  { goName := "MessageEscTelemetry_1To_4", id := 11030, defPkg := "ardupilotmega", chain := ["storm32", "ardupilotmega"] },
  { goName := "MessageEscTelemetry_5To_8", id := 11031, defPkg := "ardupilotmega", chain := ["storm32", "ardupilotmega"] },
  { goName := "MessageEscTelemetry_9To_12", id := 11032, defPkg := "ardupilotmega", chain := ["storm32", "ardupilotmega"] },
  { goName := "MessageOsdParamConfig", id := 11033, defPkg := "ardupilotmega", chain := ["storm32", "ardupilotmega"] },
  { goName := "MessageOsdParamConfigReply", id := 11034, defPkg := "ardupilotmega", chain := ["storm32", "ardupilotmega"] },
  { goName := "MessageOsdParamShowConfig", id := 11035, defPkg := "ardupilotmega", chain := ["storm32", "ardupilotmega"] },
  { goName := "MessageOsdParamShowConfigReply", id := 11036, defPkg := "ardupilotmega", chain := ["storm32", "ardupilotmega"] },
  { goName := "MessageObstacleDistance_3d", id := 11037, defPkg := "ardupilotmega", chain := ["storm32", "ardupilotmega"] },
  { goName := "MessageWaterDepth", id := 11038, defPkg := "ardupilotmega", chain := ["storm32", "ardupilotmega"] },
  { goName := "MessageMcuStatus", id := 11039, defPkg := "ardupilotmega", chain := ["storm32", "ardupilotmega"] },
  { goName := "MessageEscTelemetry_13To_16", id := 11040, defPkg := "ardupilotmega", chain := ["storm32", "ardupilotmega"] },
  { goName := "MessageEscTelemetry_17To_20", id := 11041, defPkg := "ardupilotmega", chain := ["storm32", "ardupilotmega"] },
  { goName := "MessageEscTelemetry_21To_24", id := 11042, defPkg := "ardupilotmega", chain := ["storm32", "ardupilotmega"] },
  { goName := "MessageEscTelemetry_25To_28", id := 11043, defPkg := "ardupilotmega", chain := ["storm32", "ardupilotmega"] },
  { goName := "MessageEscTelemetry_29To_32", id := 11044, defPkg := "ardupilotmega", chain := ["storm32", "ardupilotmega"] },
  { goName := "MessageStorm32GimbalManagerInformation", id := 60010, defPkg := "storm32", chain := ["storm32"] },
  { goName := "MessageStorm32GimbalManagerStatus", id := 60011, defPkg := "storm32", chain := ["storm32"] },
  { goName := "MessageStorm32GimbalManagerControl", id := 60012, defPkg := "storm32", chain := ["storm32"] },
  { goName := "MessageStorm32GimbalManagerControlPitchyaw", id := 60013, defPkg := "storm32", chain := ["storm32"] },
  { goName := "MessageStorm32GimbalManagerCorrectRoll", id := 60014, defPkg := "storm32", chain := ["storm32"] },
  { goName := "MessageQshotStatus", id := 60020, defPkg := "storm32", chain := ["storm32"] },
  { goName := "MessageFrskyPassthroughArray", id := 60040, defPkg := "storm32", chain := ["storm32"] }] ++
[
  { goName := "MessageParamValueArray", id := 60041, defPkg := "storm32", chain := ["storm32"] }] }

/-- the message ids of dialect storm32, in the order of its message list -/
def ids_storm32 : List Nat := [0, 300, 1, 2, 4, 5, 6, 7, 8, 11, 20, 21, 22, 23, 24, 25, 26, 27, 28, 29, 30, 31, 32, 33, 34, 35, 36, 37, 38, 39, 40, 41, 42, 43, 44, 45, 46, 47, 48, 49] ++ [50, 51, 54, 55, 61, 62, 63, 64, 65, 66, 67, 69, 70, 73, 74, 75, 76, 77, 80, 81, 82, 83, 84, 85, 86, 87, 89, 90, 91, 92, 93, 100, 101, 102, 103, 104, 105, 106, 107, 108] ++ [109, 110, 111, 112, 113, 114, 115, 116, 117, 118, 119, 120, 121, 122, 123, 124, 125, 126, 127, 128, 129, 130, 131, 132, 133, 134, 135, 136, 137, 138, 139, 140, 141, 142, 143, 144, 146, 147, 148, 149] ++ [162, 192, 225, 230, 231, 232, 233, 234, 235, 241, 242, 243, 244, 245, 246, 247, 248, 249, 250, 251, 252, 253, 254, 256, 257, 258, 259, 260, 261, 262, 263, 264, 265, 266, 267, 268, 269, 270, 271, 275] ++ [276, 277, 280, 281, 282, 283, 284, 285, 286, 287, 288, 290, 291, 299, 301, 310, 311, 320, 321, 322, 323, 324, 330, 331, 332, 333, 334, 335, 336, 339, 340, 350, 360, 370, 371, 372, 373, 375, 380, 385] ++ [386, 390, 395, 396, 397, 400, 401, 410, 411, 412, 413, 435, 436, 437, 440, 387, 388, 9000, 9005, 12900, 12901, 12902, 12903, 12904, 12905, 12915, 12918, 12919, 12920, 10001, 10002, 10003, 10004, 10005, 10006, 10007, 10008, 42000, 42001, 10151] ++ [50001, 50002, 50003, 50004, 50005, 52000, 52001, 52002, 52003, 52004, 52005, 150, 151, 152, 153, 154, 155, 156, 157, 158, 160, 161, 163, 164, 165, 166, 167, 168, 169, 170, 171, 172, 173, 174, 175, 176, 177, 178, 179, 180] ++ [181, 182, 183, 184, 185, 186, 191, 193, 194, 195, 200, 201, 214, 215, 216, 217, 218, 219, 226, 11000, 11001, 11002, 11003, 11004, 11005, 11010, 11011, 11020, 11030, 11031, 11032, 11033, 11034, 11035, 11036, 11037, 11038, 11039, 11040, 11041] ++ [11042, 11043, 11044, 60010, 60011, 60012, 60013, 60014, 60020, 60040, 60041]

def dialect_test : Dialect := { name := "test", version := 3, msgs :=
[
  { goName := "MessageTestTypes", id := 17000, defPkg := "test", chain := ["test"] }] }

/-- the message ids of dialect test, in the order of its message list -/
def ids_test : List Nat := [17000]

def dialect_ualberta : Dialect := { name := "ualberta", version := 3, msgs :=
[
  { goName := "MessageHeartbeat", id := 0, defPkg := "minimal", chain := ["ualberta", "minimal"] },
  { goName := "MessageProtocolVersion", id := 300, defPkg := "minimal", chain := ["ualberta", "minimal"] },
  { goName := "MessageSysStatus", id := 1, defPkg := "common", chain := ["ualberta", "common"] },
  { goName := "MessageSystemTime", id := 2, defPkg := "common", chain := ["ualberta", "common"] },
  { goName := "MessagePing", id := 4, defPkg := "common", chain := ["ualberta", "common"] },
  { goName := "MessageChangeOperatorControl", id := 5, defPkg := "common", chain := ["ualberta", "common"] },
  { goName := "MessageChangeOperatorControlAck", id := 6, defPkg := "common", chain := ["ualberta", "common"] },
  { goName := "MessageAuthKey", id := 7, defPkg := "common", chain := ["ualberta", "common"] },
  { goName := "MessageLinkNodeStatus", id := 8, defPkg := "common", chain := ["ualberta", "common"] },
  { goName := "MessageSetMode", id := 11, defPkg := "common", chain := ["ualberta", "common"] },
  { goName := "MessageParamRequestRead", id := 20, defPkg := "common", chain := ["ualberta", "common"] },
  { goName := "MessageParamRequestList", id := 21, defPkg := "common", chain := ["ualberta", "common"] },
  { goName := "MessageParamValue", id := 22, defPkg := "common", chain := ["ualberta", "common"] },
  { goName := "MessageParamSet", id := 23, defPkg := "common", chain := ["ualberta", "common"] },
  { goName := "MessageGpsRawInt", id := 24, defPkg := "common", chain := ["ualberta", "common"] },
  { goName := "MessageGpsStatus", id := 25, defPkg := "common", chain := ["ualberta", "common"] },
  { goName := "MessageScaledImu", id := 26, defPkg := "common", chain := ["ualberta", "common"] },
  { goName := "MessageRawImu", id := 27, defPkg := "common", chain := ["ualberta", "common"] },
  { goName := "MessageRawPressure", id := 28, defPkg := "common", chain := ["ualberta", "common"] },
  { goName := "MessageScaledPressure", id := 29, defPkg := "common", chain := ["ualberta", "common"] },
  { goName := "MessageAttitude", id := 30, defPkg := "common", chain := ["ualberta", "common"] },
  { goName := "MessageAttitudeQuaternion", id := 31, defPkg := "common", chain := ["ualberta", "common"] },
  { goName := "MessageLocalPositionNed", id := 32, defPkg := "common", chain := ["ualberta", "common"] },
  { goName := "MessageGlobalPositionInt", id := 33, defPkg := "common", chain := ["ualberta", "common"] },
  { goName := "MessageRcChannelsScaled", id := 34, defPkg := "common", chain := ["ualberta", "common"] },
  { goName := "MessageRcChannelsRaw", id := 35, defPkg := "common", chain := ["ualberta", "common"] },
  { goName := "MessageServoOutputRaw", id := 36, defPkg := "common", chain := ["ualberta", "common"] },
  { goName := "MessageMissionRequestPartialList", id := 37, defPkg := "common", chain := ["ualberta", "common"] },
  { goName := "MessageMissionWritePartialList", id := 38, defPkg := "common", chain := ["ualberta", "common"] },
  { goName := "MessageMissionItem", id := 39, defPkg := "common", chain := ["ualberta", "common"] }] ++
[
  { goName := "MessageMissionRequest", id := 40, defPkg := "common", chain := ["ualberta", "common"] },
  { goName := "MessageMissionSetCurrent", id := 41, defPkg := "common", chain := ["ualberta", "common"] },
  { goName := "MessageMissionCurrent", id := 42, defPkg := "common", chain := ["ualberta", "common"] },
  { goName := "MessageMissionRequestList", id := 43, defPkg := "common", chain := ["ualberta", "common"] },
  { goName := "MessageMissionCount", id := 44, defPkg := "common", chain := ["ualberta", "common"] },
  { goName := "MessageMissionClearAll", id := 45, defPkg := "common", chain := ["ualberta", "common"] },
  { goName := "MessageMissionItemReached", id := 46, defPkg := "common", chain := ["ualberta", "common"] },
  { goName := "MessageMissionAck", id := 47, defPkg := "common", chain := ["ualberta", "common"] },
  { goName := "MessageSetGpsGlobalOrigin", id := 48, defPkg := "common", chain := ["ualberta", "common"] },
  { goName := "MessageGpsGlobalOrigin", id := 49, defPkg := "common", chain := ["ualberta", "common"] },
  { goName := "MessageParamMapRc", id := 50, defPkg := "common", chain := ["ualberta", "common"] },
  { goName := "MessageMissionRequestInt", id := 51, defPkg := "common", chain := ["ualberta", "common"] },
  { goName := "MessageSafetySetAllowedArea", id := 54, defPkg := "common", chain := ["ualberta", "common"] },
  { goName := "MessageSafetyAllowedArea", id := 55, defPkg := "common", chain := ["ualberta", "common"] },
  { goName := "MessageAttitudeQuaternionCov", id := 61, defPkg := "common", chain := ["ualberta", "common"] },
  { goName := "MessageNavControllerOutput", id := 62, defPkg := "common", chain := ["ualberta", "common"] },
  { goName := "MessageGlobalPositionIntCov", id := 63, defPkg := "common", chain := ["ualberta", "common"] },
  { goName := "MessageLocalPositionNedCov", id := 64, defPkg := "common", chain := ["ualberta", "common"] },
  { goName := "MessageRcChannels", id := 65, defPkg := "common", chain := ["ualberta", "common"] },
  { goName := "MessageRequestDataStream", id := 66, defPkg := "common", chain := ["ualberta", "common"] },
  { goName := "MessageDataStream", id := 67, defPkg := "common", chain := ["ualberta", "common"] },
  { goName := "MessageManualControl", id := 69, defPkg := "common", chain := ["ualberta", "common"] },
  { goName := "MessageRcChannelsOverride", id := 70, defPkg := "common", chain := ["ualberta", "common"] },
  { goName := "MessageMissionItemInt", id := 73, defPkg := "common", chain := ["ualberta", "common"] },
  { goName := "MessageVfrHud", id := 74, defPkg := "common", chain := ["ualberta", "common"] },
  { goName := "MessageCommandInt", id := 75, defPkg := "common", chain := ["ualberta", "common"] },
  { goName := "MessageCommandLong", id := 76, defPkg := "common", chain := ["ualberta", "common"] },
  { goName := "MessageCommandAck", id := 77, defPkg := "common", chain := ["ualberta", "common"] },
  { goName := "MessageCommandCancel", id := 80, defPkg := "common", chain := ["ualberta", "common"] },
  { goName := "MessageManualSetpoint", id := 81, defPkg := "common", chain := ["ualberta", "common"] }] ++
[
  { goName := "MessageSetAttitudeTarget", id := 82, defPkg := "common", chain := ["ualberta", "common"] },
  { goName := "MessageAttitudeTarget", id := 83, defPkg := "common", chain := ["ualberta", "common"] },
  { goName := "MessageSetPositionTargetLocalNed", id := 84, defPkg := "common", chain := ["ualberta", "common"] },
  { goName := "MessagePositionTargetLocalNed", id := 85, defPkg := "common", chain := ["ualberta", "common"] },
  { goName := "MessageSetPositionTargetGlobalInt", id := 86, defPkg := "common", chain := ["ualberta", "common"] },
  { goName := "MessagePositionTargetGlobalInt", id := 87, defPkg := "common", chain := ["ualberta", "common"] },
  { goName := "MessageLocalPositionNedSystemGlobalOffset", id := 89, defPkg := "common", chain := ["ualberta", "common"] },
  { goName := "MessageHilState", id := 90, defPkg := "common", chain := ["ualberta", "common"] },
  { goName := "MessageHilControls", id := 91, defPkg := "common", chain := ["ualberta", "common"] },
  { goName := "MessageHilRcInputsRaw", id := 92, defPkg := "common", chain := ["ualberta", "common"] },
  { goName := "MessageHilActuatorControls", id := 93, defPkg := "common", chain := ["ualberta", "common"] },
  { goName := "MessageOpticalFlow", id := 100, defPkg := "common", chain := ["ualberta", "common"] },
  { goName := "MessageGlobalVisionPositionEstimate", id := 101, defPkg := "common", chain := ["ualberta", "common"] },
  { goName := "MessageVisionPositionEstimate", id := 102, defPkg := "common", chain := ["ualberta", "common"] },
  { goName := "MessageVisionSpeedEstimate", id := 103, defPkg := "common", chain := ["ualberta", "common"] },
  { goName := "MessageViconPositionEstimate", id := 104, defPkg := "common", chain := ["ualberta", "common"] },
  { goName := "MessageHighresImu", id := 105, defPkg := "common", chain := ["ualberta", "common"] },
  { goName := "MessageOpticalFlowRad", id := 106, defPkg := "common", chain := ["ualberta", "common"] },
  { goName := "MessageHilSensor", id := 107, defPkg := "common", chain := ["ualberta", "common"] },
  { goName := "MessageSimState", id := 108, defPkg := "common", chain := ["ualberta", "common"] },
  { goName := "MessageRadioStatus", id := 109, defPkg := "common", chain := ["ualberta", "common"] },
  { goName := "MessageFileTransferProtocol", id := 110, defPkg := "common", chain := ["ualberta", "common"] },
  { goName := "MessageTimesync", id := 111, defPkg := "common", chain := ["ualberta", "common"] },
  { goName := "MessageCameraTrigger", id := 112, defPkg := "common", chain := ["ualberta", "common"] },
  { goName := "MessageHilGps", id := 113, defPkg := "common", chain := ["ualberta", "common"] },
  { goName := "MessageHilOpticalFlow", id := 114, defPkg := "common", chain := ["ualberta", "common"] },
  { goName := "MessageHilStateQuaternion", id := 115, defPkg := "common", chain := ["ualberta", "common"] },
  { goName := "MessageScaledImu2", id := 116, defPkg := "common", chain := ["ualberta", "common"] },
  { goName := "MessageLogRequestList", id := 117, defPkg := "common", chain := ["ualberta", "common"] },
  { goName := "MessageLogEntry", id := 118, defPkg := "common", chain := ["ualberta", "common"] }] ++
[
  { goName := "MessageLogRequestData", id := 119, defPkg := "common", chain := ["ualberta", "common"] },
  { goName := "MessageLogData", id := 120, defPkg := "common", chain := ["ualberta", "common"] },
  { goName := "MessageLogErase", id := 121, defPkg := "common", chain := ["ualberta", "common"] },
  { goName := "MessageLogRequestEnd", id := 122, defPkg := "common", chain := ["ualberta", "common"] },
  { goName := "MessageGpsInjectData", id := 123, defPkg := "common", chain := ["ualberta", "common"] },
  { goName := "MessageGps2Raw", id := 124, defPkg := "common", chain := ["ualberta", "common"] },
  { goName := "MessagePowerStatus", id := 125, defPkg := "common", chain := ["ualberta", "common"] },
  { goName := "MessageSerialControl", id := 126, defPkg := "common", chain := ["ualberta", "common"] },
  { goName := "MessageGpsRtk", id := 127, defPkg := "common", chain := ["ualberta", "common"] },
  { goName := "MessageGps2Rtk", id := 128, defPkg := "common", chain := ["ualberta", "common"] },
  { goName := "MessageScaledImu3", id := 129, defPkg := "common", chain := ["ualberta", "common"] },
  { goName := "MessageDataTransmissionHandshake", id := 130, defPkg := "common", chain := ["ualberta", "common"] },
  { goName := "MessageEncapsulatedData", id := 131, defPkg := "common", chain := ["ualberta", "common"] },
  { goName := "MessageDistanceSensor", id := 132, defPkg := "common", chain := ["ualberta", "common"] },
  { goName := "MessageTerrainRequest", id := 133, defPkg := "common", chain := ["ualberta", "common"] },
  { goName := "MessageTerrainData", id := 134, defPkg := "common", chain := ["ualberta", "common"] },
  { goName := "MessageTerrainCheck", id := 135, defPkg := "common", chain := ["ualberta", "common"] },
  { goName := "MessageTerrainReport", id := 136, defPkg := "common", chain := ["ualberta", "common"] },
  { goName := "MessageScaledPressure2", id := 137, defPkg := "common", chain := ["ualberta", "common"] },
  { goName := "MessageAttPosMocap", id := 138, defPkg := "common", chain := ["ualberta", "common"] },
  { goName := "MessageSetActuatorControlTarget", id := 139, defPkg := "common", chain := ["ualberta", "common"] },
  { goName := "MessageActuatorControlTarget", id := 140, defPkg := "common", chain := ["ualberta", "common"] },
  { goName := "MessageAltitude", id := 141, defPkg := "common", chain := ["ualberta", "common"] },
  { goName := "MessageResourceRequest", id := 142, defPkg := "common", chain := ["ualberta", "common"] },
  { goName := "MessageScaledPressure3", id := 143, defPkg := "common", chain := ["ualberta", "common"] },
  { goName := "MessageFollowTarget", id := 144, defPkg := "common", chain := ["ualberta", "common"] },
  { goName := "MessageControlSystemState", id := 146, defPkg := "common", chain := ["ualberta", "common"] },
  { goName := "MessageBatteryStatus", id := 147, defPkg := "common", chain := ["ualberta", "common"] },
  { goName := "MessageAutopilotVersion", id := 148, defPkg := "common", chain := ["ualberta", "common"] },
  { goName := "MessageLandingTarget", id := 149, defPkg := "common", chain := ["ualberta", "common"] }] ++
[
  { goName := "MessageFenceStatus", id := 162, defPkg := "common", chain := ["ualberta", "common"] },
  { goName := "MessageMagCalReport", id := 192, defPkg := "common", chain := ["ualberta", "common"] },
  { goName := "MessageEfiStatus", id := 225, defPkg := "common", chain := ["ualberta", "common"] },
  { goName := "MessageEstimatorStatus", id := 230, defPkg := "common", chain := ["ualberta", "common"] },
  { goName := "MessageWindCov", id := 231, defPkg := "common", chain := ["ualberta", "common"] },
  { goName := "MessageGpsInput", id := 232, defPkg := "common", chain := ["ualberta", "common"] },
  { goName := "MessageGpsRtcmData", id := 233, defPkg := "common", chain := ["ualberta", "common"] },
  { goName := "MessageHighLatency", id := 234, defPkg := "common", chain := ["ualberta", "common"] },
  { goName := "MessageHighLatency2", id := 235, defPkg := "common", chain := ["ualberta", "common"] },
  { goName := "MessageVibration", id := 241, defPkg := "common", chain := ["ualberta", "common"] },
  { goName := "MessageHomePosition", id := 242, defPkg := "common", chain := ["ualberta", "common"] },
  { goName := "MessageSetHomePosition", id := 243, defPkg := "common", chain := ["ualberta", "common"] },
  { goName := "MessageMessageInterval", id := 244, defPkg := "common", chain := ["ualberta", "common"] },
  { goName := "MessageExtendedSysState", id := 245, defPkg := "common", chain := ["ualberta", "common"] },
  { goName := "MessageAdsbVehicle", id := 246, defPkg := "common", chain := ["ualberta", "common"] },
  { goName := "MessageCollision", id := 247, defPkg := "common", chain := ["ualberta", "common"] },
  { goName := "MessageV2Extension", id := 248, defPkg := "common", chain := ["ualberta", "common"] },
  { goName := "MessageMemoryVect", id := 249, defPkg := "common", chain := ["ualberta", "common"] },
  { goName := "MessageDebugVect", id := 250, defPkg := "common", chain := ["ualberta", "common"] },
  { goName := "MessageNamedValueFloat", id := 251, defPkg := "common", chain := ["ualberta", "common"] },
  { goName := "MessageNamedValueInt", id := 252, defPkg := "common", chain := ["ualberta", "common"] },
  { goName := "MessageStatustext", id := 253, defPkg := "common", chain := ["ualberta", "common"] },
  { goName := "MessageDebug", id := 254, defPkg := "common", chain := ["ualberta", "common"] },
  { goName := "MessageSetupSigning", id := 256, defPkg := "common", chain := ["ualberta", "common"] },
  { goName := "MessageButtonChange", id := 257, defPkg := "common", chain := ["ualberta", "common"] },
  { goName := "MessagePlayTune", id := 258, defPkg := "common", chain := ["ualberta", "common"] },
  { goName := "MessageCameraInformation", id := 259, defPkg := "common", chain := ["ualberta", "common"] },
  { goName := "MessageCameraSettings", id := 260, defPkg := "common", chain := ["ualberta", "common"] },
  { goName := "MessageStorageInformation", id := 261, defPkg := "common", chain := ["ualberta", "common"] },
  { goName := "MessageCameraCaptureStatus", id := 262, defPkg := "common", chain := ["ualberta", "common"] }] ++
[
  { goName := "MessageCameraImageCaptured", id := 263, defPkg := "common", chain := ["ualberta", "common"] },
  { goName := "MessageFlightInformation", id := 264, defPkg := "common", chain := ["ualberta", "common"] },
  { goName := "MessageMountOrientation", id := 265, defPkg := "common", chain := ["ualberta", "common"] },
  { goName := "MessageLoggingData", id := 266, defPkg := "common", chain := ["ualberta", "common"] },
  { goName := "MessageLoggingDataAcked", id := 267, defPkg := "common", chain := ["ualberta", "common"] },
  { goName := "MessageLoggingAck", id := 268, defPkg := "common", chain := ["ualberta", "common"] },
  { goName := "MessageVideoStreamInformation", id := 269, defPkg := "common", chain := ["ualberta", "common"] },
  { goName := "MessageVideoStreamStatus", id := 270, defPkg := "common", chain := ["ualberta", "common"] },
  { goName := "MessageCameraFovStatus", id := 271, defPkg := "common", chain := ["ualberta", "common"] },
  { goName := "MessageCameraTrackingImageStatus", id := 275, defPkg := "common", chain := ["ualberta", "common"] },
  { goName := "MessageCameraTrackingGeoStatus", id := 276, defPkg := "common", chain := ["ualberta", "common"] },
  { goName := "MessageCameraThermalRange", id := 277, defPkg := "common", chain := ["ualberta", "common"] },
  { goName := "MessageGimbalManagerInformation", id := 280, defPkg := "common", chain := ["ualberta", "common"] },
  { goName := "MessageGimbalManagerStatus", id := 281, defPkg := "common", chain := ["ualberta", "common"] },
  { goName := "MessageGimbalManagerSetAttitude", id := 282, defPkg := "common", chain := ["ualberta", "common"] },
  { goName := "MessageGimbalDeviceInformation", id := 283, defPkg := "common", chain := ["ualberta", "common"] },
  { goName := "MessageGimbalDeviceSetAttitude", id := 284, defPkg := "common", chain := ["ualberta", "common"] },
  { goName := "MessageGimbalDeviceAttitudeStatus", id := 285, defPkg := "common", chain := ["ualberta", "common"] },
  { goName := "MessageAutopilotStateForGimbalDevice", id := 286, defPkg := "common", chain := ["ualberta", "common"] },
  { goName := "MessageGimbalManagerSetPitchyaw", id := 287, defPkg := "common", chain := ["ualberta", "common"] },
  { goName := "MessageGimbalManagerSetManualControl", id := 288, defPkg := "common", chain := ["ualberta", "common"] },
  { goName := "MessageEscInfo", id := 290, defPkg := "common", chain := ["ualberta", "common"] },
  { goName := "MessageEscStatus", id := 291, defPkg := "common", chain := ["ualberta", "common"] },
  { goName := "MessageWifiConfigAp", id := 299, defPkg := "common", chain := ["ualberta", "common"] },
  { goName := "MessageAisVessel", id := 301, defPkg := "common", chain := ["ualberta", "common"] },
  { goName := "MessageUavcanNodeStatus", id := 310, defPkg := "common", chain := ["ualberta", "common"] },
  { goName := "MessageUavcanNodeInfo", id := 311, defPkg := "common", chain := ["ualberta", "common"] },
  { goName := "MessageParamExtRequestRead", id := 320, defPkg := "common", chain := ["ualberta", "common"] },
  { goName := "MessageParamExtRequestList", id := 321, defPkg := "common", chain := ["ualberta", "common"] },
  { goName := "MessageParamExtValue", id := 322, defPkg := "common", chain := ["ualberta", "common"] }] ++
[
  { goName := "MessageParamExtSet", id := 323, defPkg := "common", chain := ["ualberta", "common"] },
  { goName := "MessageParamExtAck", id := 324, defPkg := "common", chain := ["ualberta", "common"] },
  { goName := "MessageObstacleDistance", id := 330, defPkg := "common", chain := ["ualberta", "common"] },
  { goName := "MessageOdometry", id := 331, defPkg := "common", chain := ["ualberta", "common"] },
  { goName := "MessageTrajectoryRepresentationWaypoints", id := 332, defPkg := "common", chain := ["ualberta", "common"] },
  { goName := "MessageTrajectoryRepresentationBezier", id := 333, defPkg := "common", chain := ["ualberta", "common"] },
  { goName := "MessageCellularStatus", id := 334, defPkg := "common", chain := ["ualberta", "common"] },
  { goName := "MessageIsbdLinkStatus", id := 335, defPkg := "common", chain := ["ualberta", "common"] },
  { goName := "MessageCellularConfig", id := 336, defPkg := "common", chain := ["ualberta", "common"] },
  { goName := "MessageRawRpm", id := 339, defPkg := "common", chain := ["ualberta", "common"] },
  { goName := "MessageUtmGlobalPosition", id := 340, defPkg := "common", chain := ["ualberta", "common"] },
  { goName := "MessageDebugFloatArray", id := 350, defPkg := "common", chain := ["ualberta", "common"] },
  { goName := "MessageOrbitExecutionStatus", id := 360, defPkg := "common", chain := ["ualberta", "common"] },
  { goName := "MessageSmartBatteryInfo", id := 370, defPkg := "common", chain := ["ualberta", "common"] },
  { goName := "MessageFuelStatus", id := 371, defPkg := "common", chain := ["ualberta", "common"] },
  { goName := "MessageBatteryInfo", id := 372, defPkg := "common", chain := ["ualberta", "common"] },
  { goName := "MessageGeneratorStatus", id := 373, defPkg := "common", chain := ["ualberta", "common"] },
  { goName := "MessageActuatorOutputStatus", id := 375, defPkg := "common", chain := ["ualberta", "common"] },
  { goName := "MessageTimeEstimateToTarget", id := 380, defPkg := "common", chain := ["ualberta", "common"] },
  { goName := "MessageTunnel", id := 385, defPkg := "common", chain := ["ualberta", "common"] },
  { goName := "MessageCanFrame", id := 386, defPkg := "common", chain := ["ualberta", "common"] },
  { goName := "MessageOnboardComputerStatus", id := 390, defPkg := "common", chain := ["ualberta", "common"] },
  { goName := "MessageComponentInformation", id := 395, defPkg := "common", chain := ["ualberta", "common"] },
  { goName := "MessageComponentInformationBasic", id := 396, defPkg := "common", chain := ["ualberta", "common"] },
  { goName := "MessageComponentMetadata", id := 397, defPkg := "common", chain := ["ualberta", "common"] },
  { goName := "MessagePlayTuneV2", id := 400, defPkg := "common", chain := ["ualberta", "common"] },
  { goName := "MessageSupportedTunes", id := 401, defPkg := "common", chain := ["ualberta", "common"] },
  { goName := "MessageEvent", id := 410, defPkg := "common", chain := ["ualberta", "common"] },
  { goName := "MessageCurrentEventSequence", id := 411, defPkg := "common", chain := ["ualberta", "common"] },
  { goName := "MessageRequestEvent", id := 412, defPkg := "common", chain := ["ualberta", "common"] }] ++
[
  { goName := "MessageResponseEventError", id := 413, defPkg := "common", chain := ["ualberta", "common"] },
  { goName := "MessageAvailableModes", id := 435, defPkg := "common", chain := ["ualberta", "common"] },
  { goName := "MessageCurrentMode", id := 436, defPkg := "common", chain := ["ualberta", "common"] },
  { goName := "MessageAvailableModesMonitor", id := 437, defPkg := "common", chain := ["ualberta", "common"] },
  { goName := "MessageIlluminatorStatus", id := 440, defPkg := "common", chain := ["ualberta", "common"] },
  { goName := "MessageCanfdFrame", id := 387, defPkg := "common", chain := ["ualberta", "common"] },
  { goName := "MessageCanFilterModify", id := 388, defPkg := "common", chain := ["ualberta", "common"] },
  { goName := "MessageWheelDistance", id := 9000, defPkg := "common", chain := ["ualberta", "common"] },
  { goName := "MessageWinchStatus", id := 9005, defPkg := "common", chain := ["ualberta", "common"] },
  { goName := "MessageOpenDroneIdBasicId", id := 12900, defPkg := "common", chain := ["ualberta", "common"] },
  { goName := "MessageOpenDroneIdLocation", id := 12901, defPkg := "common", chain := ["ualberta", "common"] },
  { goName := "MessageOpenDroneIdAuthentication", id := 12902, defPkg := "common", chain := ["ualberta", "common"] },
  { goName := "MessageOpenDroneIdSelfId", id := 12903, defPkg := "common", chain := ["ualberta", "common"] },
  { goName := "MessageOpenDroneIdSystem", id := 12904, defPkg := "common", chain := ["ualberta", "common"] },
  { goName := "MessageOpenDroneIdOperatorId", id := 12905, defPkg := "common", chain := ["ualberta", "common"] },
  { goName := "MessageOpenDroneIdMessagePack", id := 12915, defPkg := "common", chain := ["ualberta", "common"] },
  { goName := "MessageOpenDroneIdArmStatus", id := 12918, defPkg := "common", chain := ["ualberta", "common"] },
  { goName := "MessageOpenDroneIdSystemUpdate", id := 12919, defPkg := "common", chain := ["ualberta", "common"] },
  { goName := "MessageHygrometerSensor", id := 12920, defPkg := "common", chain := ["ualberta", "common"] },
  { goName := "MessageNavFilterBias", id := 220, defPkg := "ualberta", chain := ["ualberta"] },
  { goName := "MessageRadioCalibration", id := 221, defPkg := "ualberta", chain := ["ualberta"] },
  { goName := "MessageUalbertaSysStatus", id := 222, defPkg := "ualberta", chain := ["ualberta"] }] }

/-- the message ids of dialect ualberta, in the order of its message list -/
def ids_ualberta : List Nat := [0, 300, 1, 2, 4, 5, 6, 7, 8, 11, 20, 21, 22, 23, 24, 25, 26, 27, 28, 29, 30, 31, 32, 33, 34, 35, 36, 37, 38, 39, 40, 41, 42, 43, 44, 45, 46, 47, 48, 49] ++ [50, 51, 54, 55, 61, 62, 63, 64, 65, 66, 67, 69, 70, 73, 74, 75, 76, 77, 80, 81, 82, 83, 84, 85, 86, 87, 89, 90, 91, 92, 93, 100, 101, 102, 103, 104, 105, 106, 107, 108] ++ [109, 110, 111, 112, 113, 114, 115, 116, 117, 118, 119, 120, 121, 122, 123, 124, 125, 126, 127, 128, 129, 130, 131, 132, 133, 134, 135, 136, 137, 138, 139, 140, 141, 142, 143, 144, 146, 147, 148, 149] ++ [162, 192, 225, 230, 231, 232, 233, 234, 235, 241, 242, 243, 244, 245, 246, 247, 248, 249, 250, 251, 252, 253, 254, 256, 257, 258, 259, 260, 261, 262, 263, 264, 265, 266, 267, 268, 269, 270, 271, 275] ++ [276, 277, 280, 281, 282, 283, 284, 285, 286, 287, 288, 290, 291, 299, 301, 310, 311, 320, 321, 322, 323, 324, 330, 331, 332, 333, 334, 335, 336, 339, 340, 350, 360, 370, 371, 372, 373, 375, 380, 385] ++ [386, 390, 395, 396, 397, 400, 401, 410, 411, 412, 413, 435, 436, 437, 440, 387, 388, 9000, 9005, 12900, 12901, 12902, 12903, 12904, 12905, 12915, 12918, 12919, 12920, 220, 221, 222]

def dialect_uavionix : Dialect := { name := "uavionix", version := 3, msgs :=
[
  { goName := "MessageHeartbeat", id := 0, defPkg := "minimal", chain := ["uavionix", "minimal"] },
  { goName := "MessageProtocolVersion", id := 300, defPkg := "minimal", chain := ["uavionix", "minimal"] },
  { goName := "MessageSysStatus", id := 1, defPkg := "common", chain := ["uavionix", "common"] },
  { goName := "MessageSystemTime", id := 2, defPkg := "common", chain := ["uavionix", "common"] },
  { goName := "MessagePing", id := 4, defPkg := "common", chain := ["uavionix", "common"] },
  { goName := "MessageChangeOperatorControl", id := 5, defPkg := "common", chain := ["uavionix", "common"] },
  { goName := "MessageChangeOperatorControlAck", id := 6, defPkg := "common", chain := ["uavionix", "common"] },
  { goName := "MessageAuthKey", id := 7, defPkg := "common", chain := ["uavionix", "common"] },
  { goName := "MessageLinkNodeStatus", id := 8, defPkg := "common", chain := ["uavionix", "common"] },
  { goName := "MessageSetMode", id := 11, defPkg := "common", chain := ["uavionix", "common"] },
  { goName := "MessageParamRequestRead", id := 20, defPkg := "common", chain := ["uavionix", "common"] },
  { goName := "MessageParamRequestList", id := 21, defPkg := "common", chain := ["uavionix", "common"] },
  { goName := "MessageParamValue", id := 22, defPkg := "common", chain := ["uavionix", "common"] },
  { goName := "MessageParamSet", id := 23, defPkg := "common", chain := ["uavionix", "common"] },
  { goName := "MessageGpsRawInt", id := 24, defPkg := "common", chain := ["uavionix", "common"] },
  { goName := "MessageGpsStatus", id := 25, defPkg := "common", chain := ["uavionix", "common"] },
  { goName := "MessageScaledImu", id := 26, defPkg := "common", chain := ["uavionix", "common"] },
  { goName := "MessageRawImu", id := 27, defPkg := "common", chain := ["uavionix", "common"] },
  { goName := "MessageRawPressure", id := 28, defPkg := "common", chain := ["uavionix", "common"] },
  { goName := "MessageScaledPressure", id := 29, defPkg := "common", chain := ["uavionix", "common"] },
  { goName := "MessageAttitude", id := 30, defPkg := "common", chain := ["uavionix", "common"] },
  { goName := "MessageAttitudeQuaternion", id := 31, defPkg := "common", chain := ["uavionix", "common"] },
  { goName := "MessageLocalPositionNed", id := 32, defPkg := "common", chain := ["uavionix", "common"] },
  { goName := "MessageGlobalPositionInt", id := 33, defPkg := "common", chain := ["uavionix", "common"] },
  { goName := "MessageRcChannelsScaled", id := 34, defPkg := "common", chain := ["uavionix", "common"] },
  { goName := "MessageRcChannelsRaw", id := 35, defPkg := "common", chain := ["uavionix", "common"] },
  { goName := "MessageServoOutputRaw", id := 36, defPkg := "common", chain := ["uavionix", "common"] },
  { goName := "MessageMissionRequestPartialList", id := 37, defPkg := "common", chain := ["uavionix", "common"] },
  { goName := "MessageMissionWritePartialList", id := 38, defPkg := "common", chain := ["uavionix", "common"] },
  { goName := "MessageMissionItem", id := 39, defPkg := "common", chain := ["uavionix", "common"] }] ++
[
  { goName := "MessageMissionRequest", id := 40, defPkg := "common", chain := ["uavionix", "common"] },
  { goName := "MessageMissionSetCurrent", id := 41, defPkg := "common", chain := ["uavionix", "common"] },
  { goName := "MessageMissionCurrent", id := 42, defPkg := "common", chain := ["uavionix", "common"] },
  { goName := "MessageMissionRequestList", id := 43, defPkg := "common", chain := ["uavionix", "common"] },
  { goName := "MessageMissionCount", id := 44, defPkg := "common", chain := ["uavionix", "common"] },
  { goName := "MessageMissionClearAll", id := 45, defPkg := "common", chain := ["uavionix", "common"] },
  { goName := "MessageMissionItemReached", id := 46, defPkg := "common", chain := ["uavionix", "common"] },
  { goName := "MessageMissionAck", id := 47, defPkg := "common", chain := ["uavionix", "common"] },
  { goName := "MessageSetGpsGlobalOrigin", id := 48, defPkg := "common", chain := ["uavionix", "common"] },
  { goName := "MessageGpsGlobalOrigin", id := 49, defPkg := "common", chain := ["uavionix", "common"] },
  { goName := "MessageParamMapRc", id := 50, defPkg := "common", chain := ["uavionix", "common"] },
  { goName := "MessageMissionRequestInt", id := 51, defPkg := "common", chain := ["uavionix", "common"] },
  { goName := "MessageSafetySetAllowedArea", id := 54, defPkg := "common", chain := ["uavionix", "common"] },
  { goName := "MessageSafetyAllowedArea", id := 55, defPkg := "common", chain := ["uavionix", "common"] },
  { goName := "MessageAttitudeQuaternionCov", id := 61, defPkg := "common", chain := ["uavionix", "common"] },
  { goName := "MessageNavControllerOutput", id := 62, defPkg := "common", chain := ["uavionix", "common"] },
  { goName := "MessageGlobalPositionIntCov", id := 63, defPkg := "common", chain := ["uavionix", "common"] },
  { goName := "MessageLocalPositionNedCov", id := 64, defPkg := "common", chain := ["uavionix", "common"] },
  { goName := "MessageRcChannels", id := 65, defPkg := "common", chain := ["uavionix", "common"] },
  { goName := "MessageRequestDataStream", id := 66, defPkg := "common", chain := ["uavionix", "common"] },
  { goName := "MessageDataStream", id := 67, defPkg := "common", chain := ["uavionix", "common"] },
  { goName := "MessageManualControl", id := 69, defPkg := "common", chain := ["uavionix", "common"] },
  { goName := "MessageRcChannelsOverride", id := 70, defPkg := "common", chain := ["uavionix", "common"] },
  { goName := "MessageMissionItemInt", id := 73, defPkg := "common", chain := ["uavionix", "common"] },
  { goName := "MessageVfrHud", id := 74, defPkg := "common", chain := ["uavionix", "common"] },
  { goName := "MessageCommandInt", id := 75, defPkg := "common", chain := ["uavionix", "common"] },
  { goName := "MessageCommandLong", id := 76, defPkg := "common", chain := ["uavionix", "common"] },
  { goName := "MessageCommandAck", id := 77, defPkg := "common", chain := ["uavionix", "common"] },
  { goName := "MessageCommandCancel", id := 80, defPkg := "common", chain := ["uavionix", "common"] },
  { goName := "MessageManualSetpoint", id := 81, defPkg := "common", chain := ["uavionix", "common"] }] ++
[
  { goName := "MessageSetAttitudeTarget", id := 82, defPkg := "common", chain := ["uavionix", "common"] },
  { goName := "MessageAttitudeTarget", id := 83, defPkg := "common", chain := ["uavionix", "common"] },
  { goName := "MessageSetPositionTargetLocalNed", id := 84, defPkg := "common", chain := ["uavionix", "common"] },
  { goName := "MessagePositionTargetLocalNed", id := 85, defPkg := "common", chain := ["uavionix", "common"] },
  { goName := "MessageSetPositionTargetGlobalInt", id := 86, defPkg := "common", chain := ["uavionix", "common"] },
  { goName := "MessagePositionTargetGlobalInt", id := 87, defPkg := "common", chain := ["uavionix", "common"] },
  { goName := "MessageLocalPositionNedSystemGlobalOffset", id := 89, defPkg := "common", chain := ["uavionix", "common"] },
  { goName := "MessageHilState", id := 90, defPkg := "common", chain := ["uavionix", "common"] },
  { goName := "MessageHilControls", id := 91, defPkg := "common", chain := ["uavionix", "common"] },
  { goName := "MessageHilRcInputsRaw", id := 92, defPkg := "common", chain := ["uavionix", "common"] },
  { goName := "MessageHilActuatorControls", id := 93, defPkg := "common", chain := ["uavionix", "common"] },
  { goName := "MessageOpticalFlow", id := 100, defPkg := "common", chain := ["uavionix", "common"] },
  { goName := "MessageGlobalVisionPositionEstimate", id := 101, defPkg := "common", chain := ["uavionix", "common"] },
  { goName := "MessageVisionPositionEstimate", id := 102, defPkg := "common", chain := ["uavionix", "common"] },
  { goName := "MessageVisionSpeedEstimate", id := 103, defPkg := "common", chain := ["uavionix", "common"] },
  { goName := "MessageViconPositionEstimate", id := 104, defPkg := "common", chain := ["uavionix", "common"] },
  { goName := "MessageHighresImu", id := 105, defPkg := "common", chain := ["uavionix", "common"] },
  { goName := "MessageOpticalFlowRad", id := 106, defPkg := "common", chain := ["uavionix", "common"] },
  { goName := "MessageHilSensor", id := 107, defPkg := "common", chain := ["uavionix", "common"] },
  { goName := "MessageSimState", id := 108, defPkg := "common", chain := ["uavionix", "common"] },
  { goName := "MessageRadioStatus", id := 109, defPkg := "common", chain := ["uavionix", "common"] },
  { goName := "MessageFileTransferProtocol", id := 110, defPkg := "common", chain := ["uavionix", "common"] },
  { goName := "MessageTimesync", id := 111, defPkg := "common", chain := ["uavionix", "common"] },
  { goName := "MessageCameraTrigger", id := 112, defPkg := "common", chain := ["uavionix", "common"] },
  { goName := "MessageHilGps", id := 113, defPkg := "common", chain := ["uavionix", "common"] },
  { goName := "MessageHilOpticalFlow", id := 114, defPkg := "common", chain := ["uavionix", "common"] },
  { goName := "MessageHilStateQuaternion", id := 115, defPkg := "common", chain := ["uavionix", "common"] },
  { goName := "MessageScaledImu2", id := 116, defPkg := "common", chain := ["uavionix", "common"] },
  { goName := "MessageLogRequestList", id := 117, defPkg := "common", chain := ["uavionix", "common"] },
  { goName := "MessageLogEntry", id := 118, defPkg := "common", chain := ["uavionix", "common"] }] ++
[
  { goName := "MessageLogRequestData", id := 119, defPkg := "common", chain := ["uavionix", "common"] },
  { goName := "MessageLogData", id := 120, defPkg := "common", chain := ["uavionix", "common"] },
  { goName := "MessageLogErase", id := 121, defPkg := "common", chain := ["uavionix", "common"] },
  { goName := "MessageLogRequestEnd", id := 122, defPkg := "common", chain := ["uavionix", "common"] },
  { goName := "MessageGpsInjectData", id := 123, defPkg := "common", chain := ["uavionix", "common"] },
  { goName := "MessageGps2Raw", id := 124, defPkg := "common", chain := ["uavionix", "common"] },
  { goName := "MessagePowerStatus", id := 125, defPkg := "common", chain := ["uavionix", "common"] },
  { goName := "MessageSerialControl", id := 126, defPkg := "common", chain := ["uavionix", "common"] },
  { goName := "MessageGpsRtk", id := 127, defPkg := "common", chain := ["uavionix", "common"] },
  { goName := "MessageGps2Rtk", id := 128, defPkg := "common", chain := ["uavionix", "common"] },
  { goName := "MessageScaledImu3", id := 129, defPkg := "common", chain := ["uavionix", "common"] },
  { goName := "MessageDataTransmissionHandshake", id := 130, defPkg := "common", chain := ["uavionix", "common"] },
  { goName := "MessageEncapsulatedData", id := 131, defPkg := "common", chain := ["uavionix", "common"] },
  { goName := "MessageDistanceSensor", id := 132, defPkg := "common", chain := ["uavionix", "common"] },
  { goName := "MessageTerrainRequest", id := 133, defPkg := "common", chain := ["uavionix", "common"] },
  { goName := "MessageTerrainData", id := 134, defPkg := "common", chain := ["uavionix", "common"] },
  { goName := "MessageTerrainCheck", id := 135, defPkg := "common", chain := ["uavionix", "common"] },
  { goName := "MessageTerrainReport", id := 136, defPkg := "common", chain := ["uavionix", "common"] },
  { goName := "MessageScaledPressure2", id := 137, defPkg := "common", chain := ["uavionix", "common"] },
  { goName := "MessageAttPosMocap", id := 138, defPkg := "common", chain := ["uavionix", "common"] },
  { goName := "MessageSetActuatorControlTarget", id := 139, defPkg := "common", chain := ["uavionix", "common"] },
  { goName := "MessageActuatorControlTarget", id := 140, defPkg := "common", chain := ["uavionix", "common"] },
  { goName := "MessageAltitude", id := 141, defPkg := "common", chain := ["uavionix", "common"] },
  { goName := "MessageResourceRequest", id := 142, defPkg := "common", chain := ["uavionix", "common"] },
  { goName := "MessageScaledPressure3", id := 143, defPkg := "common", chain := ["uavionix", "common"] },
  { goName := "MessageFollowTarget", id := 144, defPkg := "common", chain := ["uavionix", "common"] },
  { goName := "MessageControlSystemState", id := 146, defPkg := "common", chain := ["uavionix", "common"] },
  { goName := "MessageBatteryStatus", id := 147, defPkg := "common", chain := ["uavionix", "common"] },
  { goName := "MessageAutopilotVersion", id := 148, defPkg := "common", chain := ["uavionix", "common"] },
  { goName := "MessageLandingTarget", id := 149, defPkg := "common", chain := ["uavionix", "common"] }] ++
[
  { goName := "MessageFenceStatus", id := 162, defPkg := "common", chain := ["uavionix", "common"] },
  { goName := "MessageMagCalReport", id := 192, defPkg := "common", chain := ["uavionix", "common"] },
  { goName := "MessageEfiStatus", id := 225, defPkg := "common", chain := ["uavionix", "common"] },
  { goName := "MessageEstimatorStatus", id := 230, defPkg := "common", chain := ["uavionix", "common"] },
  { goName := "MessageWindCov", id := 231, defPkg := "common", chain := ["uavionix", "common"] },
  { goName := "MessageGpsInput", id := 232, defPkg := "common", chain := ["uavionix", "common"] },
  { goName := "MessageGpsRtcmData", id := 233, defPkg := "common", chain := ["uavionix", "common"] },
  { goName := "MessageHighLatency", id := 234, defPkg := "common", chain := ["uavionix", "common"] },
  { goName := "MessageHighLatency2", id := 235, defPkg := "common", chain := ["uavionix", "common"] },
  { goName := "MessageVibration", id := 241, defPkg := "common", chain := ["uavionix", "common"] },
  { goName := "MessageHomePosition", id := 242, defPkg := "common", chain := ["uavionix", "common"] },
  { goName := "MessageSetHomePosition", id := 243, defPkg := "common", chain := ["uavionix", "common"] },
  { goName := "MessageMessageInterval", id := 244, defPkg := "common", chain := ["uavionix", "common"] },
  { goName := "MessageExtendedSysState", id := 245, defPkg := "common", chain := ["uavionix", "common"] },
  { goName := "MessageAdsbVehicle", id := 246, defPkg := "common", chain := ["uavionix", "common"] },
  { goName := "MessageCollision", id := 247, defPkg := "common", chain := ["uavionix", "common"] },
  { goName := "MessageV2Extension", id := 248, defPkg := "common", chain := ["uavionix", "common"] },
  { goName := "MessageMemoryVect", id := 249, defPkg := "common", chain := ["uavionix", "common"] },
  { goName := "MessageDebugVect", id := 250, defPkg := "common", chain := ["uavionix", "common"] },
  { goName := "MessageNamedValueFloat", id := 251, defPkg := "common", chain := ["uavionix", "common"] },
  { goName := "MessageNamedValueInt", id := 252, defPkg := "common", chain := ["uavionix", "common"] },
  { goName := "MessageStatustext", id := 253, defPkg := "common", chain := ["uavionix", "common"] },
  { goName := "MessageDebug", id := 254, defPkg := "common", chain := ["uavionix", "common"] },
  { goName := "MessageSetupSigning", id := 256, defPkg := "common", chain := ["uavionix", "common"] },
  { goName := "MessageButtonChange", id := 257, defPkg := "common", chain := ["uavionix", "common"] },
  { goName := "MessagePlayTune", id := 258, defPkg := "common", chain := ["uavionix", "common"] },
  { goName := "MessageCameraInformation", id := 259, defPkg := "common", chain := ["uavionix", "common"] },
  { goName := "MessageCameraSettings", id := 260, defPkg := "common", chain := ["uavionix", "common"] },
  { goName := "MessageStorageInformation", id := 261, defPkg := "common", chain := ["uavionix", "common"] },
  { goName := "MessageCameraCaptureStatus", id := 262, defPkg := "common", chain := ["uavionix", "common"] }] ++
[
  { goName := "MessageCameraImageCaptured", id := 263, defPkg := "common", chain := ["uavionix", "common"] },
  { goName := "MessageFlightInformation", id := 264, defPkg := "common", chain := ["uavionix", "common"] },
  { goName := "MessageMountOrientation", id := 265, defPkg := "common", chain := ["uavionix", "common"] },
  { goName := "MessageLoggingData", id := 266, defPkg := "common", chain := ["uavionix", "common"] },
  { goName := "MessageLoggingDataAcked", id := 267, defPkg := "common", chain := ["uavionix", "common"] },
  { goName := "MessageLoggingAck", id := 268, defPkg := "common", chain := ["uavionix", "common"] },
  { goName := "MessageVideoStreamInformation", id := 269, defPkg := "common", chain := ["uavionix", "common"] },
  { goName := "MessageVideoStreamStatus", id := 270, defPkg := "common", chain := ["uavionix", "common"] },
  { goName := "MessageCameraFovStatus", id := 271, defPkg := "common", chain := ["uavionix", "common"] },
  { goName := "MessageCameraTrackingImageStatus", id := 275, defPkg := "common", chain := ["uavionix", "common"] },
  { goName := "MessageCameraTrackingGeoStatus", id := 276, defPkg := "common", chain := ["uavionix", "common"] },
  { goName := "MessageCameraThermalRange", id := 277, defPkg := "common", chain := ["uavionix", "common"] },
  { goName := "MessageGimbalManagerInformation", id := 280, defPkg := "common", chain := ["uavionix", "common"] },
  { goName := "MessageGimbalManagerStatus", id := 281, defPkg := "common", chain := ["uavionix", "common"] },
  { goName := "MessageGimbalManagerSetAttitude", id := 282, defPkg := "common", chain := ["uavionix", "common"] },
  { goName := "MessageGimbalDeviceInformation", id := 283, defPkg := "common", chain := ["uavionix", "common"] },
  { goName := "MessageGimbalDeviceSetAttitude", id := 284, defPkg := "common", chain := ["uavionix", "common"] },
  { goName := "MessageGimbalDeviceAttitudeStatus", id := 285, defPkg := "common", chain := ["uavionix", "common"] },
  { goName := "MessageAutopilotStateForGimbalDevice", id := 286, defPkg := "common", chain := ["uavionix", "common"] },
  { goName := "MessageGimbalManagerSetPitchyaw", id := 287, defPkg := "common", chain := ["uavionix", "common"] },
  { goName := "MessageGimbalManagerSetManualControl", id := 288, defPkg := "common", chain := ["uavionix", "common"] },
  { goName := "MessageEscInfo", id := 290, defPkg := "common", chain := ["uavionix", "common"] },
  { goName := "MessageEscStatus", id := 291, defPkg := "common", chain := ["uavionix", "common"] },
  { goName := "MessageWifiConfigAp", id := 299, defPkg := "common", chain := ["uavionix", "common"] },
  { goName := "MessageAisVessel", id := 301, defPkg := "common", chain := ["uavionix", "common"] },
  { goName := "MessageUavcanNodeStatus", id := 310, defPkg := "common", chain := ["uavionix", "common"] },
  { goName := "MessageUavcanNodeInfo", id := 311, defPkg := "common", chain := ["uavionix", "common"] },
  { goName := "MessageParamExtRequestRead", id := 320, defPkg := "common", chain := ["uavionix", "common"] },
  { goName := "MessageParamExtRequestList", id := 321, defPkg := "common", chain := ["uavionix", "common"] },
  { goName := "MessageParamExtValue", id := 322, defPkg := "common", chain := ["uavionix", "common"] }] ++
[
  { goName := "MessageParamExtSet", id := 323, defPkg := "common", chain := ["uavionix", "common"] },
  { goName := "MessageParamExtAck", id := 324, defPkg := "common", chain := ["uavionix", "common"] },
  { goName := "MessageObstacleDistance", id := 330, defPkg := "common", chain := ["uavionix", "common"] },
  { goName := "MessageOdometry", id := 331, defPkg := "common", chain := ["uavionix", "common"] },
  { goName := "MessageTrajectoryRepresentationWaypoints", id := 332, defPkg := "common", chain := ["uavionix", "common"] },
  { goName := "MessageTrajectoryRepresentationBezier", id := 333, defPkg := "common", chain := ["uavionix", "common"] },
  { goName := "MessageCellularStatus", id := 334, defPkg := "common", chain := ["uavionix", "common"] },
  { goName := "MessageIsbdLinkStatus", id := 335, defPkg := "common", chain := ["uavionix", "common"] },
  { goName := "MessageCellularConfig", id := 336, defPkg := "common", chain := ["uavionix", "common"] },
  { goName := "MessageRawRpm", id := 339, defPkg := "common", chain := ["uavionix", "common"] },
  { goName := "MessageUtmGlobalPosition", id := 340, defPkg := "common", chain := ["uavionix", "common"] },
  { goName := "MessageDebugFloatArray", id := 350, defPkg := "common", chain := ["uavionix", "common"] },
  { goName := "MessageOrbitExecutionStatus", id := 360, defPkg := "common", chain := ["uavionix", "common"] },
  { goName := "MessageSmartBatteryInfo", id := 370, defPkg := "common", chain := ["uavionix", "common"] },
  { goName := "MessageFuelStatus", id := 371, defPkg := "common", chain := ["uavionix", "common"] },
  { goName := "MessageBatteryInfo", id := 372, defPkg := "common", chain := ["uavionix", "common"] },
  { goName := "MessageGeneratorStatus", id := 373, defPkg := "common", chain := ["uavionix", "common"] },
  { goName := "MessageActuatorOutputStatus", id := 375, defPkg := "common", chain := ["uavionix", "common"] },
  { goName := "MessageTimeEstimateToTarget", id := 380, defPkg := "common", chain := ["uavionix", "common"] },
  { goName := "MessageTunnel", id := 385, defPkg := "common", chain := ["uavionix", "common"] },
  { goName := "MessageCanFrame", id := 386, defPkg := "common", chain := ["uavionix", "common"] },
  { goName := "MessageOnboardComputerStatus", id := 390, defPkg := "common", chain := ["uavionix", "common"] },
  { goName := "MessageComponentInformation", id := 395, defPkg := "common", chain := ["uavionix", "common"] },
  { goName := "MessageComponentInformationBasic", id := 396, defPkg := "common", chain := ["uavionix", "common"] },
  { goName := "MessageComponentMetadata", id := 397, defPkg := "common", chain := ["uavionix", "common"] },
  { goName := "MessagePlayTuneV2", id := 400, defPkg := "common", chain := ["uavionix", "common"] },
  { goName := "MessageSupportedTunes", id := 401, defPkg := "common", chain := ["uavionix", "common"] },
  { goName := "MessageEvent", id := 410, defPkg := "common", chain := ["uavionix", "common"] },
  { goName := "MessageCurrentEventSequence", id := 411, defPkg := "common", chain := ["uavionix", "common"] },
  { goName := "MessageRequestEvent", id := 412, defPkg := "common", chain := ["uavionix", "common"] }] ++
[
  { goName := "MessageResponseEventError", id := 413, defPkg := "common", chain := ["uavionix", "common"] },
  { goName := "MessageAvailableModes", id := 435, defPkg := "common", chain := ["uavionix", "common"] },
  { goName := "MessageCurrentMode", id := 436, defPkg := "common", chain := ["uavionix", "common"] },
  { goName := "MessageAvailableModesMonitor", id := 437, defPkg := "common", chain := ["uavionix", "common"] },
  { goName := "MessageIlluminatorStatus", id := 440, defPkg := "common", chain := ["uavionix", "common"] },
  { goName := "MessageCanfdFrame", id := 387, defPkg := "common", chain := ["uavionix", "common"] },
  { goName := "MessageCanFilterModify", id := 388, defPkg := "common", chain := ["uavionix", "common"] },
  { goName := "MessageWheelDistance", id := 9000, defPkg := "common", chain := ["uavionix", "common"] },
  { goName := "MessageWinchStatus", id := 9005, defPkg := "common", chain := ["uavionix", "common"] },
  { goName := "MessageOpenDroneIdBasicId", id := 12900, defPkg := "common", chain := ["uavionix", "common"] },
  { goName := "MessageOpenDroneIdLocation", id := 12901, defPkg := "common", chain := ["uavionix", "common"] },
  { goName := "MessageOpenDroneIdAuthentication", id := 12902, defPkg := "common", chain := ["uavionix", "common"] },
  { goName := "MessageOpenDroneIdSelfId", id := 12903, defPkg := "common", chain := ["uavionix", "common"] },
  { goName := "MessageOpenDroneIdSystem", id := 12904, defPkg := "common", chain := ["uavionix", "common"] },
  { goName := "MessageOpenDroneIdOperatorId", id := 12905, defPkg := "common", chain := ["uavionix", "common"] },
  { goName := "MessageOpenDroneIdMessagePack", id := 12915, defPkg := "common", chain := ["uavionix", "common"] },
  { goName := "MessageOpenDroneIdArmStatus", id := 12918, defPkg := "common", chain := ["uavionix", "common"] },
  { goName := "MessageOpenDroneIdSystemUpdate", id := 12919, defPkg := "common", chain := ["uavionix", "common"] },
  { goName := "MessageHygrometerSensor", id := 12920, defPkg := "common", chain := ["uavionix", "common"] },
  { goName := "MessageUavionixAdsbOutCfg", id := 10001, defPkg := "uavionix", chain := ["uavionix"] },
  { goName := "MessageUavionixAdsbOutDynamic", id := 10002, defPkg := "uavionix", chain := ["uavionix"] },
  { goName := "MessageUavionixAdsbTransceiverHealthReport", id := 10003, defPkg := "uavionix", chain := ["uavionix"] },
  { goName := "MessageUavionixAdsbOutCfgRegistration", id := 10004, defPkg := "uavionix", chain := ["uavionix"] },
  { goName := "MessageUavionixAdsbOutCfgFlightid", id := 10005, defPkg := "uavionix", chain := ["uavionix"] },
  { goName := "MessageUavionixAdsbGet", id := 10006, defPkg := "uavionix", chain := ["uavionix"] },
  { goName := "MessageUavionixAdsbOutControl", id := 10007, defPkg := "uavionix", chain := ["uavionix"] },
  { goName := "MessageUavionixAdsbOutStatus", id := 10008, defPkg := "uavionix", chain := ["uavionix"] }] }

/-- the message ids of dialect uavionix, in the order of its message list -/
def ids_uavionix : List Nat := [0, 300, 1, 2, 4, 5, 6, 7, 8, 11, 20, 21, 22, 23, 24, 25, 26, 27, 28, 29, 30, 31, 32, 33, 34, 35, 36, 37, 38, 39, 40, 41, 42, 43, 44, 45, 46, 47, 48, 49] ++ [50, 51, 54, 55, 61, 62, 63, 64, 65, 66, 67, 69, 70, 73, 74, 75, 76, 77, 80, 81, 82, 83, 84, 85, 86, 87, 89, 90, 91, 92, 93, 100, 101, 102, 103, 104, 105, 106, 107, 108] ++ [109, 110, 111, 112, 113, 114, 115, 116, 117, 118, 119, 120, 121, 122, 123, 124, 125, 126, 127, 128, 129, 130, 131, 132, 133, 134, 135, 136, 137, 138, 139, 140, 141, 142, 143, 144, 146, 147, 148, 149] ++ [162, 192, 225, 230, 231, 232, 233, 234, 235, 241, 242, 243, 244, 245, 246, 247, 248, 249, 250, 251, 252, 253, 254, 256, 257, 258, 259, 260, 261, 262, 263, 264, 265, 266, 267, 268, 269, 270, 271, 275] ++ [276, 277, 280, 281, 282, 283, 284, 285, 286, 287, 288, 290, 291, 299, 301, 310, 311, 320, 321, 322, 323, 324, 330, 331, 332, 333, 334, 335, 336, 339, 340, 350, 360, 370, 371, 372, 373, 375, 380, 385] ++ [386, 390, 395, 396, 397, 400, 401, 410, 411, 412, 413, 435, 436, 437, 440, 387, 388, 9000, 9005, 12900, 12901, 12902, 12903, 12904, 12905, 12915, 12918, 12919, 12920, 10001, 10002, 10003, 10004, 10005, 10006, 10007, 10008]

def msgGroups_0 : List (String × List (String × String × Nat)) := [
  ("MessageActuatorControlTarget", [("all", "common", 140), ("ardupilotmega", "common", 140), ("asluav", "common", 140), ("avssuas", "common", 140), ("common", "common", 140), ("cubepilot", "common", 140), ("development", "common", 140), ("matrixpilot", "common", 140), ("paparazzi", "common", 140), ("pythonarraytest", "common", 140), ("storm32", "common", 140), ("ualberta", "common", 140), ("uavionix", "common", 140)]),
  ("MessageActuatorOutputStatus", [("all", "common", 375), ("ardupilotmega", "common", 375), ("asluav", "common", 375), ("avssuas", "common", 375), ("common", "common", 375), ("cubepilot", "common", 375), ("development", "common", 375), ("matrixpilot", "common", 375), ("paparazzi", "common", 375), ("pythonarraytest", "common", 375), ("storm32", "common", 375), ("ualberta", "common", 375), ("uavionix", "common", 375)]),
  ("MessageAdapTuning", [("all", "ardupilotmega", 11010), ("ardupilotmega", "ardupilotmega", 11010), ("storm32", "ardupilotmega", 11010)]),
  ("MessageAdsbVehicle", [("all", "common", 246), ("ardupilotmega", "common", 246), ("asluav", "common", 246), ("avssuas", "common", 246), ("common", "common", 246), ("cubepilot", "common", 246), ("development", "common", 246), ("matrixpilot", "common", 246), ("paparazzi", "common", 246), ("pythonarraytest", "common", 246), ("storm32", "common", 246), ("ualberta", "common", 246), ("uavionix", "common", 246)]),
  ("MessageAhrs", [("all", "ardupilotmega", 163), ("ardupilotmega", "ardupilotmega", 163), ("storm32", "ardupilotmega", 163)]),
  ("MessageAhrs2", [("all", "ardupilotmega", 178), ("ardupilotmega", "ardupilotmega", 178), ("storm32", "ardupilotmega", 178)]),
  ("MessageAhrs3", [("all", "ardupilotmega", 182), ("ardupilotmega", "ardupilotmega", 182), ("storm32", "ardupilotmega", 182)]),
  ("MessageAirlinkAuth", [("all", "csairlink", 52000), ("ardupilotmega", "csairlink", 52000), ("csairlink", "csairlink", 52000), ("storm32", "csairlink", 52000)]),
  ("MessageAirlinkAuthResponse", [("all", "csairlink", 52001), ("ardupilotmega", "csairlink", 52001), ("csairlink", "csairlink", 52001), ("storm32", "csairlink", 52001)]),
  ("MessageAirlinkEyeGsHolePushRequest", [("all", "csairlink", 52002), ("ardupilotmega", "csairlink", 52002), ("csairlink", "csairlink", 52002), ("storm32", "csairlink", 52002)]),
  ("MessageAirlinkEyeGsHolePushResponse", [("all", "csairlink", 52003), ("ardupilotmega", "csairlink", 52003), ("csairlink", "csairlink", 52003), ("storm32", "csairlink", 52003)]),
  ("MessageAirlinkEyeHp", [("all", "csairlink", 52004), ("ardupilotmega", "csairlink", 52004), ("csairlink", "csairlink", 52004), ("storm32", "csairlink", 52004)]),
  ("MessageAirlinkEyeTurnInit", [("all", "csairlink", 52005), ("ardupilotmega", "csairlink", 52005), ("csairlink", "csairlink", 52005), ("storm32", "csairlink", 52005)]),
  ("MessageAirspeed", [("all", "development", 295), ("development", "development", 295)]),
  ("MessageAirspeedAutocal", [("all", "ardupilotmega", 174), ("ardupilotmega", "ardupilotmega", 174), ("storm32", "ardupilotmega", 174)]),
  ("MessageAirspeeds", [("matrixpilot", "matrixpilot", 182)]),
  ("MessageAisVessel", [("all", "common", 301), ("ardupilotmega", "common", 301), ("asluav", "common", 301), ("avssuas", "common", 301), ("common", "common", 301), ("cubepilot", "common", 301), ("development", "common", 301), ("matrixpilot", "common", 301), ("paparazzi", "common", 301), ("pythonarraytest", "common", 301), ("storm32", "common", 301), ("ualberta", "common", 301), ("uavionix", "common", 301)]),
  ("MessageAltitude", [("all", "common", 141), ("ardupilotmega", "common", 141), ("asluav", "common", 141), ("avssuas", "common", 141), ("common", "common", 141), ("cubepilot", "common", 141), ("development", "common", 141), ("matrixpilot", "common", 141), ("paparazzi", "common", 141), ("pythonarraytest", "common", 141), ("storm32", "common", 141), ("ualberta", "common", 141), ("uavionix", "common", 141)]),
  ("MessageAltitudes", [("matrixpilot", "matrixpilot", 181)]),
  ("MessageAoaSsa", [("all", "ardupilotmega", 11020), ("ardupilotmega", "ardupilotmega", 11020), ("storm32", "ardupilotmega", 11020)]),
  ("MessageApAdc", [("all", "ardupilotmega", 153), ("ardupilotmega", "ardupilotmega", 153), ("storm32", "ardupilotmega", 153)]),
  ("MessageArrayTest_0", [("all", "pythonarraytest", 17150), ("pythonarraytest", "pythonarraytest", 17150)]),
  ("MessageArrayTest_1", [("all", "pythonarraytest", 17151), ("pythonarraytest", "pythonarraytest", 17151)]),
  ("MessageArrayTest_3", [("all", "pythonarraytest", 17153), ("pythonarraytest", "pythonarraytest", 17153)]),
  ("MessageArrayTest_4", [("all", "pythonarraytest", 17154), ("pythonarraytest", "pythonarraytest", 17154)]),
  ("MessageArrayTest_5", [("all", "pythonarraytest", 17155), ("pythonarraytest", "pythonarraytest", 17155)]),
  ("MessageArrayTest_6", [("all", "pythonarraytest", 17156), ("pythonarraytest", "pythonarraytest", 17156)]),
  ("MessageArrayTest_7", [("all", "pythonarraytest", 17157), ("pythonarraytest", "pythonarraytest", 17157)]),
  ("MessageArrayTest_8", [("all", "pythonarraytest", 17158), ("pythonarraytest", "pythonarraytest", 17158)]),
  ("MessageAslObctrl", [("all", "asluav", 8008), ("asluav", "asluav", 8008)]),
  ("MessageAslctrlData", [("all", "asluav", 8004), ("asluav", "asluav", 8004)]),
  ("MessageAslctrlDebug", [("all", "asluav", 8005), ("asluav", "asluav", 8005)]),
  ("MessageAsluavStatus", [("all", "asluav", 8006), ("asluav", "asluav", 8006)]),
  ("MessageAttPosMocap", [("all", "common", 138), ("ardupilotmega", "common", 138), ("asluav", "common", 138), ("avssuas", "common", 138), ("common", "common", 138), ("cubepilot", "common", 138), ("development", "common", 138), ("matrixpilot", "common", 138), ("paparazzi", "common", 138), ("pythonarraytest", "common", 138), ("storm32", "common", 138), ("ualberta", "common", 138), ("uavionix", "common", 138)]),
  ("MessageAttitude", [("all", "common", 30), ("ardupilotmega", "common", 30), ("asluav", "common", 30), ("avssuas", "common", 30), ("common", "common", 30), ("cubepilot", "common", 30), ("development", "common", 30), ("matrixpilot", "common", 30), ("paparazzi", "common", 30), ("pythonarraytest", "common", 30), ("storm32", "common", 30), ("ualberta", "common", 30), ("uavionix", "common", 30)]),
  ("MessageAttitudeQuaternion", [("all", "common", 31), ("ardupilotmega", "common", 31), ("asluav", "common", 31), ("avssuas", "common", 31), ("common", "common", 31), ("cubepilot", "common", 31), ("development", "common", 31), ("matrixpilot", "common", 31), ("paparazzi", "common", 31), ("pythonarraytest", "common", 31), ("storm32", "common", 31), ("ualberta", "common", 31), ("uavionix", "common", 31)]),
  ("MessageAttitudeQuaternionCov", [("all", "common", 61), ("ardupilotmega", "common", 61), ("asluav", "common", 61), ("avssuas", "common", 61), ("common", "common", 61), ("cubepilot", "common", 61), ("development", "common", 61), ("matrixpilot", "common", 61), ("paparazzi", "common", 61), ("pythonarraytest", "common", 61), ("storm32", "common", 61), ("ualberta", "common", 61), ("uavionix", "common", 61)]),
  ("MessageAttitudeTarget", [("all", "common", 83), ("ardupilotmega", "common", 83), ("asluav", "common", 83), ("avssuas", "common", 83), ("common", "common", 83), ("cubepilot", "common", 83), ("development", "common", 83), ("matrixpilot", "common", 83), ("paparazzi", "common", 83), ("pythonarraytest", "common", 83), ("storm32", "common", 83), ("ualberta", "common", 83), ("uavionix", "common", 83)]),
  ("MessageAuthKey", [("all", "common", 7), ("ardupilotmega", "common", 7), ("asluav", "common", 7), ("avssuas", "common", 7), ("common", "common", 7), ("cubepilot", "common", 7), ("development", "common", 7), ("matrixpilot", "common", 7), ("paparazzi", "common", 7), ("pythonarraytest", "common", 7), ("storm32", "common", 7), ("ualberta", "common", 7), ("uavionix", "common", 7)]),
  ("MessageAutopilotStateForGimbalDevice", [("all", "common", 286), ("ardupilotmega", "common", 286), ("asluav", "common", 286), ("avssuas", "common", 286), ("common", "common", 286), ("cubepilot", "common", 286), ("development", "common", 286), ("matrixpilot", "common", 286), ("paparazzi", "common", 286), ("pythonarraytest", "common", 286), ("storm32", "common", 286), ("ualberta", "common", 286), ("uavionix", "common", 286)]),
  ("MessageAutopilotVersion", [("all", "common", 148), ("ardupilotmega", "common", 148), ("asluav", "common", 148), ("avssuas", "common", 148), ("common", "common", 148), ("cubepilot", "common", 148), ("development", "common", 148), ("matrixpilot", "common", 148), ("paparazzi", "common", 148), ("pythonarraytest", "common", 148), ("storm32", "common", 148), ("ualberta", "common", 148), ("uavionix", "common", 148)]),
  ("MessageAutopilotVersionRequest", [("all", "ardupilotmega", 183), ("ardupilotmega", "ardupilotmega", 183), ("storm32", "ardupilotmega", 183)]),
  ("MessageAvailableModes", [("all", "common", 435), ("ardupilotmega", "common", 435), ("asluav", "common", 435), ("avssuas", "common", 435), ("common", "common", 435), ("cubepilot", "common", 435), ("development", "common", 435), ("matrixpilot", "common", 435), ("paparazzi", "common", 435), ("pythonarraytest", "common", 435), ("storm32", "common", 435), ("ualberta", "common", 435), ("uavionix", "common", 435)]),
  ("MessageAvailableModesMonitor", [("all", "common", 437), ("ardupilotmega", "common", 437), ("asluav", "common", 437), ("avssuas", "common", 437), ("common", "common", 437), ("cubepilot", "common", 437), ("development", "common", 437), ("matrixpilot", "common", 437), ("paparazzi", "common", 437), ("pythonarraytest", "common", 437), ("storm32", "common", 437), ("ualberta", "common", 437), ("uavionix", "common", 437)]),
  ("MessageAvssDroneImu", [("all", "avssuas", 60052), ("avssuas", "avssuas", 60052)]),
  ("MessageAvssDroneOperationMode", [("all", "avssuas", 60053), ("avssuas", "avssuas", 60053)]),
  ("MessageAvssDronePosition", [("all", "avssuas", 60051), ("avssuas", "avssuas", 60051)]),
  ("MessageAvssPrsSysStatus", [("all", "avssuas", 60050), ("avssuas", "avssuas", 60050)]),
  ("MessageBattery2", [("all", "ardupilotmega", 181), ("ardupilotmega", "ardupilotmega", 181), ("storm32", "ardupilotmega", 181)]),
  ("MessageBatteryInfo", [("all", "common", 372), ("ardupilotmega", "common", 372), ("asluav", "common", 372), ("avssuas", "common", 372), ("common", "common", 372), ("cubepilot", "common", 372), ("development", "common", 372), ("matrixpilot", "common", 372), ("paparazzi", "common", 372), ("pythonarraytest", "common", 372), ("storm32", "common", 372), ("ualberta", "common", 372), ("uavionix", "common", 372)]),
  ("MessageBatteryStatus", [("all", "common", 147), ("ardupilotmega", "common", 147), ("asluav", "common", 147), ("avssuas", "common", 147), ("common", "common", 147), ("cubepilot", "common", 147), ("development", "common", 147), ("matrixpilot", "common", 147), ("paparazzi", "common", 147), ("pythonarraytest", "common", 147), ("storm32", "common", 147), ("ualberta", "common", 147), ("uavionix", "common", 147)]),
  ("MessageBatteryStatusV2", [("all", "development", 369), ("development", "development", 369)]),
  ("MessageButtonChange", [("all", "common", 257), ("ardupilotmega", "common", 257), ("asluav", "common", 257), ("avssuas", "common", 257), ("common", "common", 257), ("cubepilot", "common", 257), ("development", "common", 257), ("matrixpilot", "common", 257), ("paparazzi", "common", 257), ("pythonarraytest", "common", 257), ("storm32", "common", 257), ("ualberta", "common", 257), ("uavionix", "common", 257)]),
  ("MessageCameraCaptureStatus", [("all", "common", 262), ("ardupilotmega", "common", 262), ("asluav", "common", 262), ("avssuas", "common", 262), ("common", "common", 262), ("cubepilot", "common", 262), ("development", "common", 262), ("matrixpilot", "common", 262), ("paparazzi", "common", 262), ("pythonarraytest", "common", 262), ("storm32", "common", 262), ("ualberta", "common", 262), ("uavionix", "common", 262)]),
  ("MessageCameraFeedback", [("all", "ardupilotmega", 180), ("ardupilotmega", "ardupilotmega", 180), ("storm32", "ardupilotmega", 180)]),
  ("MessageCameraFovStatus", [("all", "common", 271), ("ardupilotmega", "common", 271), ("asluav", "common", 271), ("avssuas", "common", 271), ("common", "common", 271), ("cubepilot", "common", 271), ("development", "common", 271), ("matrixpilot", "common", 271), ("paparazzi", "common", 271), ("pythonarraytest", "common", 271), ("storm32", "common", 271), ("ualberta", "common", 271), ("uavionix", "common", 271)]),
  ("MessageCameraImageCaptured", [("all", "common", 263), ("ardupilotmega", "common", 263), ("asluav", "common", 263), ("avssuas", "common", 263), ("common", "common", 263), ("cubepilot", "common", 263), ("development", "common", 263), ("matrixpilot", "common", 263), ("paparazzi", "common", 263), ("pythonarraytest", "common", 263), ("storm32", "common", 263), ("ualberta", "common", 263), ("uavionix", "common", 263)]),
  ("MessageCameraInformation", [("all", "common", 259), ("ardupilotmega", "common", 259), ("asluav", "common", 259), ("avssuas", "common", 259), ("common", "common", 259), ("cubepilot", "common", 259), ("development", "common", 259), ("matrixpilot", "common", 259), ("paparazzi", "common", 259), ("pythonarraytest", "common", 259), ("storm32", "common", 259), ("ualberta", "common", 259), ("uavionix", "common", 259)]),
  ("MessageCameraSettings", [("all", "common", 260), ("ardupilotmega", "common", 260), ("asluav", "common", 260), ("avssuas", "common", 260), ("common", "common", 260), ("cubepilot", "common", 260), ("development", "common", 260), ("matrixpilot", "common", 260), ("paparazzi", "common", 260), ("pythonarraytest", "common", 260), ("storm32", "common", 260), ("ualberta", "common", 260), ("uavionix", "common", 260)]),
  ("MessageCameraStatus", [("all", "ardupilotmega", 179), ("ardupilotmega", "ardupilotmega", 179), ("storm32", "ardupilotmega", 179)])]

def msgGroups_1 : List (String × List (String × String × Nat)) := [
  ("MessageCameraThermalRange", [("all", "common", 277), ("ardupilotmega", "common", 277), ("asluav", "common", 277), ("avssuas", "common", 277), ("common", "common", 277), ("cubepilot", "common", 277), ("development", "common", 277), ("matrixpilot", "common", 277), ("paparazzi", "common", 277), ("pythonarraytest", "common", 277), ("storm32", "common", 277), ("ualberta", "common", 277), ("uavionix", "common", 277)]),
  ("MessageCameraTrackingGeoStatus", [("all", "common", 276), ("ardupilotmega", "common", 276), ("asluav", "common", 276), ("avssuas", "common", 276), ("common", "common", 276), ("cubepilot", "common", 276), ("development", "common", 276), ("matrixpilot", "common", 276), ("paparazzi", "common", 276), ("pythonarraytest", "common", 276), ("storm32", "common", 276), ("ualberta", "common", 276), ("uavionix", "common", 276)]),
  ("MessageCameraTrackingImageStatus", [("all", "common", 275), ("ardupilotmega", "common", 275), ("asluav", "common", 275), ("avssuas", "common", 275), ("common", "common", 275), ("cubepilot", "common", 275), ("development", "common", 275), ("matrixpilot", "common", 275), ("paparazzi", "common", 275), ("pythonarraytest", "common", 275), ("storm32", "common", 275), ("ualberta", "common", 275), ("uavionix", "common", 275)]),
  ("MessageCameraTrigger", [("all", "common", 112), ("ardupilotmega", "common", 112), ("asluav", "common", 112), ("avssuas", "common", 112), ("common", "common", 112), ("cubepilot", "common", 112), ("development", "common", 112), ("matrixpilot", "common", 112), ("paparazzi", "common", 112), ("pythonarraytest", "common", 112), ("storm32", "common", 112), ("ualberta", "common", 112), ("uavionix", "common", 112)]),
  ("MessageCanFilterModify", [("all", "common", 388), ("ardupilotmega", "common", 388), ("asluav", "common", 388), ("avssuas", "common", 388), ("common", "common", 388), ("cubepilot", "common", 388), ("development", "common", 388), ("matrixpilot", "common", 388), ("paparazzi", "common", 388), ("pythonarraytest", "common", 388), ("storm32", "common", 388), ("ualberta", "common", 388), ("uavionix", "common", 388)]),
  ("MessageCanFrame", [("all", "common", 386), ("ardupilotmega", "common", 386), ("asluav", "common", 386), ("avssuas", "common", 386), ("common", "common", 386), ("cubepilot", "common", 386), ("development", "common", 386), ("matrixpilot", "common", 386), ("paparazzi", "common", 386), ("pythonarraytest", "common", 386), ("storm32", "common", 386), ("ualberta", "common", 386), ("uavionix", "common", 386)]),
  ("MessageCanfdFrame", [("all", "common", 387), ("ardupilotmega", "common", 387), ("asluav", "common", 387), ("avssuas", "common", 387), ("common", "common", 387), ("cubepilot", "common", 387), ("development", "common", 387), ("matrixpilot", "common", 387), ("paparazzi", "common", 387), ("pythonarraytest", "common", 387), ("storm32", "common", 387), ("ualberta", "common", 387), ("uavionix", "common", 387)]),
  ("MessageCellularConfig", [("all", "common", 336), ("ardupilotmega", "common", 336), ("asluav", "common", 336), ("avssuas", "common", 336), ("common", "common", 336), ("cubepilot", "common", 336), ("development", "common", 336), ("matrixpilot", "common", 336), ("paparazzi", "common", 336), ("pythonarraytest", "common", 336), ("storm32", "common", 336), ("ualberta", "common", 336), ("uavionix", "common", 336)]),
  ("MessageCellularStatus", [("all", "common", 334), ("ardupilotmega", "common", 334), ("asluav", "common", 334), ("avssuas", "common", 334), ("common", "common", 334), ("cubepilot", "common", 334), ("development", "common", 334), ("matrixpilot", "common", 334), ("paparazzi", "common", 334), ("pythonarraytest", "common", 334), ("storm32", "common", 334), ("ualberta", "common", 334), ("uavionix", "common", 334)]),
  ("MessageChangeOperatorControl", [("all", "common", 5), ("ardupilotmega", "common", 5), ("asluav", "common", 5), ("avssuas", "common", 5), ("common", "common", 5), ("cubepilot", "common", 5), ("development", "common", 5), ("matrixpilot", "common", 5), ("paparazzi", "common", 5), ("pythonarraytest", "common", 5), ("storm32", "common", 5), ("ualberta", "common", 5), ("uavionix", "common", 5)]),
  ("MessageChangeOperatorControlAck", [("all", "common", 6), ("ardupilotmega", "common", 6), ("asluav", "common", 6), ("avssuas", "common", 6), ("common", "common", 6), ("cubepilot", "common", 6), ("development", "common", 6), ("matrixpilot", "common", 6), ("paparazzi", "common", 6), ("pythonarraytest", "common", 6), ("storm32", "common", 6), ("ualberta", "common", 6), ("uavionix", "common", 6)]),
  ("MessageCollision", [("all", "common", 247), ("ardupilotmega", "common", 247), ("asluav", "common", 247), ("avssuas", "common", 247), ("common", "common", 247), ("cubepilot", "common", 247), ("development", "common", 247), ("matrixpilot", "common", 247), ("paparazzi", "common", 247), ("pythonarraytest", "common", 247), ("storm32", "common", 247), ("ualberta", "common", 247), ("uavionix", "common", 247)]),
  ("MessageCommandAck", [("all", "common", 77), ("ardupilotmega", "common", 77), ("asluav", "common", 77), ("avssuas", "common", 77), ("common", "common", 77), ("cubepilot", "common", 77), ("development", "common", 77), ("matrixpilot", "common", 77), ("paparazzi", "common", 77), ("pythonarraytest", "common", 77), ("storm32", "common", 77), ("ualberta", "common", 77), ("uavionix", "common", 77)]),
  ("MessageCommandCancel", [("all", "common", 80), ("ardupilotmega", "common", 80), ("asluav", "common", 80), ("avssuas", "common", 80), ("common", "common", 80), ("cubepilot", "common", 80), ("development", "common", 80), ("matrixpilot", "common", 80), ("paparazzi", "common", 80), ("pythonarraytest", "common", 80), ("storm32", "common", 80), ("ualberta", "common", 80), ("uavionix", "common", 80)]),
  ("MessageCommandInt", [("all", "common", 75), ("ardupilotmega", "common", 75), ("asluav", "common", 75), ("avssuas", "common", 75), ("common", "common", 75), ("cubepilot", "common", 75), ("development", "common", 75), ("matrixpilot", "common", 75), ("paparazzi", "common", 75), ("pythonarraytest", "common", 75), ("storm32", "common", 75), ("ualberta", "common", 75), ("uavionix", "common", 75)]),
  ("MessageCommandIntStamped", [("all", "asluav", 223), ("asluav", "asluav", 223)]),
  ("MessageCommandLong", [("all", "common", 76), ("ardupilotmega", "common", 76), ("asluav", "common", 76), ("avssuas", "common", 76), ("common", "common", 76), ("cubepilot", "common", 76), ("development", "common", 76), ("matrixpilot", "common", 76), ("paparazzi", "common", 76), ("pythonarraytest", "common", 76), ("storm32", "common", 76), ("ualberta", "common", 76), ("uavionix", "common", 76)]),
  ("MessageCommandLongStamped", [("all", "asluav", 224), ("asluav", "asluav", 224)]),
  ("MessageCompassmotStatus", [("all", "ardupilotmega", 177), ("ardupilotmega", "ardupilotmega", 177), ("storm32", "ardupilotmega", 177)]),
  ("MessageComponentInformation", [("all", "common", 395), ("ardupilotmega", "common", 395), ("asluav", "common", 395), ("avssuas", "common", 395), ("common", "common", 395), ("cubepilot", "common", 395), ("development", "common", 395), ("matrixpilot", "common", 395), ("paparazzi", "common", 395), ("pythonarraytest", "common", 395), ("storm32", "common", 395), ("ualberta", "common", 395), ("uavionix", "common", 395)]),
  ("MessageComponentInformationBasic", [("all", "common", 396), ("ardupilotmega", "common", 396), ("asluav", "common", 396), ("avssuas", "common", 396), ("common", "common", 396), ("cubepilot", "common", 396), ("development", "common", 396), ("matrixpilot", "common", 396), ("paparazzi", "common", 396), ("pythonarraytest", "common", 396), ("storm32", "common", 396), ("ualberta", "common", 396), ("uavionix", "common", 396)]),
  ("MessageComponentMetadata", [("all", "common", 397), ("ardupilotmega", "common", 397), ("asluav", "common", 397), ("avssuas", "common", 397), ("common", "common", 397), ("cubepilot", "common", 397), ("development", "common", 397), ("matrixpilot", "common", 397), ("paparazzi", "common", 397), ("pythonarraytest", "common", 397), ("storm32", "common", 397), ("ualberta", "common", 397), ("uavionix", "common", 397)]),
  ("MessageControlStatus", [("all", "development", 512), ("development", "development", 512)]),
  ("MessageControlSystemState", [("all", "common", 146), ("ardupilotmega", "common", 146), ("asluav", "common", 146), ("avssuas", "common", 146), ("common", "common", 146), ("cubepilot", "common", 146), ("development", "common", 146), ("matrixpilot", "common", 146), ("paparazzi", "common", 146), ("pythonarraytest", "common", 146), ("storm32", "common", 146), ("ualberta", "common", 146), ("uavionix", "common", 146)]),
  ("MessageCubepilotFirmwareUpdateResp", [("all", "cubepilot", 50005), ("ardupilotmega", "cubepilot", 50005), ("cubepilot", "cubepilot", 50005), ("storm32", "cubepilot", 50005)]),
  ("MessageCubepilotFirmwareUpdateStart", [("all", "cubepilot", 50004), ("ardupilotmega", "cubepilot", 50004), ("cubepilot", "cubepilot", 50004), ("storm32", "cubepilot", 50004)]),
  ("MessageCubepilotRawRc", [("all", "cubepilot", 50001), ("ardupilotmega", "cubepilot", 50001), ("cubepilot", "cubepilot", 50001), ("storm32", "cubepilot", 50001)]),
  ("MessageCurrentEventSequence", [("all", "common", 411), ("ardupilotmega", "common", 411), ("asluav", "common", 411), ("avssuas", "common", 411), ("common", "common", 411), ("cubepilot", "common", 411), ("development", "common", 411), ("matrixpilot", "common", 411), ("paparazzi", "common", 411), ("pythonarraytest", "common", 411), ("storm32", "common", 411), ("ualberta", "common", 411), ("uavionix", "common", 411)]),
  ("MessageCurrentMode", [("all", "common", 436), ("ardupilotmega", "common", 436), ("asluav", "common", 436), ("avssuas", "common", 436), ("common", "common", 436), ("cubepilot", "common", 436), ("development", "common", 436), ("matrixpilot", "common", 436), ("paparazzi", "common", 436), ("pythonarraytest", "common", 436), ("storm32", "common", 436), ("ualberta", "common", 436), ("uavionix", "common", 436)]),
  ("MessageData16", [("all", "ardupilotmega", 169), ("ardupilotmega", "ardupilotmega", 169), ("storm32", "ardupilotmega", 169)]),
  ("MessageData32", [("all", "ardupilotmega", 170), ("ardupilotmega", "ardupilotmega", 170), ("storm32", "ardupilotmega", 170)]),
  ("MessageData64", [("all", "ardupilotmega", 171), ("ardupilotmega", "ardupilotmega", 171), ("storm32", "ardupilotmega", 171)]),
  ("MessageData96", [("all", "ardupilotmega", 172), ("ardupilotmega", "ardupilotmega", 172), ("storm32", "ardupilotmega", 172)]),
  ("MessageDataStream", [("all", "common", 67), ("ardupilotmega", "common", 67), ("asluav", "common", 67), ("avssuas", "common", 67), ("common", "common", 67), ("cubepilot", "common", 67), ("development", "common", 67), ("matrixpilot", "common", 67), ("paparazzi", "common", 67), ("pythonarraytest", "common", 67), ("storm32", "common", 67), ("ualberta", "common", 67), ("uavionix", "common", 67)]),
  ("MessageDataTransmissionHandshake", [("all", "common", 130), ("ardupilotmega", "common", 130), ("asluav", "common", 130), ("avssuas", "common", 130), ("common", "common", 130), ("cubepilot", "common", 130), ("development", "common", 130), ("matrixpilot", "common", 130), ("paparazzi", "common", 130), ("pythonarraytest", "common", 130), ("storm32", "common", 130), ("ualberta", "common", 130), ("uavionix", "common", 130)]),
  ("MessageDebug", [("all", "common", 254), ("ardupilotmega", "common", 254), ("asluav", "common", 254), ("avssuas", "common", 254), ("common", "common", 254), ("cubepilot", "common", 254), ("development", "common", 254), ("matrixpilot", "common", 254), ("paparazzi", "common", 254), ("pythonarraytest", "common", 254), ("storm32", "common", 254), ("ualberta", "common", 254), ("uavionix", "common", 254)]),
  ("MessageDebugFloatArray", [("all", "common", 350), ("ardupilotmega", "common", 350), ("asluav", "common", 350), ("avssuas", "common", 350), ("common", "common", 350), ("cubepilot", "common", 350), ("development", "common", 350), ("matrixpilot", "common", 350), ("paparazzi", "common", 350), ("pythonarraytest", "common", 350), ("storm32", "common", 350), ("ualberta", "common", 350), ("uavionix", "common", 350)]),
  ("MessageDebugVect", [("all", "common", 250), ("ardupilotmega", "common", 250), ("asluav", "common", 250), ("avssuas", "common", 250), ("common", "common", 250), ("cubepilot", "common", 250), ("development", "common", 250), ("matrixpilot", "common", 250), ("paparazzi", "common", 250), ("pythonarraytest", "common", 250), ("storm32", "common", 250), ("ualberta", "common", 250), ("uavionix", "common", 250)]),
  ("MessageDeepstall", [("all", "ardupilotmega", 195), ("ardupilotmega", "ardupilotmega", 195), ("storm32", "ardupilotmega", 195)]),
  ("MessageDeviceOpRead", [("all", "ardupilotmega", 11000), ("ardupilotmega", "ardupilotmega", 11000), ("storm32", "ardupilotmega", 11000)]),
  ("MessageDeviceOpReadReply", [("all", "ardupilotmega", 11001), ("ardupilotmega", "ardupilotmega", 11001), ("storm32", "ardupilotmega", 11001)]),
  ("MessageDeviceOpWrite", [("all", "ardupilotmega", 11002), ("ardupilotmega", "ardupilotmega", 11002), ("storm32", "ardupilotmega", 11002)]),
  ("MessageDeviceOpWriteReply", [("all", "ardupilotmega", 11003), ("ardupilotmega", "ardupilotmega", 11003), ("storm32", "ardupilotmega", 11003)]),
  ("MessageDigicamConfigure", [("all", "ardupilotmega", 154), ("ardupilotmega", "ardupilotmega", 154), ("storm32", "ardupilotmega", 154)]),
  ("MessageDigicamControl", [("all", "ardupilotmega", 155), ("ardupilotmega", "ardupilotmega", 155), ("storm32", "ardupilotmega", 155)]),
  ("MessageDistanceSensor", [("all", "common", 132), ("ardupilotmega", "common", 132), ("asluav", "common", 132), ("avssuas", "common", 132), ("common", "common", 132), ("cubepilot", "common", 132), ("development", "common", 132), ("matrixpilot", "common", 132), ("paparazzi", "common", 132), ("pythonarraytest", "common", 132), ("storm32", "common", 132), ("ualberta", "common", 132), ("uavionix", "common", 132)]),
  ("MessageEfiStatus", [("all", "common", 225), ("ardupilotmega", "common", 225), ("asluav", "common", 225), ("avssuas", "common", 225), ("common", "common", 225), ("cubepilot", "common", 225), ("development", "common", 225), ("matrixpilot", "common", 225), ("paparazzi", "common", 225), ("pythonarraytest", "common", 225), ("storm32", "common", 225), ("ualberta", "common", 225), ("uavionix", "common", 225)]),
  ("MessageEkfExt", [("all", "asluav", 8007), ("asluav", "asluav", 8007)]),
  ("MessageEkfStatusReport", [("all", "ardupilotmega", 193), ("ardupilotmega", "ardupilotmega", 193), ("storm32", "ardupilotmega", 193)]),
  ("MessageEncapsulatedData", [("all", "common", 131), ("ardupilotmega", "common", 131), ("asluav", "common", 131), ("avssuas", "common", 131), ("common", "common", 131), ("cubepilot", "common", 131), ("development", "common", 131), ("matrixpilot", "common", 131), ("paparazzi", "common", 131), ("pythonarraytest", "common", 131), ("storm32", "common", 131), ("ualberta", "common", 131), ("uavionix", "common", 131)]),
  ("MessageEscInfo", [("all", "common", 290), ("ardupilotmega", "common", 290), ("asluav", "common", 290), ("avssuas", "common", 290), ("common", "common", 290), ("cubepilot", "common", 290), ("development", "common", 290), ("matrixpilot", "common", 290), ("paparazzi", "common", 290), ("pythonarraytest", "common", 290), ("storm32", "common", 290), ("ualberta", "common", 290), ("uavionix", "common", 290)]),
  ("MessageEscStatus", [("all", "common", 291), ("ardupilotmega", "common", 291), ("asluav", "common", 291), ("avssuas", "common", 291), ("common", "common", 291), ("cubepilot", "common", 291), ("development", "common", 291), ("matrixpilot", "common", 291), ("paparazzi", "common", 291), ("pythonarraytest", "common", 291), ("storm32", "common", 291), ("ualberta", "common", 291), ("uavionix", "common", 291)]),
  ("MessageEscTelemetry_13To_16", [("all", "ardupilotmega", 11040), ("ardupilotmega", "ardupilotmega", 11040), ("storm32", "ardupilotmega", 11040)]),
  ("MessageEscTelemetry_17To_20", [("all", "ardupilotmega", 11041), ("ardupilotmega", "ardupilotmega", 11041), ("storm32", "ardupilotmega", 11041)]),
  ("MessageEscTelemetry_1To_4", [("all", "ardupilotmega", 11030), ("ardupilotmega", "ardupilotmega", 11030), ("storm32", "ardupilotmega", 11030)]),
  ("MessageEscTelemetry_21To_24", [("all", "ardupilotmega", 11042), ("ardupilotmega", "ardupilotmega", 11042), ("storm32", "ardupilotmega", 11042)]),
  ("MessageEscTelemetry_25To_28", [("all", "ardupilotmega", 11043), ("ardupilotmega", "ardupilotmega", 11043), ("storm32", "ardupilotmega", 11043)]),
  ("MessageEscTelemetry_29To_32", [("all", "ardupilotmega", 11044), ("ardupilotmega", "ardupilotmega", 11044), ("storm32", "ardupilotmega", 11044)]),
  ("MessageEscTelemetry_5To_8", [("all", "ardupilotmega", 11031), ("ardupilotmega", "ardupilotmega", 11031), ("storm32", "ardupilotmega", 11031)]),
  ("MessageEscTelemetry_9To_12", [("all", "ardupilotmega", 11032), ("ardupilotmega", "ardupilotmega", 11032), ("storm32", "ardupilotmega", 11032)])]

def msgGroups_2 : List (String × List (String × String × Nat)) := [
  ("MessageEstimatorStatus", [("all", "common", 230), ("ardupilotmega", "common", 230), ("asluav", "common", 230), ("avssuas", "common", 230), ("common", "common", 230), ("cubepilot", "common", 230), ("development", "common", 230), ("matrixpilot", "common", 230), ("paparazzi", "common", 230), ("pythonarraytest", "common", 230), ("storm32", "common", 230), ("ualberta", "common", 230), ("uavionix", "common", 230)]),
  ("MessageEvent", [("all", "common", 410), ("ardupilotmega", "common", 410), ("asluav", "common", 410), ("avssuas", "common", 410), ("common", "common", 410), ("cubepilot", "common", 410), ("development", "common", 410), ("matrixpilot", "common", 410), ("paparazzi", "common", 410), ("pythonarraytest", "common", 410), ("storm32", "common", 410), ("ualberta", "common", 410), ("uavionix", "common", 410)]),
  ("MessageExtendedSysState", [("all", "common", 245), ("ardupilotmega", "common", 245), ("asluav", "common", 245), ("avssuas", "common", 245), ("common", "common", 245), ("cubepilot", "common", 245), ("development", "common", 245), ("matrixpilot", "common", 245), ("paparazzi", "common", 245), ("pythonarraytest", "common", 245), ("storm32", "common", 245), ("ualberta", "common", 245), ("uavionix", "common", 245)]),
  ("MessageFenceFetchPoint", [("all", "ardupilotmega", 161), ("ardupilotmega", "ardupilotmega", 161), ("storm32", "ardupilotmega", 161)]),
  ("MessageFencePoint", [("all", "ardupilotmega", 160), ("ardupilotmega", "ardupilotmega", 160), ("storm32", "ardupilotmega", 160)]),
  ("MessageFenceStatus", [("all", "common", 162), ("ardupilotmega", "common", 162), ("asluav", "common", 162), ("avssuas", "common", 162), ("common", "common", 162), ("cubepilot", "common", 162), ("development", "common", 162), ("matrixpilot", "common", 162), ("paparazzi", "common", 162), ("pythonarraytest", "common", 162), ("storm32", "common", 162), ("ualberta", "common", 162), ("uavionix", "common", 162)]),
  ("MessageFigureEightExecutionStatus", [("all", "development", 361), ("development", "development", 361)]),
  ("MessageFileTransferProtocol", [("all", "common", 110), ("ardupilotmega", "common", 110), ("asluav", "common", 110), ("avssuas", "common", 110), ("common", "common", 110), ("cubepilot", "common", 110), ("development", "common", 110), ("matrixpilot", "common", 110), ("paparazzi", "common", 110), ("pythonarraytest", "common", 110), ("storm32", "common", 110), ("ualberta", "common", 110), ("uavionix", "common", 110)]),
  ("MessageFlexifunctionBufferFunction", [("matrixpilot", "matrixpilot", 152)]),
  ("MessageFlexifunctionBufferFunctionAck", [("matrixpilot", "matrixpilot", 153)]),
  ("MessageFlexifunctionCommand", [("matrixpilot", "matrixpilot", 157)]),
  ("MessageFlexifunctionCommandAck", [("matrixpilot", "matrixpilot", 158)]),
  ("MessageFlexifunctionDirectory", [("matrixpilot", "matrixpilot", 155)]),
  ("MessageFlexifunctionDirectoryAck", [("matrixpilot", "matrixpilot", 156)]),
  ("MessageFlexifunctionReadReq", [("matrixpilot", "matrixpilot", 151)]),
  ("MessageFlexifunctionSet", [("matrixpilot", "matrixpilot", 150)]),
  ("MessageFlightInformation", [("all", "common", 264), ("ardupilotmega", "common", 264), ("asluav", "common", 264), ("avssuas", "common", 264), ("common", "common", 264), ("cubepilot", "common", 264), ("development", "common", 264), ("matrixpilot", "common", 264), ("paparazzi", "common", 264), ("pythonarraytest", "common", 264), ("storm32", "common", 264), ("ualberta", "common", 264), ("uavionix", "common", 264)]),
  ("MessageFollowTarget", [("all", "common", 144), ("ardupilotmega", "common", 144), ("asluav", "common", 144), ("avssuas", "common", 144), ("common", "common", 144), ("cubepilot", "common", 144), ("development", "common", 144), ("matrixpilot", "common", 144), ("paparazzi", "common", 144), ("pythonarraytest", "common", 144), ("storm32", "common", 144), ("ualberta", "common", 144), ("uavionix", "common", 144)]),
  ("MessageFrskyPassthroughArray", [("all", "storm32", 60040), ("storm32", "storm32", 60040)]),
  ("MessageFuelStatus", [("all", "common", 371), ("ardupilotmega", "common", 371), ("asluav", "common", 371), ("avssuas", "common", 371), ("common", "common", 371), ("cubepilot", "common", 371), ("development", "common", 371), ("matrixpilot", "common", 371), ("paparazzi", "common", 371), ("pythonarraytest", "common", 371), ("storm32", "common", 371), ("ualberta", "common", 371), ("uavionix", "common", 371)]),
  ("MessageFwSoaringData", [("all", "asluav", 8011), ("asluav", "asluav", 8011)]),
  ("MessageGeneratorStatus", [("all", "common", 373), ("ardupilotmega", "common", 373), ("asluav", "common", 373), ("avssuas", "common", 373), ("common", "common", 373), ("cubepilot", "common", 373), ("development", "common", 373), ("matrixpilot", "common", 373), ("paparazzi", "common", 373), ("pythonarraytest", "common", 373), ("storm32", "common", 373), ("ualberta", "common", 373), ("uavionix", "common", 373)]),
  ("MessageGimbalControl", [("all", "ardupilotmega", 201), ("ardupilotmega", "ardupilotmega", 201), ("storm32", "ardupilotmega", 201)]),
  ("MessageGimbalDeviceAttitudeStatus", [("all", "common", 285), ("ardupilotmega", "common", 285), ("asluav", "common", 285), ("avssuas", "common", 285), ("common", "common", 285), ("cubepilot", "common", 285), ("development", "common", 285), ("matrixpilot", "common", 285), ("paparazzi", "common", 285), ("pythonarraytest", "common", 285), ("storm32", "common", 285), ("ualberta", "common", 285), ("uavionix", "common", 285)]),
  ("MessageGimbalDeviceInformation", [("all", "common", 283), ("ardupilotmega", "common", 283), ("asluav", "common", 283), ("avssuas", "common", 283), ("common", "common", 283), ("cubepilot", "common", 283), ("development", "common", 283), ("matrixpilot", "common", 283), ("paparazzi", "common", 283), ("pythonarraytest", "common", 283), ("storm32", "common", 283), ("ualberta", "common", 283), ("uavionix", "common", 283)]),
  ("MessageGimbalDeviceSetAttitude", [("all", "common", 284), ("ardupilotmega", "common", 284), ("asluav", "common", 284), ("avssuas", "common", 284), ("common", "common", 284), ("cubepilot", "common", 284), ("development", "common", 284), ("matrixpilot", "common", 284), ("paparazzi", "common", 284), ("pythonarraytest", "common", 284), ("storm32", "common", 284), ("ualberta", "common", 284), ("uavionix", "common", 284)]),
  ("MessageGimbalManagerInformation", [("all", "common", 280), ("ardupilotmega", "common", 280), ("asluav", "common", 280), ("avssuas", "common", 280), ("common", "common", 280), ("cubepilot", "common", 280), ("development", "common", 280), ("matrixpilot", "common", 280), ("paparazzi", "common", 280), ("pythonarraytest", "common", 280), ("storm32", "common", 280), ("ualberta", "common", 280), ("uavionix", "common", 280)]),
  ("MessageGimbalManagerSetAttitude", [("all", "common", 282), ("ardupilotmega", "common", 282), ("asluav", "common", 282), ("avssuas", "common", 282), ("common", "common", 282), ("cubepilot", "common", 282), ("development", "common", 282), ("matrixpilot", "common", 282), ("paparazzi", "common", 282), ("pythonarraytest", "common", 282), ("storm32", "common", 282), ("ualberta", "common", 282), ("uavionix", "common", 282)]),
  ("MessageGimbalManagerSetManualControl", [("all", "common", 288), ("ardupilotmega", "common", 288), ("asluav", "common", 288), ("avssuas", "common", 288), ("common", "common", 288), ("cubepilot", "common", 288), ("development", "common", 288), ("matrixpilot", "common", 288), ("paparazzi", "common", 288), ("pythonarraytest", "common", 288), ("storm32", "common", 288), ("ualberta", "common", 288), ("uavionix", "common", 288)]),
  ("MessageGimbalManagerSetPitchyaw", [("all", "common", 287), ("ardupilotmega", "common", 287), ("asluav", "common", 287), ("avssuas", "common", 287), ("common", "common", 287), ("cubepilot", "common", 287), ("development", "common", 287), ("matrixpilot", "common", 287), ("paparazzi", "common", 287), ("pythonarraytest", "common", 287), ("storm32", "common", 287), ("ualberta", "common", 287), ("uavionix", "common", 287)]),
  ("MessageGimbalManagerStatus", [("all", "common", 281), ("ardupilotmega", "common", 281), ("asluav", "common", 281), ("avssuas", "common", 281), ("common", "common", 281), ("cubepilot", "common", 281), ("development", "common", 281), ("matrixpilot", "common", 281), ("paparazzi", "common", 281), ("pythonarraytest", "common", 281), ("storm32", "common", 281), ("ualberta", "common", 281), ("uavionix", "common", 281)]),
  ("MessageGimbalReport", [("all", "ardupilotmega", 200), ("ardupilotmega", "ardupilotmega", 200), ("storm32", "ardupilotmega", 200)]),
  ("MessageGimbalTorqueCmdReport", [("all", "ardupilotmega", 214), ("ardupilotmega", "ardupilotmega", 214), ("storm32", "ardupilotmega", 214)]),
  ("MessageGlobalPositionInt", [("all", "common", 33), ("ardupilotmega", "common", 33), ("asluav", "common", 33), ("avssuas", "common", 33), ("common", "common", 33), ("cubepilot", "common", 33), ("development", "common", 33), ("matrixpilot", "common", 33), ("paparazzi", "common", 33), ("pythonarraytest", "common", 33), ("storm32", "common", 33), ("ualberta", "common", 33), ("uavionix", "common", 33)]),
  ("MessageGlobalPositionIntCov", [("all", "common", 63), ("ardupilotmega", "common", 63), ("asluav", "common", 63), ("avssuas", "common", 63), ("common", "common", 63), ("cubepilot", "common", 63), ("development", "common", 63), ("matrixpilot", "common", 63), ("paparazzi", "common", 63), ("pythonarraytest", "common", 63), ("storm32", "common", 63), ("ualberta", "common", 63), ("uavionix", "common", 63)]),
  ("MessageGlobalVisionPositionEstimate", [("all", "common", 101), ("ardupilotmega", "common", 101), ("asluav", "common", 101), ("avssuas", "common", 101), ("common", "common", 101), ("cubepilot", "common", 101), ("development", "common", 101), ("matrixpilot", "common", 101), ("paparazzi", "common", 101), ("pythonarraytest", "common", 101), ("storm32", "common", 101), ("ualberta", "common", 101), ("uavionix", "common", 101)]),
  ("MessageGnssIntegrity", [("all", "development", 441), ("development", "development", 441)]),
  ("MessageGoproGetRequest", [("all", "ardupilotmega", 216), ("ardupilotmega", "ardupilotmega", 216), ("storm32", "ardupilotmega", 216)]),
  ("MessageGoproGetResponse", [("all", "ardupilotmega", 217), ("ardupilotmega", "ardupilotmega", 217), ("storm32", "ardupilotmega", 217)]),
  ("MessageGoproHeartbeat", [("all", "ardupilotmega", 215), ("ardupilotmega", "ardupilotmega", 215), ("storm32", "ardupilotmega", 215)]),
  ("MessageGoproSetRequest", [("all", "ardupilotmega", 218), ("ardupilotmega", "ardupilotmega", 218), ("storm32", "ardupilotmega", 218)]),
  ("MessageGoproSetResponse", [("all", "ardupilotmega", 219), ("ardupilotmega", "ardupilotmega", 219), ("storm32", "ardupilotmega", 219)]),
  ("MessageGps2Raw", [("all", "common", 124), ("ardupilotmega", "common", 124), ("asluav", "common", 124), ("avssuas", "common", 124), ("common", "common", 124), ("cubepilot", "common", 124), ("development", "common", 124), ("matrixpilot", "common", 124), ("paparazzi", "common", 124), ("pythonarraytest", "common", 124), ("storm32", "common", 124), ("ualberta", "common", 124), ("uavionix", "common", 124)]),
  ("MessageGps2Rtk", [("all", "common", 128), ("ardupilotmega", "common", 128), ("asluav", "common", 128), ("avssuas", "common", 128), ("common", "common", 128), ("cubepilot", "common", 128), ("development", "common", 128), ("matrixpilot", "common", 128), ("paparazzi", "common", 128), ("pythonarraytest", "common", 128), ("storm32", "common", 128), ("ualberta", "common", 128), ("uavionix", "common", 128)]),
  ("MessageGpsGlobalOrigin", [("all", "common", 49), ("ardupilotmega", "common", 49), ("asluav", "common", 49), ("avssuas", "common", 49), ("common", "common", 49), ("cubepilot", "common", 49), ("development", "common", 49), ("matrixpilot", "common", 49), ("paparazzi", "common", 49), ("pythonarraytest", "common", 49), ("storm32", "common", 49), ("ualberta", "common", 49), ("uavionix", "common", 49)]),
  ("MessageGpsInjectData", [("all", "common", 123), ("ardupilotmega", "common", 123), ("asluav", "common", 123), ("avssuas", "common", 123), ("common", "common", 123), ("cubepilot", "common", 123), ("development", "common", 123), ("matrixpilot", "common", 123), ("paparazzi", "common", 123), ("pythonarraytest", "common", 123), ("storm32", "common", 123), ("ualberta", "common", 123), ("uavionix", "common", 123)]),
  ("MessageGpsInput", [("all", "common", 232), ("ardupilotmega", "common", 232), ("asluav", "common", 232), ("avssuas", "common", 232), ("common", "common", 232), ("cubepilot", "common", 232), ("development", "common", 232), ("matrixpilot", "common", 232), ("paparazzi", "common", 232), ("pythonarraytest", "common", 232), ("storm32", "common", 232), ("ualberta", "common", 232), ("uavionix", "common", 232)]),
  ("MessageGpsRawInt", [("all", "common", 24), ("ardupilotmega", "common", 24), ("asluav", "common", 24), ("avssuas", "common", 24), ("common", "common", 24), ("cubepilot", "common", 24), ("development", "common", 24), ("matrixpilot", "common", 24), ("paparazzi", "common", 24), ("pythonarraytest", "common", 24), ("storm32", "common", 24), ("ualberta", "common", 24), ("uavionix", "common", 24)]),
  ("MessageGpsRtcmData", [("all", "common", 233), ("ardupilotmega", "common", 233), ("asluav", "common", 233), ("avssuas", "common", 233), ("common", "common", 233), ("cubepilot", "common", 233), ("development", "common", 233), ("matrixpilot", "common", 233), ("paparazzi", "common", 233), ("pythonarraytest", "common", 233), ("storm32", "common", 233), ("ualberta", "common", 233), ("uavionix", "common", 233)]),
  ("MessageGpsRtk", [("all", "common", 127), ("ardupilotmega", "common", 127), ("asluav", "common", 127), ("avssuas", "common", 127), ("common", "common", 127), ("cubepilot", "common", 127), ("development", "common", 127), ("matrixpilot", "common", 127), ("paparazzi", "common", 127), ("pythonarraytest", "common", 127), ("storm32", "common", 127), ("ualberta", "common", 127), ("uavionix", "common", 127)]),
  ("MessageGpsStatus", [("all", "common", 25), ("ardupilotmega", "common", 25), ("asluav", "common", 25), ("avssuas", "common", 25), ("common", "common", 25), ("cubepilot", "common", 25), ("development", "common", 25), ("matrixpilot", "common", 25), ("paparazzi", "common", 25), ("pythonarraytest", "common", 25), ("storm32", "common", 25), ("ualberta", "common", 25), ("uavionix", "common", 25)]),
  ("MessageGroupEnd", [("all", "development", 415), ("development", "development", 415)]),
  ("MessageGroupStart", [("all", "development", 414), ("development", "development", 414)]),
  ("MessageGsmLinkStatus", [("all", "asluav", 8014), ("asluav", "asluav", 8014)]),
  ("MessageHeartbeat", [("all", "minimal", 0), ("ardupilotmega", "minimal", 0), ("asluav", "minimal", 0), ("avssuas", "minimal", 0), ("common", "minimal", 0), ("cubepilot", "minimal", 0), ("development", "minimal", 0), ("loweheiser", "minimal", 0), ("matrixpilot", "minimal", 0), ("minimal", "minimal", 0), ("paparazzi", "minimal", 0), ("pythonarraytest", "minimal", 0), ("standard", "minimal", 0), ("storm32", "minimal", 0), ("ualberta", "minimal", 0), ("uavionix", "minimal", 0)]),
  ("MessageHerelinkTelem", [("all", "cubepilot", 50003), ("ardupilotmega", "cubepilot", 50003), ("cubepilot", "cubepilot", 50003), ("storm32", "cubepilot", 50003)]),
  ("MessageHerelinkVideoStreamInformation", [("all", "cubepilot", 50002), ("ardupilotmega", "cubepilot", 50002), ("cubepilot", "cubepilot", 50002), ("storm32", "cubepilot", 50002)]),
  ("MessageHighLatency", [("all", "common", 234), ("ardupilotmega", "common", 234), ("asluav", "common", 234), ("avssuas", "common", 234), ("common", "common", 234), ("cubepilot", "common", 234), ("development", "common", 234), ("matrixpilot", "common", 234), ("paparazzi", "common", 234), ("pythonarraytest", "common", 234), ("storm32", "common", 234), ("ualberta", "common", 234), ("uavionix", "common", 234)]),
  ("MessageHighLatency2", [("all", "common", 235), ("ardupilotmega", "common", 235), ("asluav", "common", 235), ("avssuas", "common", 235), ("common", "common", 235), ("cubepilot", "common", 235), ("development", "common", 235), ("matrixpilot", "common", 235), ("paparazzi", "common", 235), ("pythonarraytest", "common", 235), ("storm32", "common", 235), ("ualberta", "common", 235), ("uavionix", "common", 235)]),
  ("MessageHighresImu", [("all", "common", 105), ("ardupilotmega", "common", 105), ("asluav", "common", 105), ("avssuas", "common", 105), ("common", "common", 105), ("cubepilot", "common", 105), ("development", "common", 105), ("matrixpilot", "common", 105), ("paparazzi", "common", 105), ("pythonarraytest", "common", 105), ("storm32", "common", 105), ("ualberta", "common", 105), ("uavionix", "common", 105)])]

def msgGroups_3 : List (String × List (String × String × Nat)) := [
  ("MessageHilActuatorControls", [("all", "common", 93), ("ardupilotmega", "common", 93), ("asluav", "common", 93), ("avssuas", "common", 93), ("common", "common", 93), ("cubepilot", "common", 93), ("development", "common", 93), ("matrixpilot", "common", 93), ("paparazzi", "common", 93), ("pythonarraytest", "common", 93), ("storm32", "common", 93), ("ualberta", "common", 93), ("uavionix", "common", 93)]),
  ("MessageHilControls", [("all", "common", 91), ("ardupilotmega", "common", 91), ("asluav", "common", 91), ("avssuas", "common", 91), ("common", "common", 91), ("cubepilot", "common", 91), ("development", "common", 91), ("matrixpilot", "common", 91), ("paparazzi", "common", 91), ("pythonarraytest", "common", 91), ("storm32", "common", 91), ("ualberta", "common", 91), ("uavionix", "common", 91)]),
  ("MessageHilGps", [("all", "common", 113), ("ardupilotmega", "common", 113), ("asluav", "common", 113), ("avssuas", "common", 113), ("common", "common", 113), ("cubepilot", "common", 113), ("development", "common", 113), ("matrixpilot", "common", 113), ("paparazzi", "common", 113), ("pythonarraytest", "common", 113), ("storm32", "common", 113), ("ualberta", "common", 113), ("uavionix", "common", 113)]),
  ("MessageHilOpticalFlow", [("all", "common", 114), ("ardupilotmega", "common", 114), ("asluav", "common", 114), ("avssuas", "common", 114), ("common", "common", 114), ("cubepilot", "common", 114), ("development", "common", 114), ("matrixpilot", "common", 114), ("paparazzi", "common", 114), ("pythonarraytest", "common", 114), ("storm32", "common", 114), ("ualberta", "common", 114), ("uavionix", "common", 114)]),
  ("MessageHilRcInputsRaw", [("all", "common", 92), ("ardupilotmega", "common", 92), ("asluav", "common", 92), ("avssuas", "common", 92), ("common", "common", 92), ("cubepilot", "common", 92), ("development", "common", 92), ("matrixpilot", "common", 92), ("paparazzi", "common", 92), ("pythonarraytest", "common", 92), ("storm32", "common", 92), ("ualberta", "common", 92), ("uavionix", "common", 92)]),
  ("MessageHilSensor", [("all", "common", 107), ("ardupilotmega", "common", 107), ("asluav", "common", 107), ("avssuas", "common", 107), ("common", "common", 107), ("cubepilot", "common", 107), ("development", "common", 107), ("matrixpilot", "common", 107), ("paparazzi", "common", 107), ("pythonarraytest", "common", 107), ("storm32", "common", 107), ("ualberta", "common", 107), ("uavionix", "common", 107)]),
  ("MessageHilState", [("all", "common", 90), ("ardupilotmega", "common", 90), ("asluav", "common", 90), ("avssuas", "common", 90), ("common", "common", 90), ("cubepilot", "common", 90), ("development", "common", 90), ("matrixpilot", "common", 90), ("paparazzi", "common", 90), ("pythonarraytest", "common", 90), ("storm32", "common", 90), ("ualberta", "common", 90), ("uavionix", "common", 90)]),
  ("MessageHilStateQuaternion", [("all", "common", 115), ("ardupilotmega", "common", 115), ("asluav", "common", 115), ("avssuas", "common", 115), ("common", "common", 115), ("cubepilot", "common", 115), ("development", "common", 115), ("matrixpilot", "common", 115), ("paparazzi", "common", 115), ("pythonarraytest", "common", 115), ("storm32", "common", 115), ("ualberta", "common", 115), ("uavionix", "common", 115)]),
  ("MessageHomePosition", [("all", "common", 242), ("ardupilotmega", "common", 242), ("asluav", "common", 242), ("avssuas", "common", 242), ("common", "common", 242), ("cubepilot", "common", 242), ("development", "common", 242), ("matrixpilot", "common", 242), ("paparazzi", "common", 242), ("pythonarraytest", "common", 242), ("storm32", "common", 242), ("ualberta", "common", 242), ("uavionix", "common", 242)]),
  ("MessageHwstatus", [("all", "ardupilotmega", 165), ("ardupilotmega", "ardupilotmega", 165), ("storm32", "ardupilotmega", 165)]),
  ("MessageHygrometerSensor", [("all", "common", 12920), ("ardupilotmega", "common", 12920), ("asluav", "common", 12920), ("avssuas", "common", 12920), ("common", "common", 12920), ("cubepilot", "common", 12920), ("development", "common", 12920), ("matrixpilot", "common", 12920), ("paparazzi", "common", 12920), ("pythonarraytest", "common", 12920), ("storm32", "common", 12920), ("ualberta", "common", 12920), ("uavionix", "common", 12920)]),
  ("MessageIcarousHeartbeat", [("all", "icarous", 42000), ("ardupilotmega", "icarous", 42000), ("icarous", "icarous", 42000), ("storm32", "icarous", 42000)]),
  ("MessageIcarousKinematicBands", [("all", "icarous", 42001), ("ardupilotmega", "icarous", 42001), ("icarous", "icarous", 42001), ("storm32", "icarous", 42001)]),
  ("MessageIlluminatorStatus", [("all", "common", 440), ("ardupilotmega", "common", 440), ("asluav", "common", 440), ("avssuas", "common", 440), ("common", "common", 440), ("cubepilot", "common", 440), ("development", "common", 440), ("matrixpilot", "common", 440), ("paparazzi", "common", 440), ("pythonarraytest", "common", 440), ("storm32", "common", 440), ("ualberta", "common", 440), ("uavionix", "common", 440)]),
  ("MessageIsbdLinkStatus", [("all", "common", 335), ("ardupilotmega", "common", 335), ("asluav", "common", 335), ("avssuas", "common", 335), ("common", "common", 335), ("cubepilot", "common", 335), ("development", "common", 335), ("matrixpilot", "common", 335), ("paparazzi", "common", 335), ("pythonarraytest", "common", 335), ("storm32", "common", 335), ("ualberta", "common", 335), ("uavionix", "common", 335)]),
  ("MessageLandingTarget", [("all", "common", 149), ("ardupilotmega", "common", 149), ("asluav", "common", 149), ("avssuas", "common", 149), ("common", "common", 149), ("cubepilot", "common", 149), ("development", "common", 149), ("matrixpilot", "common", 149), ("paparazzi", "common", 149), ("pythonarraytest", "common", 149), ("storm32", "common", 149), ("ualberta", "common", 149), ("uavionix", "common", 149)]),
  ("MessageLedControl", [("all", "ardupilotmega", 186), ("ardupilotmega", "ardupilotmega", 186), ("storm32", "ardupilotmega", 186)]),
  ("MessageLimitsStatus", [("all", "ardupilotmega", 167), ("ardupilotmega", "ardupilotmega", 167), ("storm32", "ardupilotmega", 167)]),
  ("MessageLinkNodeStatus", [("all", "common", 8), ("ardupilotmega", "common", 8), ("asluav", "common", 8), ("avssuas", "common", 8), ("common", "common", 8), ("cubepilot", "common", 8), ("development", "common", 8), ("matrixpilot", "common", 8), ("paparazzi", "common", 8), ("pythonarraytest", "common", 8), ("storm32", "common", 8), ("ualberta", "common", 8), ("uavionix", "common", 8)]),
  ("MessageLocalPositionNed", [("all", "common", 32), ("ardupilotmega", "common", 32), ("asluav", "common", 32), ("avssuas", "common", 32), ("common", "common", 32), ("cubepilot", "common", 32), ("development", "common", 32), ("matrixpilot", "common", 32), ("paparazzi", "common", 32), ("pythonarraytest", "common", 32), ("storm32", "common", 32), ("ualberta", "common", 32), ("uavionix", "common", 32)]),
  ("MessageLocalPositionNedCov", [("all", "common", 64), ("ardupilotmega", "common", 64), ("asluav", "common", 64), ("avssuas", "common", 64), ("common", "common", 64), ("cubepilot", "common", 64), ("development", "common", 64), ("matrixpilot", "common", 64), ("paparazzi", "common", 64), ("pythonarraytest", "common", 64), ("storm32", "common", 64), ("ualberta", "common", 64), ("uavionix", "common", 64)]),
  ("MessageLocalPositionNedSystemGlobalOffset", [("all", "common", 89), ("ardupilotmega", "common", 89), ("asluav", "common", 89), ("avssuas", "common", 89), ("common", "common", 89), ("cubepilot", "common", 89), ("development", "common", 89), ("matrixpilot", "common", 89), ("paparazzi", "common", 89), ("pythonarraytest", "common", 89), ("storm32", "common", 89), ("ualberta", "common", 89), ("uavionix", "common", 89)]),
  ("MessageLogData", [("all", "common", 120), ("ardupilotmega", "common", 120), ("asluav", "common", 120), ("avssuas", "common", 120), ("common", "common", 120), ("cubepilot", "common", 120), ("development", "common", 120), ("matrixpilot", "common", 120), ("paparazzi", "common", 120), ("pythonarraytest", "common", 120), ("storm32", "common", 120), ("ualberta", "common", 120), ("uavionix", "common", 120)]),
  ("MessageLogEntry", [("all", "common", 118), ("ardupilotmega", "common", 118), ("asluav", "common", 118), ("avssuas", "common", 118), ("common", "common", 118), ("cubepilot", "common", 118), ("development", "common", 118), ("matrixpilot", "common", 118), ("paparazzi", "common", 118), ("pythonarraytest", "common", 118), ("storm32", "common", 118), ("ualberta", "common", 118), ("uavionix", "common", 118)]),
  ("MessageLogErase", [("all", "common", 121), ("ardupilotmega", "common", 121), ("asluav", "common", 121), ("avssuas", "common", 121), ("common", "common", 121), ("cubepilot", "common", 121), ("development", "common", 121), ("matrixpilot", "common", 121), ("paparazzi", "common", 121), ("pythonarraytest", "common", 121), ("storm32", "common", 121), ("ualberta", "common", 121), ("uavionix", "common", 121)]),
  ("MessageLogRequestData", [("all", "common", 119), ("ardupilotmega", "common", 119), ("asluav", "common", 119), ("avssuas", "common", 119), ("common", "common", 119), ("cubepilot", "common", 119), ("development", "common", 119), ("matrixpilot", "common", 119), ("paparazzi", "common", 119), ("pythonarraytest", "common", 119), ("storm32", "common", 119), ("ualberta", "common", 119), ("uavionix", "common", 119)]),
  ("MessageLogRequestEnd", [("all", "common", 122), ("ardupilotmega", "common", 122), ("asluav", "common", 122), ("avssuas", "common", 122), ("common", "common", 122), ("cubepilot", "common", 122), ("development", "common", 122), ("matrixpilot", "common", 122), ("paparazzi", "common", 122), ("pythonarraytest", "common", 122), ("storm32", "common", 122), ("ualberta", "common", 122), ("uavionix", "common", 122)]),
  ("MessageLogRequestList", [("all", "common", 117), ("ardupilotmega", "common", 117), ("asluav", "common", 117), ("avssuas", "common", 117), ("common", "common", 117), ("cubepilot", "common", 117), ("development", "common", 117), ("matrixpilot", "common", 117), ("paparazzi", "common", 117), ("pythonarraytest", "common", 117), ("storm32", "common", 117), ("ualberta", "common", 117), ("uavionix", "common", 117)]),
  ("MessageLoggingAck", [("all", "common", 268), ("ardupilotmega", "common", 268), ("asluav", "common", 268), ("avssuas", "common", 268), ("common", "common", 268), ("cubepilot", "common", 268), ("development", "common", 268), ("matrixpilot", "common", 268), ("paparazzi", "common", 268), ("pythonarraytest", "common", 268), ("storm32", "common", 268), ("ualberta", "common", 268), ("uavionix", "common", 268)]),
  ("MessageLoggingData", [("all", "common", 266), ("ardupilotmega", "common", 266), ("asluav", "common", 266), ("avssuas", "common", 266), ("common", "common", 266), ("cubepilot", "common", 266), ("development", "common", 266), ("matrixpilot", "common", 266), ("paparazzi", "common", 266), ("pythonarraytest", "common", 266), ("storm32", "common", 266), ("ualberta", "common", 266), ("uavionix", "common", 266)]),
  ("MessageLoggingDataAcked", [("all", "common", 267), ("ardupilotmega", "common", 267), ("asluav", "common", 267), ("avssuas", "common", 267), ("common", "common", 267), ("cubepilot", "common", 267), ("development", "common", 267), ("matrixpilot", "common", 267), ("paparazzi", "common", 267), ("pythonarraytest", "common", 267), ("storm32", "common", 267), ("ualberta", "common", 267), ("uavionix", "common", 267)]),
  ("MessageLoweheiserGovEfi", [("all", "loweheiser", 10151), ("ardupilotmega", "loweheiser", 10151), ("loweheiser", "loweheiser", 10151), ("storm32", "loweheiser", 10151)]),
  ("MessageMagCalProgress", [("all", "ardupilotmega", 191), ("ardupilotmega", "ardupilotmega", 191), ("storm32", "ardupilotmega", 191)]),
  ("MessageMagCalReport", [("all", "common", 192), ("ardupilotmega", "common", 192), ("asluav", "common", 192), ("avssuas", "common", 192), ("common", "common", 192), ("cubepilot", "common", 192), ("development", "common", 192), ("matrixpilot", "common", 192), ("paparazzi", "common", 192), ("pythonarraytest", "common", 192), ("storm32", "common", 192), ("ualberta", "common", 192), ("uavionix", "common", 192)]),
  ("MessageManualControl", [("all", "common", 69), ("ardupilotmega", "common", 69), ("asluav", "common", 69), ("avssuas", "common", 69), ("common", "common", 69), ("cubepilot", "common", 69), ("development", "common", 69), ("matrixpilot", "common", 69), ("paparazzi", "common", 69), ("pythonarraytest", "common", 69), ("storm32", "common", 69), ("ualberta", "common", 69), ("uavionix", "common", 69)]),
  ("MessageManualSetpoint", [("all", "common", 81), ("ardupilotmega", "common", 81), ("asluav", "common", 81), ("avssuas", "common", 81), ("common", "common", 81), ("cubepilot", "common", 81), ("development", "common", 81), ("matrixpilot", "common", 81), ("paparazzi", "common", 81), ("pythonarraytest", "common", 81), ("storm32", "common", 81), ("ualberta", "common", 81), ("uavionix", "common", 81)]),
  ("MessageMcuStatus", [("all", "ardupilotmega", 11039), ("ardupilotmega", "ardupilotmega", 11039), ("storm32", "ardupilotmega", 11039)]),
  ("MessageMeminfo", [("all", "ardupilotmega", 152), ("ardupilotmega", "ardupilotmega", 152), ("storm32", "ardupilotmega", 152)]),
  ("MessageMemoryVect", [("all", "common", 249), ("ardupilotmega", "common", 249), ("asluav", "common", 249), ("avssuas", "common", 249), ("common", "common", 249), ("cubepilot", "common", 249), ("development", "common", 249), ("matrixpilot", "common", 249), ("paparazzi", "common", 249), ("pythonarraytest", "common", 249), ("storm32", "common", 249), ("ualberta", "common", 249), ("uavionix", "common", 249)]),
  ("MessageMessageInterval", [("all", "common", 244), ("ardupilotmega", "common", 244), ("asluav", "common", 244), ("avssuas", "common", 244), ("common", "common", 244), ("cubepilot", "common", 244), ("development", "common", 244), ("matrixpilot", "common", 244), ("paparazzi", "common", 244), ("pythonarraytest", "common", 244), ("storm32", "common", 244), ("ualberta", "common", 244), ("uavionix", "common", 244)]),
  ("MessageMissionAck", [("all", "common", 47), ("ardupilotmega", "common", 47), ("asluav", "common", 47), ("avssuas", "common", 47), ("common", "common", 47), ("cubepilot", "common", 47), ("development", "common", 47), ("matrixpilot", "common", 47), ("paparazzi", "common", 47), ("pythonarraytest", "common", 47), ("storm32", "common", 47), ("ualberta", "common", 47), ("uavionix", "common", 47)]),
  ("MessageMissionClearAll", [("all", "common", 45), ("ardupilotmega", "common", 45), ("asluav", "common", 45), ("avssuas", "common", 45), ("common", "common", 45), ("cubepilot", "common", 45), ("development", "common", 45), ("matrixpilot", "common", 45), ("paparazzi", "common", 45), ("pythonarraytest", "common", 45), ("storm32", "common", 45), ("ualberta", "common", 45), ("uavionix", "common", 45)]),
  ("MessageMissionCount", [("all", "common", 44), ("ardupilotmega", "common", 44), ("asluav", "common", 44), ("avssuas", "common", 44), ("common", "common", 44), ("cubepilot", "common", 44), ("development", "common", 44), ("matrixpilot", "common", 44), ("paparazzi", "common", 44), ("pythonarraytest", "common", 44), ("storm32", "common", 44), ("ualberta", "common", 44), ("uavionix", "common", 44)]),
  ("MessageMissionCurrent", [("all", "common", 42), ("ardupilotmega", "common", 42), ("asluav", "common", 42), ("avssuas", "common", 42), ("common", "common", 42), ("cubepilot", "common", 42), ("development", "common", 42), ("matrixpilot", "common", 42), ("paparazzi", "common", 42), ("pythonarraytest", "common", 42), ("storm32", "common", 42), ("ualberta", "common", 42), ("uavionix", "common", 42)]),
  ("MessageMissionItem", [("all", "common", 39), ("ardupilotmega", "common", 39), ("asluav", "common", 39), ("avssuas", "common", 39), ("common", "common", 39), ("cubepilot", "common", 39), ("development", "common", 39), ("matrixpilot", "common", 39), ("paparazzi", "common", 39), ("pythonarraytest", "common", 39), ("storm32", "common", 39), ("ualberta", "common", 39), ("uavionix", "common", 39)]),
  ("MessageMissionItemInt", [("all", "common", 73), ("ardupilotmega", "common", 73), ("asluav", "common", 73), ("avssuas", "common", 73), ("common", "common", 73), ("cubepilot", "common", 73), ("development", "common", 73), ("matrixpilot", "common", 73), ("paparazzi", "common", 73), ("pythonarraytest", "common", 73), ("storm32", "common", 73), ("ualberta", "common", 73), ("uavionix", "common", 73)]),
  ("MessageMissionItemReached", [("all", "common", 46), ("ardupilotmega", "common", 46), ("asluav", "common", 46), ("avssuas", "common", 46), ("common", "common", 46), ("cubepilot", "common", 46), ("development", "common", 46), ("matrixpilot", "common", 46), ("paparazzi", "common", 46), ("pythonarraytest", "common", 46), ("storm32", "common", 46), ("ualberta", "common", 46), ("uavionix", "common", 46)]),
  ("MessageMissionRequest", [("all", "common", 40), ("ardupilotmega", "common", 40), ("asluav", "common", 40), ("avssuas", "common", 40), ("common", "common", 40), ("cubepilot", "common", 40), ("development", "common", 40), ("matrixpilot", "common", 40), ("paparazzi", "common", 40), ("pythonarraytest", "common", 40), ("storm32", "common", 40), ("ualberta", "common", 40), ("uavionix", "common", 40)]),
  ("MessageMissionRequestInt", [("all", "common", 51), ("ardupilotmega", "common", 51), ("asluav", "common", 51), ("avssuas", "common", 51), ("common", "common", 51), ("cubepilot", "common", 51), ("development", "common", 51), ("matrixpilot", "common", 51), ("paparazzi", "common", 51), ("pythonarraytest", "common", 51), ("storm32", "common", 51), ("ualberta", "common", 51), ("uavionix", "common", 51)]),
  ("MessageMissionRequestList", [("all", "common", 43), ("ardupilotmega", "common", 43), ("asluav", "common", 43), ("avssuas", "common", 43), ("common", "common", 43), ("cubepilot", "common", 43), ("development", "common", 43), ("matrixpilot", "common", 43), ("paparazzi", "common", 43), ("pythonarraytest", "common", 43), ("storm32", "common", 43), ("ualberta", "common", 43), ("uavionix", "common", 43)]),
  ("MessageMissionRequestPartialList", [("all", "common", 37), ("ardupilotmega", "common", 37), ("asluav", "common", 37), ("avssuas", "common", 37), ("common", "common", 37), ("cubepilot", "common", 37), ("development", "common", 37), ("matrixpilot", "common", 37), ("paparazzi", "common", 37), ("pythonarraytest", "common", 37), ("storm32", "common", 37), ("ualberta", "common", 37), ("uavionix", "common", 37)]),
  ("MessageMissionSetCurrent", [("all", "common", 41), ("ardupilotmega", "common", 41), ("asluav", "common", 41), ("avssuas", "common", 41), ("common", "common", 41), ("cubepilot", "common", 41), ("development", "common", 41), ("matrixpilot", "common", 41), ("paparazzi", "common", 41), ("pythonarraytest", "common", 41), ("storm32", "common", 41), ("ualberta", "common", 41), ("uavionix", "common", 41)]),
  ("MessageMissionWritePartialList", [("all", "common", 38), ("ardupilotmega", "common", 38), ("asluav", "common", 38), ("avssuas", "common", 38), ("common", "common", 38), ("cubepilot", "common", 38), ("development", "common", 38), ("matrixpilot", "common", 38), ("paparazzi", "common", 38), ("pythonarraytest", "common", 38), ("storm32", "common", 38), ("ualberta", "common", 38), ("uavionix", "common", 38)]),
  ("MessageMountConfigure", [("all", "ardupilotmega", 156), ("ardupilotmega", "ardupilotmega", 156), ("storm32", "ardupilotmega", 156)]),
  ("MessageMountControl", [("all", "ardupilotmega", 157), ("ardupilotmega", "ardupilotmega", 157), ("storm32", "ardupilotmega", 157)]),
  ("MessageMountOrientation", [("all", "common", 265), ("ardupilotmega", "common", 265), ("asluav", "common", 265), ("avssuas", "common", 265), ("common", "common", 265), ("cubepilot", "common", 265), ("development", "common", 265), ("matrixpilot", "common", 265), ("paparazzi", "common", 265), ("pythonarraytest", "common", 265), ("storm32", "common", 265), ("ualberta", "common", 265), ("uavionix", "common", 265)]),
  ("MessageMountStatus", [("all", "ardupilotmega", 158), ("ardupilotmega", "ardupilotmega", 158), ("storm32", "ardupilotmega", 158)]),
  ("MessageNamedValueFloat", [("all", "common", 251), ("ardupilotmega", "common", 251), ("asluav", "common", 251), ("avssuas", "common", 251), ("common", "common", 251), ("cubepilot", "common", 251), ("development", "common", 251), ("matrixpilot", "common", 251), ("paparazzi", "common", 251), ("pythonarraytest", "common", 251), ("storm32", "common", 251), ("ualberta", "common", 251), ("uavionix", "common", 251)]),
  ("MessageNamedValueInt", [("all", "common", 252), ("ardupilotmega", "common", 252), ("asluav", "common", 252), ("avssuas", "common", 252), ("common", "common", 252), ("cubepilot", "common", 252), ("development", "common", 252), ("matrixpilot", "common", 252), ("paparazzi", "common", 252), ("pythonarraytest", "common", 252), ("storm32", "common", 252), ("ualberta", "common", 252), ("uavionix", "common", 252)]),
  ("MessageNavControllerOutput", [("all", "common", 62), ("ardupilotmega", "common", 62), ("asluav", "common", 62), ("avssuas", "common", 62), ("common", "common", 62), ("cubepilot", "common", 62), ("development", "common", 62), ("matrixpilot", "common", 62), ("paparazzi", "common", 62), ("pythonarraytest", "common", 62), ("storm32", "common", 62), ("ualberta", "common", 62), ("uavionix", "common", 62)])]

def msgGroups_4 : List (String × List (String × String × Nat)) := [
  ("MessageNavFilterBias", [("all", "ualberta", 220), ("ualberta", "ualberta", 220)]),
  ("MessageObstacleDistance", [("all", "common", 330), ("ardupilotmega", "common", 330), ("asluav", "common", 330), ("avssuas", "common", 330), ("common", "common", 330), ("cubepilot", "common", 330), ("development", "common", 330), ("matrixpilot", "common", 330), ("paparazzi", "common", 330), ("pythonarraytest", "common", 330), ("storm32", "common", 330), ("ualberta", "common", 330), ("uavionix", "common", 330)]),
  ("MessageObstacleDistance_3d", [("all", "ardupilotmega", 11037), ("ardupilotmega", "ardupilotmega", 11037), ("storm32", "ardupilotmega", 11037)]),
  ("MessageOdometry", [("all", "common", 331), ("ardupilotmega", "common", 331), ("asluav", "common", 331), ("avssuas", "common", 331), ("common", "common", 331), ("cubepilot", "common", 331), ("development", "common", 331), ("matrixpilot", "common", 331), ("paparazzi", "common", 331), ("pythonarraytest", "common", 331), ("storm32", "common", 331), ("ualberta", "common", 331), ("uavionix", "common", 331)]),
  ("MessageOnboardComputerStatus", [("all", "common", 390), ("ardupilotmega", "common", 390), ("asluav", "common", 390), ("avssuas", "common", 390), ("common", "common", 390), ("cubepilot", "common", 390), ("development", "common", 390), ("matrixpilot", "common", 390), ("paparazzi", "common", 390), ("pythonarraytest", "common", 390), ("storm32", "common", 390), ("ualberta", "common", 390), ("uavionix", "common", 390)]),
  ("MessageOpenDroneIdArmStatus", [("all", "common", 12918), ("ardupilotmega", "common", 12918), ("asluav", "common", 12918), ("avssuas", "common", 12918), ("common", "common", 12918), ("cubepilot", "common", 12918), ("development", "common", 12918), ("matrixpilot", "common", 12918), ("paparazzi", "common", 12918), ("pythonarraytest", "common", 12918), ("storm32", "common", 12918), ("ualberta", "common", 12918), ("uavionix", "common", 12918)]),
  ("MessageOpenDroneIdAuthentication", [("all", "common", 12902), ("ardupilotmega", "common", 12902), ("asluav", "common", 12902), ("avssuas", "common", 12902), ("common", "common", 12902), ("cubepilot", "common", 12902), ("development", "common", 12902), ("matrixpilot", "common", 12902), ("paparazzi", "common", 12902), ("pythonarraytest", "common", 12902), ("storm32", "common", 12902), ("ualberta", "common", 12902), ("uavionix", "common", 12902)]),
  ("MessageOpenDroneIdBasicId", [("all", "common", 12900), ("ardupilotmega", "common", 12900), ("asluav", "common", 12900), ("avssuas", "common", 12900), ("common", "common", 12900), ("cubepilot", "common", 12900), ("development", "common", 12900), ("matrixpilot", "common", 12900), ("paparazzi", "common", 12900), ("pythonarraytest", "common", 12900), ("storm32", "common", 12900), ("ualberta", "common", 12900), ("uavionix", "common", 12900)]),
  ("MessageOpenDroneIdLocation", [("all", "common", 12901), ("ardupilotmega", "common", 12901), ("asluav", "common", 12901), ("avssuas", "common", 12901), ("common", "common", 12901), ("cubepilot", "common", 12901), ("development", "common", 12901), ("matrixpilot", "common", 12901), ("paparazzi", "common", 12901), ("pythonarraytest", "common", 12901), ("storm32", "common", 12901), ("ualberta", "common", 12901), ("uavionix", "common", 12901)]),
  ("MessageOpenDroneIdMessagePack", [("all", "common", 12915), ("ardupilotmega", "common", 12915), ("asluav", "common", 12915), ("avssuas", "common", 12915), ("common", "common", 12915), ("cubepilot", "common", 12915), ("development", "common", 12915), ("matrixpilot", "common", 12915), ("paparazzi", "common", 12915), ("pythonarraytest", "common", 12915), ("storm32", "common", 12915), ("ualberta", "common", 12915), ("uavionix", "common", 12915)]),
  ("MessageOpenDroneIdOperatorId", [("all", "common", 12905), ("ardupilotmega", "common", 12905), ("asluav", "common", 12905), ("avssuas", "common", 12905), ("common", "common", 12905), ("cubepilot", "common", 12905), ("development", "common", 12905), ("matrixpilot", "common", 12905), ("paparazzi", "common", 12905), ("pythonarraytest", "common", 12905), ("storm32", "common", 12905), ("ualberta", "common", 12905), ("uavionix", "common", 12905)]),
  ("MessageOpenDroneIdSelfId", [("all", "common", 12903), ("ardupilotmega", "common", 12903), ("asluav", "common", 12903), ("avssuas", "common", 12903), ("common", "common", 12903), ("cubepilot", "common", 12903), ("development", "common", 12903), ("matrixpilot", "common", 12903), ("paparazzi", "common", 12903), ("pythonarraytest", "common", 12903), ("storm32", "common", 12903), ("ualberta", "common", 12903), ("uavionix", "common", 12903)]),
  ("MessageOpenDroneIdSystem", [("all", "common", 12904), ("ardupilotmega", "common", 12904), ("asluav", "common", 12904), ("avssuas", "common", 12904), ("common", "common", 12904), ("cubepilot", "common", 12904), ("development", "common", 12904), ("matrixpilot", "common", 12904), ("paparazzi", "common", 12904), ("pythonarraytest", "common", 12904), ("storm32", "common", 12904), ("ualberta", "common", 12904), ("uavionix", "common", 12904)]),
  ("MessageOpenDroneIdSystemUpdate", [("all", "common", 12919), ("ardupilotmega", "common", 12919), ("asluav", "common", 12919), ("avssuas", "common", 12919), ("common", "common", 12919), ("cubepilot", "common", 12919), ("development", "common", 12919), ("matrixpilot", "common", 12919), ("paparazzi", "common", 12919), ("pythonarraytest", "common", 12919), ("storm32", "common", 12919), ("ualberta", "common", 12919), ("uavionix", "common", 12919)]),
  ("MessageOpticalFlow", [("all", "common", 100), ("ardupilotmega", "common", 100), ("asluav", "common", 100), ("avssuas", "common", 100), ("common", "common", 100), ("cubepilot", "common", 100), ("development", "common", 100), ("matrixpilot", "common", 100), ("paparazzi", "common", 100), ("pythonarraytest", "common", 100), ("storm32", "common", 100), ("ualberta", "common", 100), ("uavionix", "common", 100)]),
  ("MessageOpticalFlowRad", [("all", "common", 106), ("ardupilotmega", "common", 106), ("asluav", "common", 106), ("avssuas", "common", 106), ("common", "common", 106), ("cubepilot", "common", 106), ("development", "common", 106), ("matrixpilot", "common", 106), ("paparazzi", "common", 106), ("pythonarraytest", "common", 106), ("storm32", "common", 106), ("ualberta", "common", 106), ("uavionix", "common", 106)]),
  ("MessageOrbitExecutionStatus", [("all", "common", 360), ("ardupilotmega", "common", 360), ("asluav", "common", 360), ("avssuas", "common", 360), ("common", "common", 360), ("cubepilot", "common", 360), ("development", "common", 360), ("matrixpilot", "common", 360), ("paparazzi", "common", 360), ("pythonarraytest", "common", 360), ("storm32", "common", 360), ("ualberta", "common", 360), ("uavionix", "common", 360)]),
  ("MessageOsdParamConfig", [("all", "ardupilotmega", 11033), ("ardupilotmega", "ardupilotmega", 11033), ("storm32", "ardupilotmega", 11033)]),
  ("MessageOsdParamConfigReply", [("all", "ardupilotmega", 11034), ("ardupilotmega", "ardupilotmega", 11034), ("storm32", "ardupilotmega", 11034)]),
  ("MessageOsdParamShowConfig", [("all", "ardupilotmega", 11035), ("ardupilotmega", "ardupilotmega", 11035), ("storm32", "ardupilotmega", 11035)]),
  ("MessageOsdParamShowConfigReply", [("all", "ardupilotmega", 11036), ("ardupilotmega", "ardupilotmega", 11036), ("storm32", "ardupilotmega", 11036)]),
  ("MessageParamExtAck", [("all", "common", 324), ("ardupilotmega", "common", 324), ("asluav", "common", 324), ("avssuas", "common", 324), ("common", "common", 324), ("cubepilot", "common", 324), ("development", "common", 324), ("matrixpilot", "common", 324), ("paparazzi", "common", 324), ("pythonarraytest", "common", 324), ("storm32", "common", 324), ("ualberta", "common", 324), ("uavionix", "common", 324)]),
  ("MessageParamExtRequestList", [("all", "common", 321), ("ardupilotmega", "common", 321), ("asluav", "common", 321), ("avssuas", "common", 321), ("common", "common", 321), ("cubepilot", "common", 321), ("development", "common", 321), ("matrixpilot", "common", 321), ("paparazzi", "common", 321), ("pythonarraytest", "common", 321), ("storm32", "common", 321), ("ualberta", "common", 321), ("uavionix", "common", 321)]),
  ("MessageParamExtRequestRead", [("all", "common", 320), ("ardupilotmega", "common", 320), ("asluav", "common", 320), ("avssuas", "common", 320), ("common", "common", 320), ("cubepilot", "common", 320), ("development", "common", 320), ("matrixpilot", "common", 320), ("paparazzi", "common", 320), ("pythonarraytest", "common", 320), ("storm32", "common", 320), ("ualberta", "common", 320), ("uavionix", "common", 320)]),
  ("MessageParamExtSet", [("all", "common", 323), ("ardupilotmega", "common", 323), ("asluav", "common", 323), ("avssuas", "common", 323), ("common", "common", 323), ("cubepilot", "common", 323), ("development", "common", 323), ("matrixpilot", "common", 323), ("paparazzi", "common", 323), ("pythonarraytest", "common", 323), ("storm32", "common", 323), ("ualberta", "common", 323), ("uavionix", "common", 323)]),
  ("MessageParamExtValue", [("all", "common", 322), ("ardupilotmega", "common", 322), ("asluav", "common", 322), ("avssuas", "common", 322), ("common", "common", 322), ("cubepilot", "common", 322), ("development", "common", 322), ("matrixpilot", "common", 322), ("paparazzi", "common", 322), ("pythonarraytest", "common", 322), ("storm32", "common", 322), ("ualberta", "common", 322), ("uavionix", "common", 322)]),
  ("MessageParamMapRc", [("all", "common", 50), ("ardupilotmega", "common", 50), ("asluav", "common", 50), ("avssuas", "common", 50), ("common", "common", 50), ("cubepilot", "common", 50), ("development", "common", 50), ("matrixpilot", "common", 50), ("paparazzi", "common", 50), ("pythonarraytest", "common", 50), ("storm32", "common", 50), ("ualberta", "common", 50), ("uavionix", "common", 50)]),
  ("MessageParamRequestList", [("all", "common", 21), ("ardupilotmega", "common", 21), ("asluav", "common", 21), ("avssuas", "common", 21), ("common", "common", 21), ("cubepilot", "common", 21), ("development", "common", 21), ("matrixpilot", "common", 21), ("paparazzi", "common", 21), ("pythonarraytest", "common", 21), ("storm32", "common", 21), ("ualberta", "common", 21), ("uavionix", "common", 21)]),
  ("MessageParamRequestRead", [("all", "common", 20), ("ardupilotmega", "common", 20), ("asluav", "common", 20), ("avssuas", "common", 20), ("common", "common", 20), ("cubepilot", "common", 20), ("development", "common", 20), ("matrixpilot", "common", 20), ("paparazzi", "common", 20), ("pythonarraytest", "common", 20), ("storm32", "common", 20), ("ualberta", "common", 20), ("uavionix", "common", 20)]),
  ("MessageParamSet", [("all", "common", 23), ("ardupilotmega", "common", 23), ("asluav", "common", 23), ("avssuas", "common", 23), ("common", "common", 23), ("cubepilot", "common", 23), ("development", "common", 23), ("matrixpilot", "common", 23), ("paparazzi", "common", 23), ("pythonarraytest", "common", 23), ("storm32", "common", 23), ("ualberta", "common", 23), ("uavionix", "common", 23)]),
  ("MessageParamValue", [("all", "common", 22), ("ardupilotmega", "common", 22), ("asluav", "common", 22), ("avssuas", "common", 22), ("common", "common", 22), ("cubepilot", "common", 22), ("development", "common", 22), ("matrixpilot", "common", 22), ("paparazzi", "common", 22), ("pythonarraytest", "common", 22), ("storm32", "common", 22), ("ualberta", "common", 22), ("uavionix", "common", 22)]),
  ("MessageParamValueArray", [("all", "storm32", 60041), ("storm32", "storm32", 60041)]),
  ("MessagePidTuning", [("all", "ardupilotmega", 194), ("ardupilotmega", "ardupilotmega", 194), ("storm32", "ardupilotmega", 194)]),
  ("MessagePing", [("all", "common", 4), ("ardupilotmega", "common", 4), ("asluav", "common", 4), ("avssuas", "common", 4), ("common", "common", 4), ("cubepilot", "common", 4), ("development", "common", 4), ("matrixpilot", "common", 4), ("paparazzi", "common", 4), ("pythonarraytest", "common", 4), ("storm32", "common", 4), ("ualberta", "common", 4), ("uavionix", "common", 4)]),
  ("MessagePlayTune", [("all", "common", 258), ("ardupilotmega", "common", 258), ("asluav", "common", 258), ("avssuas", "common", 258), ("common", "common", 258), ("cubepilot", "common", 258), ("development", "common", 258), ("matrixpilot", "common", 258), ("paparazzi", "common", 258), ("pythonarraytest", "common", 258), ("storm32", "common", 258), ("ualberta", "common", 258), ("uavionix", "common", 258)]),
  ("MessagePlayTuneV2", [("all", "common", 400), ("ardupilotmega", "common", 400), ("asluav", "common", 400), ("avssuas", "common", 400), ("common", "common", 400), ("cubepilot", "common", 400), ("development", "common", 400), ("matrixpilot", "common", 400), ("paparazzi", "common", 400), ("pythonarraytest", "common", 400), ("storm32", "common", 400), ("ualberta", "common", 400), ("uavionix", "common", 400)]),
  ("MessagePositionTargetGlobalInt", [("all", "common", 87), ("ardupilotmega", "common", 87), ("asluav", "common", 87), ("avssuas", "common", 87), ("common", "common", 87), ("cubepilot", "common", 87), ("development", "common", 87), ("matrixpilot", "common", 87), ("paparazzi", "common", 87), ("pythonarraytest", "common", 87), ("storm32", "common", 87), ("ualberta", "common", 87), ("uavionix", "common", 87)]),
  ("MessagePositionTargetLocalNed", [("all", "common", 85), ("ardupilotmega", "common", 85), ("asluav", "common", 85), ("avssuas", "common", 85), ("common", "common", 85), ("cubepilot", "common", 85), ("development", "common", 85), ("matrixpilot", "common", 85), ("paparazzi", "common", 85), ("pythonarraytest", "common", 85), ("storm32", "common", 85), ("ualberta", "common", 85), ("uavionix", "common", 85)]),
  ("MessagePowerStatus", [("all", "common", 125), ("ardupilotmega", "common", 125), ("asluav", "common", 125), ("avssuas", "common", 125), ("common", "common", 125), ("cubepilot", "common", 125), ("development", "common", 125), ("matrixpilot", "common", 125), ("paparazzi", "common", 125), ("pythonarraytest", "common", 125), ("storm32", "common", 125), ("ualberta", "common", 125), ("uavionix", "common", 125)]),
  ("MessageProtocolVersion", [("all", "minimal", 300), ("ardupilotmega", "minimal", 300), ("asluav", "minimal", 300), ("avssuas", "minimal", 300), ("common", "minimal", 300), ("cubepilot", "minimal", 300), ("development", "minimal", 300), ("loweheiser", "minimal", 300), ("matrixpilot", "minimal", 300), ("minimal", "minimal", 300), ("paparazzi", "minimal", 300), ("pythonarraytest", "minimal", 300), ("standard", "minimal", 300), ("storm32", "minimal", 300), ("ualberta", "minimal", 300), ("uavionix", "minimal", 300)]),
  ("MessageQshotStatus", [("all", "storm32", 60020), ("storm32", "storm32", 60020)]),
  ("MessageRadio", [("all", "ardupilotmega", 166), ("ardupilotmega", "ardupilotmega", 166), ("storm32", "ardupilotmega", 166)]),
  ("MessageRadioCalibration", [("all", "ualberta", 221), ("ualberta", "ualberta", 221)]),
  ("MessageRadioRcChannels", [("all", "development", 420), ("development", "development", 420)]),
  ("MessageRadioStatus", [("all", "common", 109), ("ardupilotmega", "common", 109), ("asluav", "common", 109), ("avssuas", "common", 109), ("common", "common", 109), ("cubepilot", "common", 109), ("development", "common", 109), ("matrixpilot", "common", 109), ("paparazzi", "common", 109), ("pythonarraytest", "common", 109), ("storm32", "common", 109), ("ualberta", "common", 109), ("uavionix", "common", 109)]),
  ("MessageRallyFetchPoint", [("all", "ardupilotmega", 176), ("ardupilotmega", "ardupilotmega", 176), ("storm32", "ardupilotmega", 176)]),
  ("MessageRallyPoint", [("all", "ardupilotmega", 175), ("ardupilotmega", "ardupilotmega", 175), ("storm32", "ardupilotmega", 175)]),
  ("MessageRangefinder", [("all", "ardupilotmega", 173), ("ardupilotmega", "ardupilotmega", 173), ("storm32", "ardupilotmega", 173)]),
  ("MessageRawImu", [("all", "common", 27), ("ardupilotmega", "common", 27), ("asluav", "common", 27), ("avssuas", "common", 27), ("common", "common", 27), ("cubepilot", "common", 27), ("development", "common", 27), ("matrixpilot", "common", 27), ("paparazzi", "common", 27), ("pythonarraytest", "common", 27), ("storm32", "common", 27), ("ualberta", "common", 27), ("uavionix", "common", 27)]),
  ("MessageRawPressure", [("all", "common", 28), ("ardupilotmega", "common", 28), ("asluav", "common", 28), ("avssuas", "common", 28), ("common", "common", 28), ("cubepilot", "common", 28), ("development", "common", 28), ("matrixpilot", "common", 28), ("paparazzi", "common", 28), ("pythonarraytest", "common", 28), ("storm32", "common", 28), ("ualberta", "common", 28), ("uavionix", "common", 28)]),
  ("MessageRawRpm", [("all", "common", 339), ("ardupilotmega", "common", 339), ("asluav", "common", 339), ("avssuas", "common", 339), ("common", "common", 339), ("cubepilot", "common", 339), ("development", "common", 339), ("matrixpilot", "common", 339), ("paparazzi", "common", 339), ("pythonarraytest", "common", 339), ("storm32", "common", 339), ("ualberta", "common", 339), ("uavionix", "common", 339)]),
  ("MessageRcChannels", [("all", "common", 65), ("ardupilotmega", "common", 65), ("asluav", "common", 65), ("avssuas", "common", 65), ("common", "common", 65), ("cubepilot", "common", 65), ("development", "common", 65), ("matrixpilot", "common", 65), ("paparazzi", "common", 65), ("pythonarraytest", "common", 65), ("storm32", "common", 65), ("ualberta", "common", 65), ("uavionix", "common", 65)]),
  ("MessageRcChannelsOverride", [("all", "common", 70), ("ardupilotmega", "common", 70), ("asluav", "common", 70), ("avssuas", "common", 70), ("common", "common", 70), ("cubepilot", "common", 70), ("development", "common", 70), ("matrixpilot", "common", 70), ("paparazzi", "common", 70), ("pythonarraytest", "common", 70), ("storm32", "common", 70), ("ualberta", "common", 70), ("uavionix", "common", 70)]),
  ("MessageRcChannelsRaw", [("all", "common", 35), ("ardupilotmega", "common", 35), ("asluav", "common", 35), ("avssuas", "common", 35), ("common", "common", 35), ("cubepilot", "common", 35), ("development", "common", 35), ("matrixpilot", "common", 35), ("paparazzi", "common", 35), ("pythonarraytest", "common", 35), ("storm32", "common", 35), ("ualberta", "common", 35), ("uavionix", "common", 35)]),
  ("MessageRcChannelsScaled", [("all", "common", 34), ("ardupilotmega", "common", 34), ("asluav", "common", 34), ("avssuas", "common", 34), ("common", "common", 34), ("cubepilot", "common", 34), ("development", "common", 34), ("matrixpilot", "common", 34), ("paparazzi", "common", 34), ("pythonarraytest", "common", 34), ("storm32", "common", 34), ("ualberta", "common", 34), ("uavionix", "common", 34)]),
  ("MessageRemoteLogBlockStatus", [("all", "ardupilotmega", 185), ("ardupilotmega", "ardupilotmega", 185), ("storm32", "ardupilotmega", 185)]),
  ("MessageRemoteLogDataBlock", [("all", "ardupilotmega", 184), ("ardupilotmega", "ardupilotmega", 184), ("storm32", "ardupilotmega", 184)]),
  ("MessageRequestDataStream", [("all", "common", 66), ("ardupilotmega", "common", 66), ("asluav", "common", 66), ("avssuas", "common", 66), ("common", "common", 66), ("cubepilot", "common", 66), ("development", "common", 66), ("matrixpilot", "common", 66), ("paparazzi", "common", 66), ("pythonarraytest", "common", 66), ("storm32", "common", 66), ("ualberta", "common", 66), ("uavionix", "common", 66)]),
  ("MessageRequestEvent", [("all", "common", 412), ("ardupilotmega", "common", 412), ("asluav", "common", 412), ("avssuas", "common", 412), ("common", "common", 412), ("cubepilot", "common", 412), ("development", "common", 412), ("matrixpilot", "common", 412), ("paparazzi", "common", 412), ("pythonarraytest", "common", 412), ("storm32", "common", 412), ("ualberta", "common", 412), ("uavionix", "common", 412)]),
  ("MessageResourceRequest", [("all", "common", 142), ("ardupilotmega", "common", 142), ("asluav", "common", 142), ("avssuas", "common", 142), ("common", "common", 142), ("cubepilot", "common", 142), ("development", "common", 142), ("matrixpilot", "common", 142), ("paparazzi", "common", 142), ("pythonarraytest", "common", 142), ("storm32", "common", 142), ("ualberta", "common", 142), ("uavionix", "common", 142)])]

def msgGroups_5 : List (String × List (String × String × Nat)) := [
  ("MessageResponseEventError", [("all", "common", 413), ("ardupilotmega", "common", 413), ("asluav", "common", 413), ("avssuas", "common", 413), ("common", "common", 413), ("cubepilot", "common", 413), ("development", "common", 413), ("matrixpilot", "common", 413), ("paparazzi", "common", 413), ("pythonarraytest", "common", 413), ("storm32", "common", 413), ("ualberta", "common", 413), ("uavionix", "common", 413)]),
  ("MessageRpm", [("all", "ardupilotmega", 226), ("ardupilotmega", "ardupilotmega", 226), ("storm32", "ardupilotmega", 226)]),
  ("MessageSafetyAllowedArea", [("all", "common", 55), ("ardupilotmega", "common", 55), ("asluav", "common", 55), ("avssuas", "common", 55), ("common", "common", 55), ("cubepilot", "common", 55), ("development", "common", 55), ("matrixpilot", "common", 55), ("paparazzi", "common", 55), ("pythonarraytest", "common", 55), ("storm32", "common", 55), ("ualberta", "common", 55), ("uavionix", "common", 55)]),
  ("MessageSafetySetAllowedArea", [("all", "common", 54), ("ardupilotmega", "common", 54), ("asluav", "common", 54), ("avssuas", "common", 54), ("common", "common", 54), ("cubepilot", "common", 54), ("development", "common", 54), ("matrixpilot", "common", 54), ("paparazzi", "common", 54), ("pythonarraytest", "common", 54), ("storm32", "common", 54), ("ualberta", "common", 54), ("uavionix", "common", 54)]),
  ("MessageSatcomLinkStatus", [("all", "asluav", 8015), ("asluav", "asluav", 8015)]),
  ("MessageScaledImu", [("all", "common", 26), ("ardupilotmega", "common", 26), ("asluav", "common", 26), ("avssuas", "common", 26), ("common", "common", 26), ("cubepilot", "common", 26), ("development", "common", 26), ("matrixpilot", "common", 26), ("paparazzi", "common", 26), ("pythonarraytest", "common", 26), ("storm32", "common", 26), ("ualberta", "common", 26), ("uavionix", "common", 26)]),
  ("MessageScaledImu2", [("all", "common", 116), ("ardupilotmega", "common", 116), ("asluav", "common", 116), ("avssuas", "common", 116), ("common", "common", 116), ("cubepilot", "common", 116), ("development", "common", 116), ("matrixpilot", "common", 116), ("paparazzi", "common", 116), ("pythonarraytest", "common", 116), ("storm32", "common", 116), ("ualberta", "common", 116), ("uavionix", "common", 116)]),
  ("MessageScaledImu3", [("all", "common", 129), ("ardupilotmega", "common", 129), ("asluav", "common", 129), ("avssuas", "common", 129), ("common", "common", 129), ("cubepilot", "common", 129), ("development", "common", 129), ("matrixpilot", "common", 129), ("paparazzi", "common", 129), ("pythonarraytest", "common", 129), ("storm32", "common", 129), ("ualberta", "common", 129), ("uavionix", "common", 129)]),
  ("MessageScaledPressure", [("all", "common", 29), ("ardupilotmega", "common", 29), ("asluav", "common", 29), ("avssuas", "common", 29), ("common", "common", 29), ("cubepilot", "common", 29), ("development", "common", 29), ("matrixpilot", "common", 29), ("paparazzi", "common", 29), ("pythonarraytest", "common", 29), ("storm32", "common", 29), ("ualberta", "common", 29), ("uavionix", "common", 29)]),
  ("MessageScaledPressure2", [("all", "common", 137), ("ardupilotmega", "common", 137), ("asluav", "common", 137), ("avssuas", "common", 137), ("common", "common", 137), ("cubepilot", "common", 137), ("development", "common", 137), ("matrixpilot", "common", 137), ("paparazzi", "common", 137), ("pythonarraytest", "common", 137), ("storm32", "common", 137), ("ualberta", "common", 137), ("uavionix", "common", 137)]),
  ("MessageScaledPressure3", [("all", "common", 143), ("ardupilotmega", "common", 143), ("asluav", "common", 143), ("avssuas", "common", 143), ("common", "common", 143), ("cubepilot", "common", 143), ("development", "common", 143), ("matrixpilot", "common", 143), ("paparazzi", "common", 143), ("pythonarraytest", "common", 143), ("storm32", "common", 143), ("ualberta", "common", 143), ("uavionix", "common", 143)]),
  ("MessageScriptCount", [("paparazzi", "paparazzi", 183)]),
  ("MessageScriptCurrent", [("paparazzi", "paparazzi", 184)]),
  ("MessageScriptItem", [("paparazzi", "paparazzi", 180)]),
  ("MessageScriptRequest", [("paparazzi", "paparazzi", 181)]),
  ("MessageScriptRequestList", [("paparazzi", "paparazzi", 182)]),
  ("MessageSecureCommand", [("all", "ardupilotmega", 11004), ("ardupilotmega", "ardupilotmega", 11004), ("storm32", "ardupilotmega", 11004)]),
  ("MessageSecureCommandReply", [("all", "ardupilotmega", 11005), ("ardupilotmega", "ardupilotmega", 11005), ("storm32", "ardupilotmega", 11005)]),
  ("MessageSensAtmos", [("all", "asluav", 8009), ("asluav", "asluav", 8009)]),
  ("MessageSensBatmon", [("all", "asluav", 8010), ("asluav", "asluav", 8010)]),
  ("MessageSensMppt", [("all", "asluav", 8003), ("asluav", "asluav", 8003)]),
  ("MessageSensPower", [("all", "asluav", 8002), ("asluav", "asluav", 8002)]),
  ("MessageSensPowerBoard", [("all", "asluav", 8013), ("asluav", "asluav", 8013)]),
  ("MessageSensorAirflowAngles", [("all", "asluav", 8016), ("asluav", "asluav", 8016)]),
  ("MessageSensorOffsets", [("all", "ardupilotmega", 150), ("ardupilotmega", "ardupilotmega", 150), ("storm32", "ardupilotmega", 150)]),
  ("MessageSensorpodStatus", [("all", "asluav", 8012), ("asluav", "asluav", 8012)]),
  ("MessageSerialControl", [("all", "common", 126), ("ardupilotmega", "common", 126), ("asluav", "common", 126), ("avssuas", "common", 126), ("common", "common", 126), ("cubepilot", "common", 126), ("development", "common", 126), ("matrixpilot", "common", 126), ("paparazzi", "common", 126), ("pythonarraytest", "common", 126), ("storm32", "common", 126), ("ualberta", "common", 126), ("uavionix", "common", 126)]),
  ("MessageSerialUdbExtraF13", [("matrixpilot", "matrixpilot", 177)]),
  ("MessageSerialUdbExtraF14", [("matrixpilot", "matrixpilot", 178)]),
  ("MessageSerialUdbExtraF15", [("matrixpilot", "matrixpilot", 179)]),
  ("MessageSerialUdbExtraF16", [("matrixpilot", "matrixpilot", 180)]),
  ("MessageSerialUdbExtraF17", [("matrixpilot", "matrixpilot", 183)]),
  ("MessageSerialUdbExtraF18", [("matrixpilot", "matrixpilot", 184)]),
  ("MessageSerialUdbExtraF19", [("matrixpilot", "matrixpilot", 185)]),
  ("MessageSerialUdbExtraF20", [("matrixpilot", "matrixpilot", 186)]),
  ("MessageSerialUdbExtraF21", [("matrixpilot", "matrixpilot", 187)]),
  ("MessageSerialUdbExtraF22", [("matrixpilot", "matrixpilot", 188)]),
  ("MessageSerialUdbExtraF2A", [("matrixpilot", "matrixpilot", 170)]),
  ("MessageSerialUdbExtraF2B", [("matrixpilot", "matrixpilot", 171)]),
  ("MessageSerialUdbExtraF4", [("matrixpilot", "matrixpilot", 172)]),
  ("MessageSerialUdbExtraF5", [("matrixpilot", "matrixpilot", 173)]),
  ("MessageSerialUdbExtraF6", [("matrixpilot", "matrixpilot", 174)]),
  ("MessageSerialUdbExtraF7", [("matrixpilot", "matrixpilot", 175)]),
  ("MessageSerialUdbExtraF8", [("matrixpilot", "matrixpilot", 176)]),
  ("MessageServoOutputRaw", [("all", "common", 36), ("ardupilotmega", "common", 36), ("asluav", "common", 36), ("avssuas", "common", 36), ("common", "common", 36), ("cubepilot", "common", 36), ("development", "common", 36), ("matrixpilot", "common", 36), ("paparazzi", "common", 36), ("pythonarraytest", "common", 36), ("storm32", "common", 36), ("ualberta", "common", 36), ("uavionix", "common", 36)]),
  ("MessageSetActuatorControlTarget", [("all", "common", 139), ("ardupilotmega", "common", 139), ("asluav", "common", 139), ("avssuas", "common", 139), ("common", "common", 139), ("cubepilot", "common", 139), ("development", "common", 139), ("matrixpilot", "common", 139), ("paparazzi", "common", 139), ("pythonarraytest", "common", 139), ("storm32", "common", 139), ("ualberta", "common", 139), ("uavionix", "common", 139)]),
  ("MessageSetAttitudeTarget", [("all", "common", 82), ("ardupilotmega", "common", 82), ("asluav", "common", 82), ("avssuas", "common", 82), ("common", "common", 82), ("cubepilot", "common", 82), ("development", "common", 82), ("matrixpilot", "common", 82), ("paparazzi", "common", 82), ("pythonarraytest", "common", 82), ("storm32", "common", 82), ("ualberta", "common", 82), ("uavionix", "common", 82)]),
  ("MessageSetGpsGlobalOrigin", [("all", "common", 48), ("ardupilotmega", "common", 48), ("asluav", "common", 48), ("avssuas", "common", 48), ("common", "common", 48), ("cubepilot", "common", 48), ("development", "common", 48), ("matrixpilot", "common", 48), ("paparazzi", "common", 48), ("pythonarraytest", "common", 48), ("storm32", "common", 48), ("ualberta", "common", 48), ("uavionix", "common", 48)]),
  ("MessageSetHomePosition", [("all", "common", 243), ("ardupilotmega", "common", 243), ("asluav", "common", 243), ("avssuas", "common", 243), ("common", "common", 243), ("cubepilot", "common", 243), ("development", "common", 243), ("matrixpilot", "common", 243), ("paparazzi", "common", 243), ("pythonarraytest", "common", 243), ("storm32", "common", 243), ("ualberta", "common", 243), ("uavionix", "common", 243)]),
  ("MessageSetMagOffsets", [("all", "ardupilotmega", 151), ("ardupilotmega", "ardupilotmega", 151), ("storm32", "ardupilotmega", 151)]),
  ("MessageSetMode", [("all", "common", 11), ("ardupilotmega", "common", 11), ("asluav", "common", 11), ("avssuas", "common", 11), ("common", "common", 11), ("cubepilot", "common", 11), ("development", "common", 11), ("matrixpilot", "common", 11), ("paparazzi", "common", 11), ("pythonarraytest", "common", 11), ("storm32", "common", 11), ("ualberta", "common", 11), ("uavionix", "common", 11)]),
  ("MessageSetPositionTargetGlobalInt", [("all", "common", 86), ("ardupilotmega", "common", 86), ("asluav", "common", 86), ("avssuas", "common", 86), ("common", "common", 86), ("cubepilot", "common", 86), ("development", "common", 86), ("matrixpilot", "common", 86), ("paparazzi", "common", 86), ("pythonarraytest", "common", 86), ("storm32", "common", 86), ("ualberta", "common", 86), ("uavionix", "common", 86)]),
  ("MessageSetPositionTargetLocalNed", [("all", "common", 84), ("ardupilotmega", "common", 84), ("asluav", "common", 84), ("avssuas", "common", 84), ("common", "common", 84), ("cubepilot", "common", 84), ("development", "common", 84), ("matrixpilot", "common", 84), ("paparazzi", "common", 84), ("pythonarraytest", "common", 84), ("storm32", "common", 84), ("ualberta", "common", 84), ("uavionix", "common", 84)]),
  ("MessageSetVelocityLimits", [("all", "development", 354), ("development", "development", 354)]),
  ("MessageSetupSigning", [("all", "common", 256), ("ardupilotmega", "common", 256), ("asluav", "common", 256), ("avssuas", "common", 256), ("common", "common", 256), ("cubepilot", "common", 256), ("development", "common", 256), ("matrixpilot", "common", 256), ("paparazzi", "common", 256), ("pythonarraytest", "common", 256), ("storm32", "common", 256), ("ualberta", "common", 256), ("uavionix", "common", 256)]),
  ("MessageSimState", [("all", "common", 108), ("ardupilotmega", "common", 108), ("asluav", "common", 108), ("avssuas", "common", 108), ("common", "common", 108), ("cubepilot", "common", 108), ("development", "common", 108), ("matrixpilot", "common", 108), ("paparazzi", "common", 108), ("pythonarraytest", "common", 108), ("storm32", "common", 108), ("ualberta", "common", 108), ("uavionix", "common", 108)]),
  ("MessageSimstate", [("all", "ardupilotmega", 164), ("ardupilotmega", "ardupilotmega", 164), ("storm32", "ardupilotmega", 164)]),
  ("MessageSmartBatteryInfo", [("all", "common", 370), ("ardupilotmega", "common", 370), ("asluav", "common", 370), ("avssuas", "common", 370), ("common", "common", 370), ("cubepilot", "common", 370), ("development", "common", 370), ("matrixpilot", "common", 370), ("paparazzi", "common", 370), ("pythonarraytest", "common", 370), ("storm32", "common", 370), ("ualberta", "common", 370), ("uavionix", "common", 370)]),
  ("MessageStatustext", [("all", "common", 253), ("ardupilotmega", "common", 253), ("asluav", "common", 253), ("avssuas", "common", 253), ("common", "common", 253), ("cubepilot", "common", 253), ("development", "common", 253), ("matrixpilot", "common", 253), ("paparazzi", "common", 253), ("pythonarraytest", "common", 253), ("storm32", "common", 253), ("ualberta", "common", 253), ("uavionix", "common", 253)]),
  ("MessageStorageInformation", [("all", "common", 261), ("ardupilotmega", "common", 261), ("asluav", "common", 261), ("avssuas", "common", 261), ("common", "common", 261), ("cubepilot", "common", 261), ("development", "common", 261), ("matrixpilot", "common", 261), ("paparazzi", "common", 261), ("pythonarraytest", "common", 261), ("storm32", "common", 261), ("ualberta", "common", 261), ("uavionix", "common", 261)])]

def msgGroups_6 : List (String × List (String × String × Nat)) := [
  ("MessageStorm32GimbalManagerControl", [("all", "storm32", 60012), ("storm32", "storm32", 60012)]),
  ("MessageStorm32GimbalManagerControlPitchyaw", [("all", "storm32", 60013), ("storm32", "storm32", 60013)]),
  ("MessageStorm32GimbalManagerCorrectRoll", [("all", "storm32", 60014), ("storm32", "storm32", 60014)]),
  ("MessageStorm32GimbalManagerInformation", [("all", "storm32", 60010), ("storm32", "storm32", 60010)]),
  ("MessageStorm32GimbalManagerStatus", [("all", "storm32", 60011), ("storm32", "storm32", 60011)]),
  ("MessageSupportedTunes", [("all", "common", 401), ("ardupilotmega", "common", 401), ("asluav", "common", 401), ("avssuas", "common", 401), ("common", "common", 401), ("cubepilot", "common", 401), ("development", "common", 401), ("matrixpilot", "common", 401), ("paparazzi", "common", 401), ("pythonarraytest", "common", 401), ("storm32", "common", 401), ("ualberta", "common", 401), ("uavionix", "common", 401)]),
  ("MessageSysStatus", [("all", "common", 1), ("ardupilotmega", "common", 1), ("asluav", "common", 1), ("avssuas", "common", 1), ("common", "common", 1), ("cubepilot", "common", 1), ("development", "common", 1), ("matrixpilot", "common", 1), ("paparazzi", "common", 1), ("pythonarraytest", "common", 1), ("storm32", "common", 1), ("ualberta", "common", 1), ("uavionix", "common", 1)]),
  ("MessageSystemTime", [("all", "common", 2), ("ardupilotmega", "common", 2), ("asluav", "common", 2), ("avssuas", "common", 2), ("common", "common", 2), ("cubepilot", "common", 2), ("development", "common", 2), ("matrixpilot", "common", 2), ("paparazzi", "common", 2), ("pythonarraytest", "common", 2), ("storm32", "common", 2), ("ualberta", "common", 2), ("uavionix", "common", 2)]),
  ("MessageTargetAbsolute", [("all", "development", 510), ("development", "development", 510)]),
  ("MessageTargetRelative", [("all", "development", 511), ("development", "development", 511)]),
  ("MessageTerrainCheck", [("all", "common", 135), ("ardupilotmega", "common", 135), ("asluav", "common", 135), ("avssuas", "common", 135), ("common", "common", 135), ("cubepilot", "common", 135), ("development", "common", 135), ("matrixpilot", "common", 135), ("paparazzi", "common", 135), ("pythonarraytest", "common", 135), ("storm32", "common", 135), ("ualberta", "common", 135), ("uavionix", "common", 135)]),
  ("MessageTerrainData", [("all", "common", 134), ("ardupilotmega", "common", 134), ("asluav", "common", 134), ("avssuas", "common", 134), ("common", "common", 134), ("cubepilot", "common", 134), ("development", "common", 134), ("matrixpilot", "common", 134), ("paparazzi", "common", 134), ("pythonarraytest", "common", 134), ("storm32", "common", 134), ("ualberta", "common", 134), ("uavionix", "common", 134)]),
  ("MessageTerrainReport", [("all", "common", 136), ("ardupilotmega", "common", 136), ("asluav", "common", 136), ("avssuas", "common", 136), ("common", "common", 136), ("cubepilot", "common", 136), ("development", "common", 136), ("matrixpilot", "common", 136), ("paparazzi", "common", 136), ("pythonarraytest", "common", 136), ("storm32", "common", 136), ("ualberta", "common", 136), ("uavionix", "common", 136)]),
  ("MessageTerrainRequest", [("all", "common", 133), ("ardupilotmega", "common", 133), ("asluav", "common", 133), ("avssuas", "common", 133), ("common", "common", 133), ("cubepilot", "common", 133), ("development", "common", 133), ("matrixpilot", "common", 133), ("paparazzi", "common", 133), ("pythonarraytest", "common", 133), ("storm32", "common", 133), ("ualberta", "common", 133), ("uavionix", "common", 133)]),
  ("MessageTestTypes", [("all", "test", 17000), ("test", "test", 17000)]),
  ("MessageTimeEstimateToTarget", [("all", "common", 380), ("ardupilotmega", "common", 380), ("asluav", "common", 380), ("avssuas", "common", 380), ("common", "common", 380), ("cubepilot", "common", 380), ("development", "common", 380), ("matrixpilot", "common", 380), ("paparazzi", "common", 380), ("pythonarraytest", "common", 380), ("storm32", "common", 380), ("ualberta", "common", 380), ("uavionix", "common", 380)]),
  ("MessageTimesync", [("all", "common", 111), ("ardupilotmega", "common", 111), ("asluav", "common", 111), ("avssuas", "common", 111), ("common", "common", 111), ("cubepilot", "common", 111), ("development", "common", 111), ("matrixpilot", "common", 111), ("paparazzi", "common", 111), ("pythonarraytest", "common", 111), ("storm32", "common", 111), ("ualberta", "common", 111), ("uavionix", "common", 111)]),
  ("MessageTrajectoryRepresentationBezier", [("all", "common", 333), ("ardupilotmega", "common", 333), ("asluav", "common", 333), ("avssuas", "common", 333), ("common", "common", 333), ("cubepilot", "common", 333), ("development", "common", 333), ("matrixpilot", "common", 333), ("paparazzi", "common", 333), ("pythonarraytest", "common", 333), ("storm32", "common", 333), ("ualberta", "common", 333), ("uavionix", "common", 333)]),
  ("MessageTrajectoryRepresentationWaypoints", [("all", "common", 332), ("ardupilotmega", "common", 332), ("asluav", "common", 332), ("avssuas", "common", 332), ("common", "common", 332), ("cubepilot", "common", 332), ("development", "common", 332), ("matrixpilot", "common", 332), ("paparazzi", "common", 332), ("pythonarraytest", "common", 332), ("storm32", "common", 332), ("ualberta", "common", 332), ("uavionix", "common", 332)]),
  ("MessageTunnel", [("all", "common", 385), ("ardupilotmega", "common", 385), ("asluav", "common", 385), ("avssuas", "common", 385), ("common", "common", 385), ("cubepilot", "common", 385), ("development", "common", 385), ("matrixpilot", "common", 385), ("paparazzi", "common", 385), ("pythonarraytest", "common", 385), ("storm32", "common", 385), ("ualberta", "common", 385), ("uavionix", "common", 385)]),
  ("MessageUalbertaSysStatus", [("all", "ualberta", 222), ("ualberta", "ualberta", 222)]),
  ("MessageUavcanNodeInfo", [("all", "common", 311), ("ardupilotmega", "common", 311), ("asluav", "common", 311), ("avssuas", "common", 311), ("common", "common", 311), ("cubepilot", "common", 311), ("development", "common", 311), ("matrixpilot", "common", 311), ("paparazzi", "common", 311), ("pythonarraytest", "common", 311), ("storm32", "common", 311), ("ualberta", "common", 311), ("uavionix", "common", 311)]),
  ("MessageUavcanNodeStatus", [("all", "common", 310), ("ardupilotmega", "common", 310), ("asluav", "common", 310), ("avssuas", "common", 310), ("common", "common", 310), ("cubepilot", "common", 310), ("development", "common", 310), ("matrixpilot", "common", 310), ("paparazzi", "common", 310), ("pythonarraytest", "common", 310), ("storm32", "common", 310), ("ualberta", "common", 310), ("uavionix", "common", 310)]),
  ("MessageUavionixAdsbGet", [("all", "uavionix", 10006), ("ardupilotmega", "uavionix", 10006), ("storm32", "uavionix", 10006), ("uavionix", "uavionix", 10006)]),
  ("MessageUavionixAdsbOutCfg", [("all", "uavionix", 10001), ("ardupilotmega", "uavionix", 10001), ("storm32", "uavionix", 10001), ("uavionix", "uavionix", 10001)]),
  ("MessageUavionixAdsbOutCfgFlightid", [("all", "uavionix", 10005), ("ardupilotmega", "uavionix", 10005), ("storm32", "uavionix", 10005), ("uavionix", "uavionix", 10005)]),
  ("MessageUavionixAdsbOutCfgRegistration", [("all", "uavionix", 10004), ("ardupilotmega", "uavionix", 10004), ("storm32", "uavionix", 10004), ("uavionix", "uavionix", 10004)]),
  ("MessageUavionixAdsbOutControl", [("all", "uavionix", 10007), ("ardupilotmega", "uavionix", 10007), ("storm32", "uavionix", 10007), ("uavionix", "uavionix", 10007)]),
  ("MessageUavionixAdsbOutDynamic", [("all", "uavionix", 10002), ("ardupilotmega", "uavionix", 10002), ("storm32", "uavionix", 10002), ("uavionix", "uavionix", 10002)]),
  ("MessageUavionixAdsbOutStatus", [("all", "uavionix", 10008), ("ardupilotmega", "uavionix", 10008), ("storm32", "uavionix", 10008), ("uavionix", "uavionix", 10008)]),
  ("MessageUavionixAdsbTransceiverHealthReport", [("all", "uavionix", 10003), ("ardupilotmega", "uavionix", 10003), ("storm32", "uavionix", 10003), ("uavionix", "uavionix", 10003)]),
  ("MessageUtmGlobalPosition", [("all", "common", 340), ("ardupilotmega", "common", 340), ("asluav", "common", 340), ("avssuas", "common", 340), ("common", "common", 340), ("cubepilot", "common", 340), ("development", "common", 340), ("matrixpilot", "common", 340), ("paparazzi", "common", 340), ("pythonarraytest", "common", 340), ("storm32", "common", 340), ("ualberta", "common", 340), ("uavionix", "common", 340)]),
  ("MessageV2Extension", [("all", "common", 248), ("ardupilotmega", "common", 248), ("asluav", "common", 248), ("avssuas", "common", 248), ("common", "common", 248), ("cubepilot", "common", 248), ("development", "common", 248), ("matrixpilot", "common", 248), ("paparazzi", "common", 248), ("pythonarraytest", "common", 248), ("storm32", "common", 248), ("ualberta", "common", 248), ("uavionix", "common", 248)]),
  ("MessageVelocityLimits", [("all", "development", 355), ("development", "development", 355)]),
  ("MessageVfrHud", [("all", "common", 74), ("ardupilotmega", "common", 74), ("asluav", "common", 74), ("avssuas", "common", 74), ("common", "common", 74), ("cubepilot", "common", 74), ("development", "common", 74), ("matrixpilot", "common", 74), ("paparazzi", "common", 74), ("pythonarraytest", "common", 74), ("storm32", "common", 74), ("ualberta", "common", 74), ("uavionix", "common", 74)]),
  ("MessageVibration", [("all", "common", 241), ("ardupilotmega", "common", 241), ("asluav", "common", 241), ("avssuas", "common", 241), ("common", "common", 241), ("cubepilot", "common", 241), ("development", "common", 241), ("matrixpilot", "common", 241), ("paparazzi", "common", 241), ("pythonarraytest", "common", 241), ("storm32", "common", 241), ("ualberta", "common", 241), ("uavionix", "common", 241)]),
  ("MessageViconPositionEstimate", [("all", "common", 104), ("ardupilotmega", "common", 104), ("asluav", "common", 104), ("avssuas", "common", 104), ("common", "common", 104), ("cubepilot", "common", 104), ("development", "common", 104), ("matrixpilot", "common", 104), ("paparazzi", "common", 104), ("pythonarraytest", "common", 104), ("storm32", "common", 104), ("ualberta", "common", 104), ("uavionix", "common", 104)]),
  ("MessageVideoStreamInformation", [("all", "common", 269), ("ardupilotmega", "common", 269), ("asluav", "common", 269), ("avssuas", "common", 269), ("common", "common", 269), ("cubepilot", "common", 269), ("development", "common", 269), ("matrixpilot", "common", 269), ("paparazzi", "common", 269), ("pythonarraytest", "common", 269), ("storm32", "common", 269), ("ualberta", "common", 269), ("uavionix", "common", 269)]),
  ("MessageVideoStreamStatus", [("all", "common", 270), ("ardupilotmega", "common", 270), ("asluav", "common", 270), ("avssuas", "common", 270), ("common", "common", 270), ("cubepilot", "common", 270), ("development", "common", 270), ("matrixpilot", "common", 270), ("paparazzi", "common", 270), ("pythonarraytest", "common", 270), ("storm32", "common", 270), ("ualberta", "common", 270), ("uavionix", "common", 270)]),
  ("MessageVisionPositionDelta", [("all", "ardupilotmega", 11011), ("ardupilotmega", "ardupilotmega", 11011), ("storm32", "ardupilotmega", 11011)]),
  ("MessageVisionPositionEstimate", [("all", "common", 102), ("ardupilotmega", "common", 102), ("asluav", "common", 102), ("avssuas", "common", 102), ("common", "common", 102), ("cubepilot", "common", 102), ("development", "common", 102), ("matrixpilot", "common", 102), ("paparazzi", "common", 102), ("pythonarraytest", "common", 102), ("storm32", "common", 102), ("ualberta", "common", 102), ("uavionix", "common", 102)]),
  ("MessageVisionSpeedEstimate", [("all", "common", 103), ("ardupilotmega", "common", 103), ("asluav", "common", 103), ("avssuas", "common", 103), ("common", "common", 103), ("cubepilot", "common", 103), ("development", "common", 103), ("matrixpilot", "common", 103), ("paparazzi", "common", 103), ("pythonarraytest", "common", 103), ("storm32", "common", 103), ("ualberta", "common", 103), ("uavionix", "common", 103)]),
  ("MessageWaterDepth", [("all", "ardupilotmega", 11038), ("ardupilotmega", "ardupilotmega", 11038), ("storm32", "ardupilotmega", 11038)]),
  ("MessageWheelDistance", [("all", "common", 9000), ("ardupilotmega", "common", 9000), ("asluav", "common", 9000), ("avssuas", "common", 9000), ("common", "common", 9000), ("cubepilot", "common", 9000), ("development", "common", 9000), ("matrixpilot", "common", 9000), ("paparazzi", "common", 9000), ("pythonarraytest", "common", 9000), ("storm32", "common", 9000), ("ualberta", "common", 9000), ("uavionix", "common", 9000)]),
  ("MessageWifiConfigAp", [("all", "common", 299), ("ardupilotmega", "common", 299), ("asluav", "common", 299), ("avssuas", "common", 299), ("common", "common", 299), ("cubepilot", "common", 299), ("development", "common", 299), ("matrixpilot", "common", 299), ("paparazzi", "common", 299), ("pythonarraytest", "common", 299), ("storm32", "common", 299), ("ualberta", "common", 299), ("uavionix", "common", 299)]),
  ("MessageWinchStatus", [("all", "common", 9005), ("ardupilotmega", "common", 9005), ("asluav", "common", 9005), ("avssuas", "common", 9005), ("common", "common", 9005), ("cubepilot", "common", 9005), ("development", "common", 9005), ("matrixpilot", "common", 9005), ("paparazzi", "common", 9005), ("pythonarraytest", "common", 9005), ("storm32", "common", 9005), ("ualberta", "common", 9005), ("uavionix", "common", 9005)]),
  ("MessageWind", [("all", "ardupilotmega", 168), ("ardupilotmega", "ardupilotmega", 168), ("storm32", "ardupilotmega", 168)]),
  ("MessageWindCov", [("all", "common", 231), ("ardupilotmega", "common", 231), ("asluav", "common", 231), ("avssuas", "common", 231), ("common", "common", 231), ("cubepilot", "common", 231), ("development", "common", 231), ("matrixpilot", "common", 231), ("paparazzi", "common", 231), ("pythonarraytest", "common", 231), ("storm32", "common", 231), ("ualberta", "common", 231), ("uavionix", "common", 231)])]

/-- message name ↦ (dialect, defining package, id) for every dialect whose message list contains it -/
def allMsgGroups : List (List (String × List (String × String × Nat))) := [msgGroups_0, msgGroups_1, msgGroups_2, msgGroups_3, msgGroups_4, msgGroups_5, msgGroups_6]

def dialects : List Dialect := [dialect_all, dialect_ardupilotmega, dialect_asluav, dialect_avssuas, dialect_common, dialect_csairlink, dialect_cubepilot, dialect_development, dialect_icarous, dialect_loweheiser, dialect_matrixpilot, dialect_minimal, dialect_paparazzi, dialect_pythonarraytest, dialect_standard, dialect_storm32, dialect_test, dialect_ualberta, dialect_uavionix]

/-- dialect name ↦ its message ids -/
def dialectIds : List (String × List Nat) := [("all", ids_all), ("ardupilotmega", ids_ardupilotmega), ("asluav", ids_asluav), ("avssuas", ids_avssuas), ("common", ids_common), ("csairlink", ids_csairlink), ("cubepilot", ids_cubepilot), ("development", ids_development), ("icarous", ids_icarous), ("loweheiser", ids_loweheiser), ("matrixpilot", ids_matrixpilot), ("minimal", ids_minimal), ("paparazzi", ids_paparazzi), ("pythonarraytest", ids_pythonarraytest), ("standard", ids_standard), ("storm32", ids_storm32), ("test", ids_test), ("ualberta", ids_ualberta), ("uavionix", ids_uavionix)]

end Mav.Gen
