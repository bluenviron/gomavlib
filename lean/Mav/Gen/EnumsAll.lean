-- GENERATED by tools/extract — do not edit
import Mav.Gen.Enums_0
import Mav.Gen.Enums_1
import Mav.Gen.Enums_2
import Mav.Gen.Enums_3
import Mav.Gen.Enums_4
import Mav.Gen.Enums_5
import Mav.Gen.Enums_6
import Mav.Gen.Enums_7
import Mav.Gen.Enums_8
import Mav.Gen.Enums_9
namespace Mav.Gen

/-- every enum type defined (not aliased) under pkg/dialects -/
def allEnums : List Mav.EnumText.EnumDef :=
  enums_0 ++ enums_1 ++ enums_2 ++ enums_3 ++ enums_4 ++ enums_5 ++ enums_6 ++ enums_7 ++ enums_8 ++ enums_9

def nEnums : Nat := 249

/-- every enum constant name ↦ the (package, value) pairs of all dialect packages that declare it (aliases resolved) -/
def constGroups_0 : List (String × List (String × Nat)) := [
  ("ACCELCAL_VEHICLE_POS_BACK", [("all", 6), ("ardupilotmega", 6), ("storm32", 6)]),
  ("ACCELCAL_VEHICLE_POS_FAILED", [("all", 16777216), ("ardupilotmega", 16777216), ("storm32", 16777216)]),
  ("ACCELCAL_VEHICLE_POS_LEFT", [("all", 2), ("ardupilotmega", 2), ("storm32", 2)]),
  ("ACCELCAL_VEHICLE_POS_LEVEL", [("all", 1), ("ardupilotmega", 1), ("storm32", 1)]),
  ("ACCELCAL_VEHICLE_POS_NOSEDOWN", [("all", 4), ("ardupilotmega", 4), ("storm32", 4)]),
  ("ACCELCAL_VEHICLE_POS_NOSEUP", [("all", 5), ("ardupilotmega", 5), ("storm32", 5)]),
  ("ACCELCAL_VEHICLE_POS_RIGHT", [("all", 3), ("ardupilotmega", 3), ("storm32", 3)]),
  ("ACCELCAL_VEHICLE_POS_SUCCESS", [("all", 16777215), ("ardupilotmega", 16777215), ("storm32", 16777215)]),
  ("ACTUATOR_CONFIGURATION_3D_MODE_OFF", [("all", 3), ("ardupilotmega", 3), ("asluav", 3), ("avssuas", 3), ("common", 3), ("cubepilot", 3), ("development", 3), ("matrixpilot", 3), ("paparazzi", 3), ("pythonarraytest", 3), ("storm32", 3), ("ualberta", 3), ("uavionix", 3)]),
  ("ACTUATOR_CONFIGURATION_3D_MODE_ON", [("all", 2), ("ardupilotmega", 2), ("asluav", 2), ("avssuas", 2), ("common", 2), ("cubepilot", 2), ("development", 2), ("matrixpilot", 2), ("paparazzi", 2), ("pythonarraytest", 2), ("storm32", 2), ("ualberta", 2), ("uavionix", 2)]),
  ("ACTUATOR_CONFIGURATION_BEEP", [("all", 1), ("ardupilotmega", 1), ("asluav", 1), ("avssuas", 1), ("common", 1), ("cubepilot", 1), ("development", 1), ("matrixpilot", 1), ("paparazzi", 1), ("pythonarraytest", 1), ("storm32", 1), ("ualberta", 1), ("uavionix", 1)]),
  ("ACTUATOR_CONFIGURATION_NONE", [("all", 0), ("ardupilotmega", 0), ("asluav", 0), ("avssuas", 0), ("common", 0), ("cubepilot", 0), ("development", 0), ("matrixpilot", 0), ("paparazzi", 0), ("pythonarraytest", 0), ("storm32", 0), ("ualberta", 0), ("uavionix", 0)]),
  ("ACTUATOR_CONFIGURATION_SPIN_DIRECTION1", [("all", 4), ("ardupilotmega", 4), ("asluav", 4), ("avssuas", 4), ("common", 4), ("cubepilot", 4), ("development", 4), ("matrixpilot", 4), ("paparazzi", 4), ("pythonarraytest", 4), ("storm32", 4), ("ualberta", 4), ("uavionix", 4)]),
  ("ACTUATOR_CONFIGURATION_SPIN_DIRECTION2", [("all", 5), ("ardupilotmega", 5), ("asluav", 5), ("avssuas", 5), ("common", 5), ("cubepilot", 5), ("development", 5), ("matrixpilot", 5), ("paparazzi", 5), ("pythonarraytest", 5), ("storm32", 5), ("ualberta", 5), ("uavionix", 5)]),
  ("ACTUATOR_OUTPUT_FUNCTION_MOTOR1", [("all", 1), ("ardupilotmega", 1), ("asluav", 1), ("avssuas", 1), ("common", 1), ("cubepilot", 1), ("development", 1), ("matrixpilot", 1), ("paparazzi", 1), ("pythonarraytest", 1), ("storm32", 1), ("ualberta", 1), ("uavionix", 1)]),
  ("ACTUATOR_OUTPUT_FUNCTION_MOTOR10", [("all", 10), ("ardupilotmega", 10), ("asluav", 10), ("avssuas", 10), ("common", 10), ("cubepilot", 10), ("development", 10), ("matrixpilot", 10), ("paparazzi", 10), ("pythonarraytest", 10), ("storm32", 10), ("ualberta", 10), ("uavionix", 10)]),
  ("ACTUATOR_OUTPUT_FUNCTION_MOTOR11", [("all", 11), ("ardupilotmega", 11), ("asluav", 11), ("avssuas", 11), ("common", 11), ("cubepilot", 11), ("development", 11), ("matrixpilot", 11), ("paparazzi", 11), ("pythonarraytest", 11), ("storm32", 11), ("ualberta", 11), ("uavionix", 11)]),
  ("ACTUATOR_OUTPUT_FUNCTION_MOTOR12", [("all", 12), ("ardupilotmega", 12), ("asluav", 12), ("avssuas", 12), ("common", 12), ("cubepilot", 12), ("development", 12), ("matrixpilot", 12), ("paparazzi", 12), ("pythonarraytest", 12), ("storm32", 12), ("ualberta", 12), ("uavionix", 12)]),
  ("ACTUATOR_OUTPUT_FUNCTION_MOTOR13", [("all", 13), ("ardupilotmega", 13), ("asluav", 13), ("avssuas", 13), ("common", 13), ("cubepilot", 13), ("development", 13), ("matrixpilot", 13), ("paparazzi", 13), ("pythonarraytest", 13), ("storm32", 13), ("ualberta", 13), ("uavionix", 13)]),
  ("ACTUATOR_OUTPUT_FUNCTION_MOTOR14", [("all", 14), ("ardupilotmega", 14), ("asluav", 14), ("avssuas", 14), ("common", 14), ("cubepilot", 14), ("development", 14), ("matrixpilot", 14), ("paparazzi", 14), ("pythonarraytest", 14), ("storm32", 14), ("ualberta", 14), ("uavionix", 14)]),
  ("ACTUATOR_OUTPUT_FUNCTION_MOTOR15", [("all", 15), ("ardupilotmega", 15), ("asluav", 15), ("avssuas", 15), ("common", 15), ("cubepilot", 15), ("development", 15), ("matrixpilot", 15), ("paparazzi", 15), ("pythonarraytest", 15), ("storm32", 15), ("ualberta", 15), ("uavionix", 15)]),
  ("ACTUATOR_OUTPUT_FUNCTION_MOTOR16", [("all", 16), ("ardupilotmega", 16), ("asluav", 16), ("avssuas", 16), ("common", 16), ("cubepilot", 16), ("development", 16), ("matrixpilot", 16), ("paparazzi", 16), ("pythonarraytest", 16), ("storm32", 16), ("ualberta", 16), ("uavionix", 16)]),
  ("ACTUATOR_OUTPUT_FUNCTION_MOTOR2", [("all", 2), ("ardupilotmega", 2), ("asluav", 2), ("avssuas", 2), ("common", 2), ("cubepilot", 2), ("development", 2), ("matrixpilot", 2), ("paparazzi", 2), ("pythonarraytest", 2), ("storm32", 2), ("ualberta", 2), ("uavionix", 2)]),
  ("ACTUATOR_OUTPUT_FUNCTION_MOTOR3", [("all", 3), ("ardupilotmega", 3), ("asluav", 3), ("avssuas", 3), ("common", 3), ("cubepilot", 3), ("development", 3), ("matrixpilot", 3), ("paparazzi", 3), ("pythonarraytest", 3), ("storm32", 3), ("ualberta", 3), ("uavionix", 3)]),
  ("ACTUATOR_OUTPUT_FUNCTION_MOTOR4", [("all", 4), ("ardupilotmega", 4), ("asluav", 4), ("avssuas", 4), ("common", 4), ("cubepilot", 4), ("development", 4), ("matrixpilot", 4), ("paparazzi", 4), ("pythonarraytest", 4), ("storm32", 4), ("ualberta", 4), ("uavionix", 4)]),
  ("ACTUATOR_OUTPUT_FUNCTION_MOTOR5", [("all", 5), ("ardupilotmega", 5), ("asluav", 5), ("avssuas", 5), ("common", 5), ("cubepilot", 5), ("development", 5), ("matrixpilot", 5), ("paparazzi", 5), ("pythonarraytest", 5), ("storm32", 5), ("ualberta", 5), ("uavionix", 5)]),
  ("ACTUATOR_OUTPUT_FUNCTION_MOTOR6", [("all", 6), ("ardupilotmega", 6), ("asluav", 6), ("avssuas", 6), ("common", 6), ("cubepilot", 6), ("development", 6), ("matrixpilot", 6), ("paparazzi", 6), ("pythonarraytest", 6), ("storm32", 6), ("ualberta", 6), ("uavionix", 6)]),
  ("ACTUATOR_OUTPUT_FUNCTION_MOTOR7", [("all", 7), ("ardupilotmega", 7), ("asluav", 7), ("avssuas", 7), ("common", 7), ("cubepilot", 7), ("development", 7), ("matrixpilot", 7), ("paparazzi", 7), ("pythonarraytest", 7), ("storm32", 7), ("ualberta", 7), ("uavionix", 7)]),
  ("ACTUATOR_OUTPUT_FUNCTION_MOTOR8", [("all", 8), ("ardupilotmega", 8), ("asluav", 8), ("avssuas", 8), ("common", 8), ("cubepilot", 8), ("development", 8), ("matrixpilot", 8), ("paparazzi", 8), ("pythonarraytest", 8), ("storm32", 8), ("ualberta", 8), ("uavionix", 8)]),
  ("ACTUATOR_OUTPUT_FUNCTION_MOTOR9", [("all", 9), ("ardupilotmega", 9), ("asluav", 9), ("avssuas", 9), ("common", 9), ("cubepilot", 9), ("development", 9), ("matrixpilot", 9), ("paparazzi", 9), ("pythonarraytest", 9), ("storm32", 9), ("ualberta", 9), ("uavionix", 9)]),
  ("ACTUATOR_OUTPUT_FUNCTION_NONE", [("all", 0), ("ardupilotmega", 0), ("asluav", 0), ("avssuas", 0), ("common", 0), ("cubepilot", 0), ("development", 0), ("matrixpilot", 0), ("paparazzi", 0), ("pythonarraytest", 0), ("storm32", 0), ("ualberta", 0), ("uavionix", 0)]),
  ("ACTUATOR_OUTPUT_FUNCTION_SERVO1", [("all", 33), ("ardupilotmega", 33), ("asluav", 33), ("avssuas", 33), ("common", 33), ("cubepilot", 33), ("development", 33), ("matrixpilot", 33), ("paparazzi", 33), ("pythonarraytest", 33), ("storm32", 33), ("ualberta", 33), ("uavionix", 33)]),
  ("ACTUATOR_OUTPUT_FUNCTION_SERVO10", [("all", 42), ("ardupilotmega", 42), ("asluav", 42), ("avssuas", 42), ("common", 42), ("cubepilot", 42), ("development", 42), ("matrixpilot", 42), ("paparazzi", 42), ("pythonarraytest", 42), ("storm32", 42), ("ualberta", 42), ("uavionix", 42)]),
  ("ACTUATOR_OUTPUT_FUNCTION_SERVO11", [("all", 43), ("ardupilotmega", 43), ("asluav", 43), ("avssuas", 43), ("common", 43), ("cubepilot", 43), ("development", 43), ("matrixpilot", 43), ("paparazzi", 43), ("pythonarraytest", 43), ("storm32", 43), ("ualberta", 43), ("uavionix", 43)]),
  ("ACTUATOR_OUTPUT_FUNCTION_SERVO12", [("all", 44), ("ardupilotmega", 44), ("asluav", 44), ("avssuas", 44), ("common", 44), ("cubepilot", 44), ("development", 44), ("matrixpilot", 44), ("paparazzi", 44), ("pythonarraytest", 44), ("storm32", 44), ("ualberta", 44), ("uavionix", 44)]),
  ("ACTUATOR_OUTPUT_FUNCTION_SERVO13", [("all", 45), ("ardupilotmega", 45), ("asluav", 45), ("avssuas", 45), ("common", 45), ("cubepilot", 45), ("development", 45), ("matrixpilot", 45), ("paparazzi", 45), ("pythonarraytest", 45), ("storm32", 45), ("ualberta", 45), ("uavionix", 45)]),
  ("ACTUATOR_OUTPUT_FUNCTION_SERVO14", [("all", 46), ("ardupilotmega", 46), ("asluav", 46), ("avssuas", 46), ("common", 46), ("cubepilot", 46), ("development", 46), ("matrixpilot", 46), ("paparazzi", 46), ("pythonarraytest", 46), ("storm32", 46), ("ualberta", 46), ("uavionix", 46)]),
  ("ACTUATOR_OUTPUT_FUNCTION_SERVO15", [("all", 47), ("ardupilotmega", 47), ("asluav", 47), ("avssuas", 47), ("common", 47), ("cubepilot", 47), ("development", 47), ("matrixpilot", 47), ("paparazzi", 47), ("pythonarraytest", 47), ("storm32", 47), ("ualberta", 47), ("uavionix", 47)]),
  ("ACTUATOR_OUTPUT_FUNCTION_SERVO16", [("all", 48), ("ardupilotmega", 48), ("asluav", 48), ("avssuas", 48), ("common", 48), ("cubepilot", 48), ("development", 48), ("matrixpilot", 48), ("paparazzi", 48), ("pythonarraytest", 48), ("storm32", 48), ("ualberta", 48), ("uavionix", 48)]),
  ("ACTUATOR_OUTPUT_FUNCTION_SERVO2", [("all", 34), ("ardupilotmega", 34), ("asluav", 34), ("avssuas", 34), ("common", 34), ("cubepilot", 34), ("development", 34), ("matrixpilot", 34), ("paparazzi", 34), ("pythonarraytest", 34), ("storm32", 34), ("ualberta", 34), ("uavionix", 34)]),
  ("ACTUATOR_OUTPUT_FUNCTION_SERVO3", [("all", 35), ("ardupilotmega", 35), ("asluav", 35), ("avssuas", 35), ("common", 35), ("cubepilot", 35), ("development", 35), ("matrixpilot", 35), ("paparazzi", 35), ("pythonarraytest", 35), ("storm32", 35), ("ualberta", 35), ("uavionix", 35)]),
  ("ACTUATOR_OUTPUT_FUNCTION_SERVO4", [("all", 36), ("ardupilotmega", 36), ("asluav", 36), ("avssuas", 36), ("common", 36), ("cubepilot", 36), ("development", 36), ("matrixpilot", 36), ("paparazzi", 36), ("pythonarraytest", 36), ("storm32", 36), ("ualberta", 36), ("uavionix", 36)]),
  ("ACTUATOR_OUTPUT_FUNCTION_SERVO5", [("all", 37), ("ardupilotmega", 37), ("asluav", 37), ("avssuas", 37), ("common", 37), ("cubepilot", 37), ("development", 37), ("matrixpilot", 37), ("paparazzi", 37), ("pythonarraytest", 37), ("storm32", 37), ("ualberta", 37), ("uavionix", 37)]),
  ("ACTUATOR_OUTPUT_FUNCTION_SERVO6", [("all", 38), ("ardupilotmega", 38), ("asluav", 38), ("avssuas", 38), ("common", 38), ("cubepilot", 38), ("development", 38), ("matrixpilot", 38), ("paparazzi", 38), ("pythonarraytest", 38), ("storm32", 38), ("ualberta", 38), ("uavionix", 38)]),
  ("ACTUATOR_OUTPUT_FUNCTION_SERVO7", [("all", 39), ("ardupilotmega", 39), ("asluav", 39), ("avssuas", 39), ("common", 39), ("cubepilot", 39), ("development", 39), ("matrixpilot", 39), ("paparazzi", 39), ("pythonarraytest", 39), ("storm32", 39), ("ualberta", 39), ("uavionix", 39)]),
  ("ACTUATOR_OUTPUT_FUNCTION_SERVO8", [("all", 40), ("ardupilotmega", 40), ("asluav", 40), ("avssuas", 40), ("common", 40), ("cubepilot", 40), ("development", 40), ("matrixpilot", 40), ("paparazzi", 40), ("pythonarraytest", 40), ("storm32", 40), ("ualberta", 40), ("uavionix", 40)]),
  ("ACTUATOR_OUTPUT_FUNCTION_SERVO9", [("all", 41), ("ardupilotmega", 41), ("asluav", 41), ("avssuas", 41), ("common", 41), ("cubepilot", 41), ("development", 41), ("matrixpilot", 41), ("paparazzi", 41), ("pythonarraytest", 41), ("storm32", 41), ("ualberta", 41), ("uavionix", 41)]),
  ("ADSB_ALTITUDE_TYPE_GEOMETRIC", [("all", 1), ("ardupilotmega", 1), ("asluav", 1), ("avssuas", 1), ("common", 1), ("cubepilot", 1), ("development", 1), ("matrixpilot", 1), ("paparazzi", 1), ("pythonarraytest", 1), ("storm32", 1), ("ualberta", 1), ("uavionix", 1)]),
  ("ADSB_ALTITUDE_TYPE_PRESSURE_QNH", [("all", 0), ("ardupilotmega", 0), ("asluav", 0), ("avssuas", 0), ("common", 0), ("cubepilot", 0), ("development", 0), ("matrixpilot", 0), ("paparazzi", 0), ("pythonarraytest", 0), ("storm32", 0), ("ualberta", 0), ("uavionix", 0)]),
  ("ADSB_EMITTER_TYPE_EMERGENCY_SURFACE", [("all", 17), ("ardupilotmega", 17), ("asluav", 17), ("avssuas", 17), ("common", 17), ("cubepilot", 17), ("development", 17), ("matrixpilot", 17), ("paparazzi", 17), ("pythonarraytest", 17), ("storm32", 17), ("ualberta", 17), ("uavionix", 17)]),
  ("ADSB_EMITTER_TYPE_GLIDER", [("all", 9), ("ardupilotmega", 9), ("asluav", 9), ("avssuas", 9), ("common", 9), ("cubepilot", 9), ("development", 9), ("matrixpilot", 9), ("paparazzi", 9), ("pythonarraytest", 9), ("storm32", 9), ("ualberta", 9), ("uavionix", 9)]),
  ("ADSB_EMITTER_TYPE_HEAVY", [("all", 5), ("ardupilotmega", 5), ("asluav", 5), ("avssuas", 5), ("common", 5), ("cubepilot", 5), ("development", 5), ("matrixpilot", 5), ("paparazzi", 5), ("pythonarraytest", 5), ("storm32", 5), ("ualberta", 5), ("uavionix", 5)]),
  ("ADSB_EMITTER_TYPE_HIGHLY_MANUV", [("all", 6), ("ardupilotmega", 6), ("asluav", 6), ("avssuas", 6), ("common", 6), ("cubepilot", 6), ("development", 6), ("matrixpilot", 6), ("paparazzi", 6), ("pythonarraytest", 6), ("storm32", 6), ("ualberta", 6), ("uavionix", 6)]),
  ("ADSB_EMITTER_TYPE_HIGH_VORTEX_LARGE", [("all", 4), ("ardupilotmega", 4), ("asluav", 4), ("avssuas", 4), ("common", 4), ("cubepilot", 4), ("development", 4), ("matrixpilot", 4), ("paparazzi", 4), ("pythonarraytest", 4), ("storm32", 4), ("ualberta", 4), ("uavionix", 4)]),
  ("ADSB_EMITTER_TYPE_LARGE", [("all", 3), ("ardupilotmega", 3), ("asluav", 3), ("avssuas", 3), ("common", 3), ("cubepilot", 3), ("development", 3), ("matrixpilot", 3), ("paparazzi", 3), ("pythonarraytest", 3), ("storm32", 3), ("ualberta", 3), ("uavionix", 3)]),
  ("ADSB_EMITTER_TYPE_LIGHT", [("all", 1), ("ardupilotmega", 1), ("asluav", 1), ("avssuas", 1), ("common", 1), ("cubepilot", 1), ("development", 1), ("matrixpilot", 1), ("paparazzi", 1), ("pythonarraytest", 1), ("storm32", 1), ("ualberta", 1), ("uavionix", 1)]),
  ("ADSB_EMITTER_TYPE_LIGHTER_AIR", [("all", 10), ("ardupilotmega", 10), ("asluav", 10), ("avssuas", 10), ("common", 10), ("cubepilot", 10), ("development", 10), ("matrixpilot", 10), ("paparazzi", 10), ("pythonarraytest", 10), ("storm32", 10), ("ualberta", 10), ("uavionix", 10)]),
  ("ADSB_EMITTER_TYPE_NO_INFO", [("all", 0), ("ardupilotmega", 0), ("asluav", 0), ("avssuas", 0), ("common", 0), ("cubepilot", 0), ("development", 0), ("matrixpilot", 0), ("paparazzi", 0), ("pythonarraytest", 0), ("storm32", 0), ("ualberta", 0), ("uavionix", 0)]),
  ("ADSB_EMITTER_TYPE_PARACHUTE", [("all", 11), ("ardupilotmega", 11), ("asluav", 11), ("avssuas", 11), ("common", 11), ("cubepilot", 11), ("development", 11), ("matrixpilot", 11), ("paparazzi", 11), ("pythonarraytest", 11), ("storm32", 11), ("ualberta", 11), ("uavionix", 11)]),
  ("ADSB_EMITTER_TYPE_POINT_OBSTACLE", [("all", 19), ("ardupilotmega", 19), ("asluav", 19), ("avssuas", 19), ("common", 19), ("cubepilot", 19), ("development", 19), ("matrixpilot", 19), ("paparazzi", 19), ("pythonarraytest", 19), ("storm32", 19), ("ualberta", 19), ("uavionix", 19)])]
def constGroups_1 : List (String × List (String × Nat)) := [
  ("ADSB_EMITTER_TYPE_ROTOCRAFT", [("all", 7), ("ardupilotmega", 7), ("asluav", 7), ("avssuas", 7), ("common", 7), ("cubepilot", 7), ("development", 7), ("matrixpilot", 7), ("paparazzi", 7), ("pythonarraytest", 7), ("storm32", 7), ("ualberta", 7), ("uavionix", 7)]),
  ("ADSB_EMITTER_TYPE_SERVICE_SURFACE", [("all", 18), ("ardupilotmega", 18), ("asluav", 18), ("avssuas", 18), ("common", 18), ("cubepilot", 18), ("development", 18), ("matrixpilot", 18), ("paparazzi", 18), ("pythonarraytest", 18), ("storm32", 18), ("ualberta", 18), ("uavionix", 18)]),
  ("ADSB_EMITTER_TYPE_SMALL", [("all", 2), ("ardupilotmega", 2), ("asluav", 2), ("avssuas", 2), ("common", 2), ("cubepilot", 2), ("development", 2), ("matrixpilot", 2), ("paparazzi", 2), ("pythonarraytest", 2), ("storm32", 2), ("ualberta", 2), ("uavionix", 2)]),
  ("ADSB_EMITTER_TYPE_SPACE", [("all", 15), ("ardupilotmega", 15), ("asluav", 15), ("avssuas", 15), ("common", 15), ("cubepilot", 15), ("development", 15), ("matrixpilot", 15), ("paparazzi", 15), ("pythonarraytest", 15), ("storm32", 15), ("ualberta", 15), ("uavionix", 15)]),
  ("ADSB_EMITTER_TYPE_UAV", [("all", 14), ("ardupilotmega", 14), ("asluav", 14), ("avssuas", 14), ("common", 14), ("cubepilot", 14), ("development", 14), ("matrixpilot", 14), ("paparazzi", 14), ("pythonarraytest", 14), ("storm32", 14), ("ualberta", 14), ("uavionix", 14)]),
  ("ADSB_EMITTER_TYPE_ULTRA_LIGHT", [("all", 12), ("ardupilotmega", 12), ("asluav", 12), ("avssuas", 12), ("common", 12), ("cubepilot", 12), ("development", 12), ("matrixpilot", 12), ("paparazzi", 12), ("pythonarraytest", 12), ("storm32", 12), ("ualberta", 12), ("uavionix", 12)]),
  ("ADSB_EMITTER_TYPE_UNASSGINED3", [("all", 16), ("ardupilotmega", 16), ("asluav", 16), ("avssuas", 16), ("common", 16), ("cubepilot", 16), ("development", 16), ("matrixpilot", 16), ("paparazzi", 16), ("pythonarraytest", 16), ("storm32", 16), ("ualberta", 16), ("uavionix", 16)]),
  ("ADSB_EMITTER_TYPE_UNASSIGNED", [("all", 8), ("ardupilotmega", 8), ("asluav", 8), ("avssuas", 8), ("common", 8), ("cubepilot", 8), ("development", 8), ("matrixpilot", 8), ("paparazzi", 8), ("pythonarraytest", 8), ("storm32", 8), ("ualberta", 8), ("uavionix", 8)]),
  ("ADSB_EMITTER_TYPE_UNASSIGNED2", [("all", 13), ("ardupilotmega", 13), ("asluav", 13), ("avssuas", 13), ("common", 13), ("cubepilot", 13), ("development", 13), ("matrixpilot", 13), ("paparazzi", 13), ("pythonarraytest", 13), ("storm32", 13), ("ualberta", 13), ("uavionix", 13)]),
  ("ADSB_FLAGS_BARO_VALID", [("all", 256), ("ardupilotmega", 256), ("asluav", 256), ("avssuas", 256), ("common", 256), ("cubepilot", 256), ("development", 256), ("matrixpilot", 256), ("paparazzi", 256), ("pythonarraytest", 256), ("storm32", 256), ("ualberta", 256), ("uavionix", 256)]),
  ("ADSB_FLAGS_SIMULATED", [("all", 64), ("ardupilotmega", 64), ("asluav", 64), ("avssuas", 64), ("common", 64), ("cubepilot", 64), ("development", 64), ("matrixpilot", 64), ("paparazzi", 64), ("pythonarraytest", 64), ("storm32", 64), ("ualberta", 64), ("uavionix", 64)]),
  ("ADSB_FLAGS_SOURCE_UAT", [("all", 32768), ("ardupilotmega", 32768), ("asluav", 32768), ("avssuas", 32768), ("common", 32768), ("cubepilot", 32768), ("development", 32768), ("matrixpilot", 32768), ("paparazzi", 32768), ("pythonarraytest", 32768), ("storm32", 32768), ("ualberta", 32768), ("uavionix", 32768)]),
  ("ADSB_FLAGS_VALID_ALTITUDE", [("all", 2), ("ardupilotmega", 2), ("asluav", 2), ("avssuas", 2), ("common", 2), ("cubepilot", 2), ("development", 2), ("matrixpilot", 2), ("paparazzi", 2), ("pythonarraytest", 2), ("storm32", 2), ("ualberta", 2), ("uavionix", 2)]),
  ("ADSB_FLAGS_VALID_CALLSIGN", [("all", 16), ("ardupilotmega", 16), ("asluav", 16), ("avssuas", 16), ("common", 16), ("cubepilot", 16), ("development", 16), ("matrixpilot", 16), ("paparazzi", 16), ("pythonarraytest", 16), ("storm32", 16), ("ualberta", 16), ("uavionix", 16)]),
  ("ADSB_FLAGS_VALID_COORDS", [("all", 1), ("ardupilotmega", 1), ("asluav", 1), ("avssuas", 1), ("common", 1), ("cubepilot", 1), ("development", 1), ("matrixpilot", 1), ("paparazzi", 1), ("pythonarraytest", 1), ("storm32", 1), ("ualberta", 1), ("uavionix", 1)]),
  ("ADSB_FLAGS_VALID_HEADING", [("all", 4), ("ardupilotmega", 4), ("asluav", 4), ("avssuas", 4), ("common", 4), ("cubepilot", 4), ("development", 4), ("matrixpilot", 4), ("paparazzi", 4), ("pythonarraytest", 4), ("storm32", 4), ("ualberta", 4), ("uavionix", 4)]),
  ("ADSB_FLAGS_VALID_SQUAWK", [("all", 32), ("ardupilotmega", 32), ("asluav", 32), ("avssuas", 32), ("common", 32), ("cubepilot", 32), ("development", 32), ("matrixpilot", 32), ("paparazzi", 32), ("pythonarraytest", 32), ("storm32", 32), ("ualberta", 32), ("uavionix", 32)]),
  ("ADSB_FLAGS_VALID_VELOCITY", [("all", 8), ("ardupilotmega", 8), ("asluav", 8), ("avssuas", 8), ("common", 8), ("cubepilot", 8), ("development", 8), ("matrixpilot", 8), ("paparazzi", 8), ("pythonarraytest", 8), ("storm32", 8), ("ualberta", 8), ("uavionix", 8)]),
  ("ADSB_FLAGS_VERTICAL_VELOCITY_VALID", [("all", 128), ("ardupilotmega", 128), ("asluav", 128), ("avssuas", 128), ("common", 128), ("cubepilot", 128), ("development", 128), ("matrixpilot", 128), ("paparazzi", 128), ("pythonarraytest", 128), ("storm32", 128), ("ualberta", 128), ("uavionix", 128)]),
  ("AIRLINK_AUTH_OK", [("all", 1), ("ardupilotmega", 1), ("csairlink", 1), ("storm32", 1)]),
  ("AIRLINK_ERROR_LOGIN_OR_PASS", [("all", 0), ("ardupilotmega", 0), ("csairlink", 0), ("storm32", 0)]),
  ("AIRLINK_HPR_PARTNER_NOT_READY", [("all", 0), ("ardupilotmega", 0), ("csairlink", 0), ("storm32", 0)]),
  ("AIRLINK_HPR_PARTNER_READY", [("all", 1), ("ardupilotmega", 1), ("csairlink", 1), ("storm32", 1)]),
  ("AIRLINK_HP_BROKEN", [("all", 1), ("ardupilotmega", 1), ("csairlink", 1), ("storm32", 1)]),
  ("AIRLINK_HP_NOT_PENETRATED", [("all", 0), ("ardupilotmega", 0), ("csairlink", 0), ("storm32", 0)]),
  ("AIRLINK_IP_V4", [("all", 0), ("ardupilotmega", 0), ("csairlink", 0), ("storm32", 0)]),
  ("AIRLINK_IP_V6", [("all", 1), ("ardupilotmega", 1), ("csairlink", 1), ("storm32", 1)]),
  ("AIRLINK_TURN_INIT_BAD", [("all", 2), ("ardupilotmega", 2), ("csairlink", 2), ("storm32", 2)]),
  ("AIRLINK_TURN_INIT_OK", [("all", 1), ("ardupilotmega", 1), ("csairlink", 1), ("storm32", 1)]),
  ("AIRLINK_TURN_INIT_START", [("all", 0), ("ardupilotmega", 0), ("csairlink", 0), ("storm32", 0)]),
  ("AIRSPEED_SENSOR_UNHEALTHY", [("all", 1), ("development", 1)]),
  ("AIRSPEED_SENSOR_USING", [("all", 2), ("development", 2)]),
  ("AIS_FLAGS_HIGH_VELOCITY", [("all", 8), ("ardupilotmega", 8), ("asluav", 8), ("avssuas", 8), ("common", 8), ("cubepilot", 8), ("development", 8), ("matrixpilot", 8), ("paparazzi", 8), ("pythonarraytest", 8), ("storm32", 8), ("ualberta", 8), ("uavionix", 8)]),
  ("AIS_FLAGS_LARGE_BOW_DIMENSION", [("all", 128), ("ardupilotmega", 128), ("asluav", 128), ("avssuas", 128), ("common", 128), ("cubepilot", 128), ("development", 128), ("matrixpilot", 128), ("paparazzi", 128), ("pythonarraytest", 128), ("storm32", 128), ("ualberta", 128), ("uavionix", 128)]),
  ("AIS_FLAGS_LARGE_PORT_DIMENSION", [("all", 512), ("ardupilotmega", 512), ("asluav", 512), ("avssuas", 512), ("common", 512), ("cubepilot", 512), ("development", 512), ("matrixpilot", 512), ("paparazzi", 512), ("pythonarraytest", 512), ("storm32", 512), ("ualberta", 512), ("uavionix", 512)]),
  ("AIS_FLAGS_LARGE_STARBOARD_DIMENSION", [("all", 1024), ("ardupilotmega", 1024), ("asluav", 1024), ("avssuas", 1024), ("common", 1024), ("cubepilot", 1024), ("development", 1024), ("matrixpilot", 1024), ("paparazzi", 1024), ("pythonarraytest", 1024), ("storm32", 1024), ("ualberta", 1024), ("uavionix", 1024)]),
  ("AIS_FLAGS_LARGE_STERN_DIMENSION", [("all", 256), ("ardupilotmega", 256), ("asluav", 256), ("avssuas", 256), ("common", 256), ("cubepilot", 256), ("development", 256), ("matrixpilot", 256), ("paparazzi", 256), ("pythonarraytest", 256), ("storm32", 256), ("ualberta", 256), ("uavionix", 256)]),
  ("AIS_FLAGS_POSITION_ACCURACY", [("all", 1), ("ardupilotmega", 1), ("asluav", 1), ("avssuas", 1), ("common", 1), ("cubepilot", 1), ("development", 1), ("matrixpilot", 1), ("paparazzi", 1), ("pythonarraytest", 1), ("storm32", 1), ("ualberta", 1), ("uavionix", 1)]),
  ("AIS_FLAGS_TURN_RATE_SIGN_ONLY", [("all", 32), ("ardupilotmega", 32), ("asluav", 32), ("avssuas", 32), ("common", 32), ("cubepilot", 32), ("development", 32), ("matrixpilot", 32), ("paparazzi", 32), ("pythonarraytest", 32), ("storm32", 32), ("ualberta", 32), ("uavionix", 32)]),
  ("AIS_FLAGS_VALID_CALLSIGN", [("all", 2048), ("ardupilotmega", 2048), ("asluav", 2048), ("avssuas", 2048), ("common", 2048), ("cubepilot", 2048), ("development", 2048), ("matrixpilot", 2048), ("paparazzi", 2048), ("pythonarraytest", 2048), ("storm32", 2048), ("ualberta", 2048), ("uavionix", 2048)]),
  ("AIS_FLAGS_VALID_COG", [("all", 2), ("ardupilotmega", 2), ("asluav", 2), ("avssuas", 2), ("common", 2), ("cubepilot", 2), ("development", 2), ("matrixpilot", 2), ("paparazzi", 2), ("pythonarraytest", 2), ("storm32", 2), ("ualberta", 2), ("uavionix", 2)]),
  ("AIS_FLAGS_VALID_DIMENSIONS", [("all", 64), ("ardupilotmega", 64), ("asluav", 64), ("avssuas", 64), ("common", 64), ("cubepilot", 64), ("development", 64), ("matrixpilot", 64), ("paparazzi", 64), ("pythonarraytest", 64), ("storm32", 64), ("ualberta", 64), ("uavionix", 64)]),
  ("AIS_FLAGS_VALID_NAME", [("all", 4096), ("ardupilotmega", 4096), ("asluav", 4096), ("avssuas", 4096), ("common", 4096), ("cubepilot", 4096), ("development", 4096), ("matrixpilot", 4096), ("paparazzi", 4096), ("pythonarraytest", 4096), ("storm32", 4096), ("ualberta", 4096), ("uavionix", 4096)]),
  ("AIS_FLAGS_VALID_TURN_RATE", [("all", 16), ("ardupilotmega", 16), ("asluav", 16), ("avssuas", 16), ("common", 16), ("cubepilot", 16), ("development", 16), ("matrixpilot", 16), ("paparazzi", 16), ("pythonarraytest", 16), ("storm32", 16), ("ualberta", 16), ("uavionix", 16)]),
  ("AIS_FLAGS_VALID_VELOCITY", [("all", 4), ("ardupilotmega", 4), ("asluav", 4), ("avssuas", 4), ("common", 4), ("cubepilot", 4), ("development", 4), ("matrixpilot", 4), ("paparazzi", 4), ("pythonarraytest", 4), ("storm32", 4), ("ualberta", 4), ("uavionix", 4)]),
  ("AIS_NAV_AGROUND", [("all", 6), ("ardupilotmega", 6), ("asluav", 6), ("avssuas", 6), ("common", 6), ("cubepilot", 6), ("development", 6), ("matrixpilot", 6), ("paparazzi", 6), ("pythonarraytest", 6), ("storm32", 6), ("ualberta", 6), ("uavionix", 6)]),
  ("AIS_NAV_AIS_SART", [("all", 14), ("ardupilotmega", 14), ("asluav", 14), ("avssuas", 14), ("common", 14), ("cubepilot", 14), ("development", 14), ("matrixpilot", 14), ("paparazzi", 14), ("pythonarraytest", 14), ("storm32", 14), ("ualberta", 14), ("uavionix", 14)]),
  ("AIS_NAV_ANCHORED", [("all", 1), ("ardupilotmega", 1), ("asluav", 1), ("avssuas", 1), ("common", 1), ("cubepilot", 1), ("development", 1), ("matrixpilot", 1), ("paparazzi", 1), ("pythonarraytest", 1), ("storm32", 1), ("ualberta", 1), ("uavionix", 1)]),
  ("AIS_NAV_DRAUGHT_CONSTRAINED", [("all", 4), ("ardupilotmega", 4), ("asluav", 4), ("avssuas", 4), ("common", 4), ("cubepilot", 4), ("development", 4), ("matrixpilot", 4), ("paparazzi", 4), ("pythonarraytest", 4), ("storm32", 4), ("ualberta", 4), ("uavionix", 4)]),
  ("AIS_NAV_FISHING", [("all", 7), ("ardupilotmega", 7), ("asluav", 7), ("avssuas", 7), ("common", 7), ("cubepilot", 7), ("development", 7), ("matrixpilot", 7), ("paparazzi", 7), ("pythonarraytest", 7), ("storm32", 7), ("ualberta", 7), ("uavionix", 7)]),
  ("AIS_NAV_MOORED", [("all", 5), ("ardupilotmega", 5), ("asluav", 5), ("avssuas", 5), ("common", 5), ("cubepilot", 5), ("development", 5), ("matrixpilot", 5), ("paparazzi", 5), ("pythonarraytest", 5), ("storm32", 5), ("ualberta", 5), ("uavionix", 5)]),
  ("AIS_NAV_RESERVED_1", [("all", 11), ("ardupilotmega", 11), ("asluav", 11), ("avssuas", 11), ("common", 11), ("cubepilot", 11), ("development", 11), ("matrixpilot", 11), ("paparazzi", 11), ("pythonarraytest", 11), ("storm32", 11), ("ualberta", 11), ("uavionix", 11)]),
  ("AIS_NAV_RESERVED_2", [("all", 12), ("ardupilotmega", 12), ("asluav", 12), ("avssuas", 12), ("common", 12), ("cubepilot", 12), ("development", 12), ("matrixpilot", 12), ("paparazzi", 12), ("pythonarraytest", 12), ("storm32", 12), ("ualberta", 12), ("uavionix", 12)]),
  ("AIS_NAV_RESERVED_3", [("all", 13), ("ardupilotmega", 13), ("asluav", 13), ("avssuas", 13), ("common", 13), ("cubepilot", 13), ("development", 13), ("matrixpilot", 13), ("paparazzi", 13), ("pythonarraytest", 13), ("storm32", 13), ("ualberta", 13), ("uavionix", 13)]),
  ("AIS_NAV_RESERVED_HSC", [("all", 9), ("ardupilotmega", 9), ("asluav", 9), ("avssuas", 9), ("common", 9), ("cubepilot", 9), ("development", 9), ("matrixpilot", 9), ("paparazzi", 9), ("pythonarraytest", 9), ("storm32", 9), ("ualberta", 9), ("uavionix", 9)]),
  ("AIS_NAV_RESERVED_WIG", [("all", 10), ("ardupilotmega", 10), ("asluav", 10), ("avssuas", 10), ("common", 10), ("cubepilot", 10), ("development", 10), ("matrixpilot", 10), ("paparazzi", 10), ("pythonarraytest", 10), ("storm32", 10), ("ualberta", 10), ("uavionix", 10)]),
  ("AIS_NAV_RESTRICTED_MANOEUVERABILITY", [("all", 3), ("ardupilotmega", 3), ("asluav", 3), ("avssuas", 3), ("common", 3), ("cubepilot", 3), ("development", 3), ("matrixpilot", 3), ("paparazzi", 3), ("pythonarraytest", 3), ("storm32", 3), ("ualberta", 3), ("uavionix", 3)]),
  ("AIS_NAV_SAILING", [("all", 8), ("ardupilotmega", 8), ("asluav", 8), ("avssuas", 8), ("common", 8), ("cubepilot", 8), ("development", 8), ("matrixpilot", 8), ("paparazzi", 8), ("pythonarraytest", 8), ("storm32", 8), ("ualberta", 8), ("uavionix", 8)]),
  ("AIS_NAV_UNKNOWN", [("all", 15), ("ardupilotmega", 15), ("asluav", 15), ("avssuas", 15), ("common", 15), ("cubepilot", 15), ("development", 15), ("matrixpilot", 15), ("paparazzi", 15), ("pythonarraytest", 15), ("storm32", 15), ("ualberta", 15), ("uavionix", 15)]),
  ("AIS_NAV_UN_COMMANDED", [("all", 2), ("ardupilotmega", 2), ("asluav", 2), ("avssuas", 2), ("common", 2), ("cubepilot", 2), ("development", 2), ("matrixpilot", 2), ("paparazzi", 2), ("pythonarraytest", 2), ("storm32", 2), ("ualberta", 2), ("uavionix", 2)])]
def constGroups_2 : List (String × List (String × Nat)) := [
  ("AIS_TYPE_ANTI_POLLUTION", [("all", 54), ("ardupilotmega", 54), ("asluav", 54), ("avssuas", 54), ("common", 54), ("cubepilot", 54), ("development", 54), ("matrixpilot", 54), ("paparazzi", 54), ("pythonarraytest", 54), ("storm32", 54), ("ualberta", 54), ("uavionix", 54)]),
  ("AIS_TYPE_CARGO", [("all", 70), ("ardupilotmega", 70), ("asluav", 70), ("avssuas", 70), ("common", 70), ("cubepilot", 70), ("development", 70), ("matrixpilot", 70), ("paparazzi", 70), ("pythonarraytest", 70), ("storm32", 70), ("ualberta", 70), ("uavionix", 70)]),
  ("AIS_TYPE_CARGO_HAZARDOUS_A", [("all", 71), ("ardupilotmega", 71), ("asluav", 71), ("avssuas", 71), ("common", 71), ("cubepilot", 71), ("development", 71), ("matrixpilot", 71), ("paparazzi", 71), ("pythonarraytest", 71), ("storm32", 71), ("ualberta", 71), ("uavionix", 71)]),
  ("AIS_TYPE_CARGO_HAZARDOUS_B", [("all", 72), ("ardupilotmega", 72), ("asluav", 72), ("avssuas", 72), ("common", 72), ("cubepilot", 72), ("development", 72), ("matrixpilot", 72), ("paparazzi", 72), ("pythonarraytest", 72), ("storm32", 72), ("ualberta", 72), ("uavionix", 72)]),
  ("AIS_TYPE_CARGO_HAZARDOUS_C", [("all", 73), ("ardupilotmega", 73), ("asluav", 73), ("avssuas", 73), ("common", 73), ("cubepilot", 73), ("development", 73), ("matrixpilot", 73), ("paparazzi", 73), ("pythonarraytest", 73), ("storm32", 73), ("ualberta", 73), ("uavionix", 73)]),
  ("AIS_TYPE_CARGO_HAZARDOUS_D", [("all", 74), ("ardupilotmega", 74), ("asluav", 74), ("avssuas", 74), ("common", 74), ("cubepilot", 74), ("development", 74), ("matrixpilot", 74), ("paparazzi", 74), ("pythonarraytest", 74), ("storm32", 74), ("ualberta", 74), ("uavionix", 74)]),
  ("AIS_TYPE_CARGO_RESERVED_1", [("all", 75), ("ardupilotmega", 75), ("asluav", 75), ("avssuas", 75), ("common", 75), ("cubepilot", 75), ("development", 75), ("matrixpilot", 75), ("paparazzi", 75), ("pythonarraytest", 75), ("storm32", 75), ("ualberta", 75), ("uavionix", 75)]),
  ("AIS_TYPE_CARGO_RESERVED_2", [("all", 76), ("ardupilotmega", 76), ("asluav", 76), ("avssuas", 76), ("common", 76), ("cubepilot", 76), ("development", 76), ("matrixpilot", 76), ("paparazzi", 76), ("pythonarraytest", 76), ("storm32", 76), ("ualberta", 76), ("uavionix", 76)]),
  ("AIS_TYPE_CARGO_RESERVED_3", [("all", 77), ("ardupilotmega", 77), ("asluav", 77), ("avssuas", 77), ("common", 77), ("cubepilot", 77), ("development", 77), ("matrixpilot", 77), ("paparazzi", 77), ("pythonarraytest", 77), ("storm32", 77), ("ualberta", 77), ("uavionix", 77)]),
  ("AIS_TYPE_CARGO_RESERVED_4", [("all", 78), ("ardupilotmega", 78), ("asluav", 78), ("avssuas", 78), ("common", 78), ("cubepilot", 78), ("development", 78), ("matrixpilot", 78), ("paparazzi", 78), ("pythonarraytest", 78), ("storm32", 78), ("ualberta", 78), ("uavionix", 78)]),
  ("AIS_TYPE_CARGO_UNKNOWN", [("all", 79), ("ardupilotmega", 79), ("asluav", 79), ("avssuas", 79), ("common", 79), ("cubepilot", 79), ("development", 79), ("matrixpilot", 79), ("paparazzi", 79), ("pythonarraytest", 79), ("storm32", 79), ("ualberta", 79), ("uavionix", 79)]),
  ("AIS_TYPE_DIVING", [("all", 34), ("ardupilotmega", 34), ("asluav", 34), ("avssuas", 34), ("common", 34), ("cubepilot", 34), ("development", 34), ("matrixpilot", 34), ("paparazzi", 34), ("pythonarraytest", 34), ("storm32", 34), ("ualberta", 34), ("uavionix", 34)]),
  ("AIS_TYPE_DREDGING", [("all", 33), ("ardupilotmega", 33), ("asluav", 33), ("avssuas", 33), ("common", 33), ("cubepilot", 33), ("development", 33), ("matrixpilot", 33), ("paparazzi", 33), ("pythonarraytest", 33), ("storm32", 33), ("ualberta", 33), ("uavionix", 33)]),
  ("AIS_TYPE_FISHING", [("all", 30), ("ardupilotmega", 30), ("asluav", 30), ("avssuas", 30), ("common", 30), ("cubepilot", 30), ("development", 30), ("matrixpilot", 30), ("paparazzi", 30), ("pythonarraytest", 30), ("storm32", 30), ("ualberta", 30), ("uavionix", 30)]),
  ("AIS_TYPE_HSC", [("all", 40), ("ardupilotmega", 40), ("asluav", 40), ("avssuas", 40), ("common", 40), ("cubepilot", 40), ("development", 40), ("matrixpilot", 40), ("paparazzi", 40), ("pythonarraytest", 40), ("storm32", 40), ("ualberta", 40), ("uavionix", 40)]),
  ("AIS_TYPE_HSC_HAZARDOUS_A", [("all", 41), ("ardupilotmega", 41), ("asluav", 41), ("avssuas", 41), ("common", 41), ("cubepilot", 41), ("development", 41), ("matrixpilot", 41), ("paparazzi", 41), ("pythonarraytest", 41), ("storm32", 41), ("ualberta", 41), ("uavionix", 41)]),
  ("AIS_TYPE_HSC_HAZARDOUS_B", [("all", 42), ("ardupilotmega", 42), ("asluav", 42), ("avssuas", 42), ("common", 42), ("cubepilot", 42), ("development", 42), ("matrixpilot", 42), ("paparazzi", 42), ("pythonarraytest", 42), ("storm32", 42), ("ualberta", 42), ("uavionix", 42)]),
  ("AIS_TYPE_HSC_HAZARDOUS_C", [("all", 43), ("ardupilotmega", 43), ("asluav", 43), ("avssuas", 43), ("common", 43), ("cubepilot", 43), ("development", 43), ("matrixpilot", 43), ("paparazzi", 43), ("pythonarraytest", 43), ("storm32", 43), ("ualberta", 43), ("uavionix", 43)]),
  ("AIS_TYPE_HSC_HAZARDOUS_D", [("all", 44), ("ardupilotmega", 44), ("asluav", 44), ("avssuas", 44), ("common", 44), ("cubepilot", 44), ("development", 44), ("matrixpilot", 44), ("paparazzi", 44), ("pythonarraytest", 44), ("storm32", 44), ("ualberta", 44), ("uavionix", 44)]),
  ("AIS_TYPE_HSC_RESERVED_1", [("all", 45), ("ardupilotmega", 45), ("asluav", 45), ("avssuas", 45), ("common", 45), ("cubepilot", 45), ("development", 45), ("matrixpilot", 45), ("paparazzi", 45), ("pythonarraytest", 45), ("storm32", 45), ("ualberta", 45), ("uavionix", 45)]),
  ("AIS_TYPE_HSC_RESERVED_2", [("all", 46), ("ardupilotmega", 46), ("asluav", 46), ("avssuas", 46), ("common", 46), ("cubepilot", 46), ("development", 46), ("matrixpilot", 46), ("paparazzi", 46), ("pythonarraytest", 46), ("storm32", 46), ("ualberta", 46), ("uavionix", 46)]),
  ("AIS_TYPE_HSC_RESERVED_3", [("all", 47), ("ardupilotmega", 47), ("asluav", 47), ("avssuas", 47), ("common", 47), ("cubepilot", 47), ("development", 47), ("matrixpilot", 47), ("paparazzi", 47), ("pythonarraytest", 47), ("storm32", 47), ("ualberta", 47), ("uavionix", 47)]),
  ("AIS_TYPE_HSC_RESERVED_4", [("all", 48), ("ardupilotmega", 48), ("asluav", 48), ("avssuas", 48), ("common", 48), ("cubepilot", 48), ("development", 48), ("matrixpilot", 48), ("paparazzi", 48), ("pythonarraytest", 48), ("storm32", 48), ("ualberta", 48), ("uavionix", 48)]),
  ("AIS_TYPE_HSC_UNKNOWN", [("all", 49), ("ardupilotmega", 49), ("asluav", 49), ("avssuas", 49), ("common", 49), ("cubepilot", 49), ("development", 49), ("matrixpilot", 49), ("paparazzi", 49), ("pythonarraytest", 49), ("storm32", 49), ("ualberta", 49), ("uavionix", 49)]),
  ("AIS_TYPE_LAW_ENFORCEMENT", [("all", 55), ("ardupilotmega", 55), ("asluav", 55), ("avssuas", 55), ("common", 55), ("cubepilot", 55), ("development", 55), ("matrixpilot", 55), ("paparazzi", 55), ("pythonarraytest", 55), ("storm32", 55), ("ualberta", 55), ("uavionix", 55)]),
  ("AIS_TYPE_MEDICAL_TRANSPORT", [("all", 58), ("ardupilotmega", 58), ("asluav", 58), ("avssuas", 58), ("common", 58), ("cubepilot", 58), ("development", 58), ("matrixpilot", 58), ("paparazzi", 58), ("pythonarraytest", 58), ("storm32", 58), ("ualberta", 58), ("uavionix", 58)]),
  ("AIS_TYPE_MILITARY", [("all", 35), ("ardupilotmega", 35), ("asluav", 35), ("avssuas", 35), ("common", 35), ("cubepilot", 35), ("development", 35), ("matrixpilot", 35), ("paparazzi", 35), ("pythonarraytest", 35), ("storm32", 35), ("ualberta", 35), ("uavionix", 35)]),
  ("AIS_TYPE_NONECOMBATANT", [("all", 59), ("ardupilotmega", 59), ("asluav", 59), ("avssuas", 59), ("common", 59), ("cubepilot", 59), ("development", 59), ("matrixpilot", 59), ("paparazzi", 59), ("pythonarraytest", 59), ("storm32", 59), ("ualberta", 59), ("uavionix", 59)]),
  ("AIS_TYPE_OTHER", [("all", 90), ("ardupilotmega", 90), ("asluav", 90), ("avssuas", 90), ("common", 90), ("cubepilot", 90), ("development", 90), ("matrixpilot", 90), ("paparazzi", 90), ("pythonarraytest", 90), ("storm32", 90), ("ualberta", 90), ("uavionix", 90)]),
  ("AIS_TYPE_OTHER_HAZARDOUS_A", [("all", 91), ("ardupilotmega", 91), ("asluav", 91), ("avssuas", 91), ("common", 91), ("cubepilot", 91), ("development", 91), ("matrixpilot", 91), ("paparazzi", 91), ("pythonarraytest", 91), ("storm32", 91), ("ualberta", 91), ("uavionix", 91)]),
  ("AIS_TYPE_OTHER_HAZARDOUS_B", [("all", 92), ("ardupilotmega", 92), ("asluav", 92), ("avssuas", 92), ("common", 92), ("cubepilot", 92), ("development", 92), ("matrixpilot", 92), ("paparazzi", 92), ("pythonarraytest", 92), ("storm32", 92), ("ualberta", 92), ("uavionix", 92)]),
  ("AIS_TYPE_OTHER_HAZARDOUS_C", [("all", 93), ("ardupilotmega", 93), ("asluav", 93), ("avssuas", 93), ("common", 93), ("cubepilot", 93), ("development", 93), ("matrixpilot", 93), ("paparazzi", 93), ("pythonarraytest", 93), ("storm32", 93), ("ualberta", 93), ("uavionix", 93)]),
  ("AIS_TYPE_OTHER_HAZARDOUS_D", [("all", 94), ("ardupilotmega", 94), ("asluav", 94), ("avssuas", 94), ("common", 94), ("cubepilot", 94), ("development", 94), ("matrixpilot", 94), ("paparazzi", 94), ("pythonarraytest", 94), ("storm32", 94), ("ualberta", 94), ("uavionix", 94)]),
  ("AIS_TYPE_OTHER_RESERVED_1", [("all", 95), ("ardupilotmega", 95), ("asluav", 95), ("avssuas", 95), ("common", 95), ("cubepilot", 95), ("development", 95), ("matrixpilot", 95), ("paparazzi", 95), ("pythonarraytest", 95), ("storm32", 95), ("ualberta", 95), ("uavionix", 95)]),
  ("AIS_TYPE_OTHER_RESERVED_2", [("all", 96), ("ardupilotmega", 96), ("asluav", 96), ("avssuas", 96), ("common", 96), ("cubepilot", 96), ("development", 96), ("matrixpilot", 96), ("paparazzi", 96), ("pythonarraytest", 96), ("storm32", 96), ("ualberta", 96), ("uavionix", 96)]),
  ("AIS_TYPE_OTHER_RESERVED_3", [("all", 97), ("ardupilotmega", 97), ("asluav", 97), ("avssuas", 97), ("common", 97), ("cubepilot", 97), ("development", 97), ("matrixpilot", 97), ("paparazzi", 97), ("pythonarraytest", 97), ("storm32", 97), ("ualberta", 97), ("uavionix", 97)]),
  ("AIS_TYPE_OTHER_RESERVED_4", [("all", 98), ("ardupilotmega", 98), ("asluav", 98), ("avssuas", 98), ("common", 98), ("cubepilot", 98), ("development", 98), ("matrixpilot", 98), ("paparazzi", 98), ("pythonarraytest", 98), ("storm32", 98), ("ualberta", 98), ("uavionix", 98)]),
  ("AIS_TYPE_OTHER_UNKNOWN", [("all", 99), ("ardupilotmega", 99), ("asluav", 99), ("avssuas", 99), ("common", 99), ("cubepilot", 99), ("development", 99), ("matrixpilot", 99), ("paparazzi", 99), ("pythonarraytest", 99), ("storm32", 99), ("ualberta", 99), ("uavionix", 99)]),
  ("AIS_TYPE_PASSENGER", [("all", 60), ("ardupilotmega", 60), ("asluav", 60), ("avssuas", 60), ("common", 60), ("cubepilot", 60), ("development", 60), ("matrixpilot", 60), ("paparazzi", 60), ("pythonarraytest", 60), ("storm32", 60), ("ualberta", 60), ("uavionix", 60)]),
  ("AIS_TYPE_PASSENGER_HAZARDOUS_A", [("all", 61), ("ardupilotmega", 61), ("asluav", 61), ("avssuas", 61), ("common", 61), ("cubepilot", 61), ("development", 61), ("matrixpilot", 61), ("paparazzi", 61), ("pythonarraytest", 61), ("storm32", 61), ("ualberta", 61), ("uavionix", 61)]),
  ("AIS_TYPE_PASSENGER_HAZARDOUS_B", [("all", 62), ("ardupilotmega", 62), ("asluav", 62), ("avssuas", 62), ("common", 62), ("cubepilot", 62), ("development", 62), ("matrixpilot", 62), ("paparazzi", 62), ("pythonarraytest", 62), ("storm32", 62), ("ualberta", 62), ("uavionix", 62)]),
  ("AIS_TYPE_PASSENGER_HAZARDOUS_C", [("all", 63), ("ardupilotmega", 63), ("asluav", 63), ("avssuas", 63), ("common", 63), ("cubepilot", 63), ("development", 63), ("matrixpilot", 63), ("paparazzi", 63), ("pythonarraytest", 63), ("storm32", 63), ("ualberta", 63), ("uavionix", 63)]),
  ("AIS_TYPE_PASSENGER_HAZARDOUS_D", [("all", 64), ("ardupilotmega", 64), ("asluav", 64), ("avssuas", 64), ("common", 64), ("cubepilot", 64), ("development", 64), ("matrixpilot", 64), ("paparazzi", 64), ("pythonarraytest", 64), ("storm32", 64), ("ualberta", 64), ("uavionix", 64)]),
  ("AIS_TYPE_PASSENGER_RESERVED_1", [("all", 65), ("ardupilotmega", 65), ("asluav", 65), ("avssuas", 65), ("common", 65), ("cubepilot", 65), ("development", 65), ("matrixpilot", 65), ("paparazzi", 65), ("pythonarraytest", 65), ("storm32", 65), ("ualberta", 65), ("uavionix", 65)]),
  ("AIS_TYPE_PASSENGER_RESERVED_2", [("all", 66), ("ardupilotmega", 66), ("asluav", 66), ("avssuas", 66), ("common", 66), ("cubepilot", 66), ("development", 66), ("matrixpilot", 66), ("paparazzi", 66), ("pythonarraytest", 66), ("storm32", 66), ("ualberta", 66), ("uavionix", 66)]),
  ("AIS_TYPE_PASSENGER_RESERVED_3", [("all", 67), ("ardupilotmega", 67), ("asluav", 67), ("avssuas", 67), ("common", 67), ("cubepilot", 67), ("development", 67), ("matrixpilot", 67), ("paparazzi", 67), ("pythonarraytest", 67), ("storm32", 67), ("ualberta", 67), ("uavionix", 67)]),
  ("AIS_TYPE_PASSENGER_RESERVED_4", [("all", 68), ("ardupilotmega", 68), ("asluav", 68), ("avssuas", 68), ("common", 68), ("cubepilot", 68), ("development", 68), ("matrixpilot", 68), ("paparazzi", 68), ("pythonarraytest", 68), ("storm32", 68), ("ualberta", 68), ("uavionix", 68)]),
  ("AIS_TYPE_PASSENGER_UNKNOWN", [("all", 69), ("ardupilotmega", 69), ("asluav", 69), ("avssuas", 69), ("common", 69), ("cubepilot", 69), ("development", 69), ("matrixpilot", 69), ("paparazzi", 69), ("pythonarraytest", 69), ("storm32", 69), ("ualberta", 69), ("uavionix", 69)]),
  ("AIS_TYPE_PILOT", [("all", 50), ("ardupilotmega", 50), ("asluav", 50), ("avssuas", 50), ("common", 50), ("cubepilot", 50), ("development", 50), ("matrixpilot", 50), ("paparazzi", 50), ("pythonarraytest", 50), ("storm32", 50), ("ualberta", 50), ("uavionix", 50)]),
  ("AIS_TYPE_PLEASURE", [("all", 37), ("ardupilotmega", 37), ("asluav", 37), ("avssuas", 37), ("common", 37), ("cubepilot", 37), ("development", 37), ("matrixpilot", 37), ("paparazzi", 37), ("pythonarraytest", 37), ("storm32", 37), ("ualberta", 37), ("uavionix", 37)]),
  ("AIS_TYPE_PORT_TENDER", [("all", 53), ("ardupilotmega", 53), ("asluav", 53), ("avssuas", 53), ("common", 53), ("cubepilot", 53), ("development", 53), ("matrixpilot", 53), ("paparazzi", 53), ("pythonarraytest", 53), ("storm32", 53), ("ualberta", 53), ("uavionix", 53)]),
  ("AIS_TYPE_RESERVED_1", [("all", 1), ("ardupilotmega", 1), ("asluav", 1), ("avssuas", 1), ("common", 1), ("cubepilot", 1), ("development", 1), ("matrixpilot", 1), ("paparazzi", 1), ("pythonarraytest", 1), ("storm32", 1), ("ualberta", 1), ("uavionix", 1)]),
  ("AIS_TYPE_RESERVED_10", [("all", 10), ("ardupilotmega", 10), ("asluav", 10), ("avssuas", 10), ("common", 10), ("cubepilot", 10), ("development", 10), ("matrixpilot", 10), ("paparazzi", 10), ("pythonarraytest", 10), ("storm32", 10), ("ualberta", 10), ("uavionix", 10)]),
  ("AIS_TYPE_RESERVED_11", [("all", 11), ("ardupilotmega", 11), ("asluav", 11), ("avssuas", 11), ("common", 11), ("cubepilot", 11), ("development", 11), ("matrixpilot", 11), ("paparazzi", 11), ("pythonarraytest", 11), ("storm32", 11), ("ualberta", 11), ("uavionix", 11)]),
  ("AIS_TYPE_RESERVED_12", [("all", 12), ("ardupilotmega", 12), ("asluav", 12), ("avssuas", 12), ("common", 12), ("cubepilot", 12), ("development", 12), ("matrixpilot", 12), ("paparazzi", 12), ("pythonarraytest", 12), ("storm32", 12), ("ualberta", 12), ("uavionix", 12)]),
  ("AIS_TYPE_RESERVED_13", [("all", 13), ("ardupilotmega", 13), ("asluav", 13), ("avssuas", 13), ("common", 13), ("cubepilot", 13), ("development", 13), ("matrixpilot", 13), ("paparazzi", 13), ("pythonarraytest", 13), ("storm32", 13), ("ualberta", 13), ("uavionix", 13)]),
  ("AIS_TYPE_RESERVED_14", [("all", 14), ("ardupilotmega", 14), ("asluav", 14), ("avssuas", 14), ("common", 14), ("cubepilot", 14), ("development", 14), ("matrixpilot", 14), ("paparazzi", 14), ("pythonarraytest", 14), ("storm32", 14), ("ualberta", 14), ("uavionix", 14)]),
  ("AIS_TYPE_RESERVED_15", [("all", 15), ("ardupilotmega", 15), ("asluav", 15), ("avssuas", 15), ("common", 15), ("cubepilot", 15), ("development", 15), ("matrixpilot", 15), ("paparazzi", 15), ("pythonarraytest", 15), ("storm32", 15), ("ualberta", 15), ("uavionix", 15)]),
  ("AIS_TYPE_RESERVED_16", [("all", 16), ("ardupilotmega", 16), ("asluav", 16), ("avssuas", 16), ("common", 16), ("cubepilot", 16), ("development", 16), ("matrixpilot", 16), ("paparazzi", 16), ("pythonarraytest", 16), ("storm32", 16), ("ualberta", 16), ("uavionix", 16)]),
  ("AIS_TYPE_RESERVED_17", [("all", 17), ("ardupilotmega", 17), ("asluav", 17), ("avssuas", 17), ("common", 17), ("cubepilot", 17), ("development", 17), ("matrixpilot", 17), ("paparazzi", 17), ("pythonarraytest", 17), ("storm32", 17), ("ualberta", 17), ("uavionix", 17)])]
def constGroups_3 : List (String × List (String × Nat)) := [
  ("AIS_TYPE_RESERVED_18", [("all", 18), ("ardupilotmega", 18), ("asluav", 18), ("avssuas", 18), ("common", 18), ("cubepilot", 18), ("development", 18), ("matrixpilot", 18), ("paparazzi", 18), ("pythonarraytest", 18), ("storm32", 18), ("ualberta", 18), ("uavionix", 18)]),
  ("AIS_TYPE_RESERVED_19", [("all", 19), ("ardupilotmega", 19), ("asluav", 19), ("avssuas", 19), ("common", 19), ("cubepilot", 19), ("development", 19), ("matrixpilot", 19), ("paparazzi", 19), ("pythonarraytest", 19), ("storm32", 19), ("ualberta", 19), ("uavionix", 19)]),
  ("AIS_TYPE_RESERVED_2", [("all", 2), ("ardupilotmega", 2), ("asluav", 2), ("avssuas", 2), ("common", 2), ("cubepilot", 2), ("development", 2), ("matrixpilot", 2), ("paparazzi", 2), ("pythonarraytest", 2), ("storm32", 2), ("ualberta", 2), ("uavionix", 2)]),
  ("AIS_TYPE_RESERVED_20", [("all", 38), ("ardupilotmega", 38), ("asluav", 38), ("avssuas", 38), ("common", 38), ("cubepilot", 38), ("development", 38), ("matrixpilot", 38), ("paparazzi", 38), ("pythonarraytest", 38), ("storm32", 38), ("ualberta", 38), ("uavionix", 38)]),
  ("AIS_TYPE_RESERVED_21", [("all", 39), ("ardupilotmega", 39), ("asluav", 39), ("avssuas", 39), ("common", 39), ("cubepilot", 39), ("development", 39), ("matrixpilot", 39), ("paparazzi", 39), ("pythonarraytest", 39), ("storm32", 39), ("ualberta", 39), ("uavionix", 39)]),
  ("AIS_TYPE_RESERVED_3", [("all", 3), ("ardupilotmega", 3), ("asluav", 3), ("avssuas", 3), ("common", 3), ("cubepilot", 3), ("development", 3), ("matrixpilot", 3), ("paparazzi", 3), ("pythonarraytest", 3), ("storm32", 3), ("ualberta", 3), ("uavionix", 3)]),
  ("AIS_TYPE_RESERVED_4", [("all", 4), ("ardupilotmega", 4), ("asluav", 4), ("avssuas", 4), ("common", 4), ("cubepilot", 4), ("development", 4), ("matrixpilot", 4), ("paparazzi", 4), ("pythonarraytest", 4), ("storm32", 4), ("ualberta", 4), ("uavionix", 4)]),
  ("AIS_TYPE_RESERVED_5", [("all", 5), ("ardupilotmega", 5), ("asluav", 5), ("avssuas", 5), ("common", 5), ("cubepilot", 5), ("development", 5), ("matrixpilot", 5), ("paparazzi", 5), ("pythonarraytest", 5), ("storm32", 5), ("ualberta", 5), ("uavionix", 5)]),
  ("AIS_TYPE_RESERVED_6", [("all", 6), ("ardupilotmega", 6), ("asluav", 6), ("avssuas", 6), ("common", 6), ("cubepilot", 6), ("development", 6), ("matrixpilot", 6), ("paparazzi", 6), ("pythonarraytest", 6), ("storm32", 6), ("ualberta", 6), ("uavionix", 6)]),
  ("AIS_TYPE_RESERVED_7", [("all", 7), ("ardupilotmega", 7), ("asluav", 7), ("avssuas", 7), ("common", 7), ("cubepilot", 7), ("development", 7), ("matrixpilot", 7), ("paparazzi", 7), ("pythonarraytest", 7), ("storm32", 7), ("ualberta", 7), ("uavionix", 7)]),
  ("AIS_TYPE_RESERVED_8", [("all", 8), ("ardupilotmega", 8), ("asluav", 8), ("avssuas", 8), ("common", 8), ("cubepilot", 8), ("development", 8), ("matrixpilot", 8), ("paparazzi", 8), ("pythonarraytest", 8), ("storm32", 8), ("ualberta", 8), ("uavionix", 8)]),
  ("AIS_TYPE_RESERVED_9", [("all", 9), ("ardupilotmega", 9), ("asluav", 9), ("avssuas", 9), ("common", 9), ("cubepilot", 9), ("development", 9), ("matrixpilot", 9), ("paparazzi", 9), ("pythonarraytest", 9), ("storm32", 9), ("ualberta", 9), ("uavionix", 9)]),
  ("AIS_TYPE_SAILING", [("all", 36), ("ardupilotmega", 36), ("asluav", 36), ("avssuas", 36), ("common", 36), ("cubepilot", 36), ("development", 36), ("matrixpilot", 36), ("paparazzi", 36), ("pythonarraytest", 36), ("storm32", 36), ("ualberta", 36), ("uavionix", 36)]),
  ("AIS_TYPE_SAR", [("all", 51), ("ardupilotmega", 51), ("asluav", 51), ("avssuas", 51), ("common", 51), ("cubepilot", 51), ("development", 51), ("matrixpilot", 51), ("paparazzi", 51), ("pythonarraytest", 51), ("storm32", 51), ("ualberta", 51), ("uavionix", 51)]),
  ("AIS_TYPE_SPARE_LOCAL_1", [("all", 56), ("ardupilotmega", 56), ("asluav", 56), ("avssuas", 56), ("common", 56), ("cubepilot", 56), ("development", 56), ("matrixpilot", 56), ("paparazzi", 56), ("pythonarraytest", 56), ("storm32", 56), ("ualberta", 56), ("uavionix", 56)]),
  ("AIS_TYPE_SPARE_LOCAL_2", [("all", 57), ("ardupilotmega", 57), ("asluav", 57), ("avssuas", 57), ("common", 57), ("cubepilot", 57), ("development", 57), ("matrixpilot", 57), ("paparazzi", 57), ("pythonarraytest", 57), ("storm32", 57), ("ualberta", 57), ("uavionix", 57)]),
  ("AIS_TYPE_TANKER", [("all", 80), ("ardupilotmega", 80), ("asluav", 80), ("avssuas", 80), ("common", 80), ("cubepilot", 80), ("development", 80), ("matrixpilot", 80), ("paparazzi", 80), ("pythonarraytest", 80), ("storm32", 80), ("ualberta", 80), ("uavionix", 80)]),
  ("AIS_TYPE_TANKER_HAZARDOUS_A", [("all", 81), ("ardupilotmega", 81), ("asluav", 81), ("avssuas", 81), ("common", 81), ("cubepilot", 81), ("development", 81), ("matrixpilot", 81), ("paparazzi", 81), ("pythonarraytest", 81), ("storm32", 81), ("ualberta", 81), ("uavionix", 81)]),
  ("AIS_TYPE_TANKER_HAZARDOUS_B", [("all", 82), ("ardupilotmega", 82), ("asluav", 82), ("avssuas", 82), ("common", 82), ("cubepilot", 82), ("development", 82), ("matrixpilot", 82), ("paparazzi", 82), ("pythonarraytest", 82), ("storm32", 82), ("ualberta", 82), ("uavionix", 82)]),
  ("AIS_TYPE_TANKER_HAZARDOUS_C", [("all", 83), ("ardupilotmega", 83), ("asluav", 83), ("avssuas", 83), ("common", 83), ("cubepilot", 83), ("development", 83), ("matrixpilot", 83), ("paparazzi", 83), ("pythonarraytest", 83), ("storm32", 83), ("ualberta", 83), ("uavionix", 83)]),
  ("AIS_TYPE_TANKER_HAZARDOUS_D", [("all", 84), ("ardupilotmega", 84), ("asluav", 84), ("avssuas", 84), ("common", 84), ("cubepilot", 84), ("development", 84), ("matrixpilot", 84), ("paparazzi", 84), ("pythonarraytest", 84), ("storm32", 84), ("ualberta", 84), ("uavionix", 84)]),
  ("AIS_TYPE_TANKER_RESERVED_1", [("all", 85), ("ardupilotmega", 85), ("asluav", 85), ("avssuas", 85), ("common", 85), ("cubepilot", 85), ("development", 85), ("matrixpilot", 85), ("paparazzi", 85), ("pythonarraytest", 85), ("storm32", 85), ("ualberta", 85), ("uavionix", 85)]),
  ("AIS_TYPE_TANKER_RESERVED_2", [("all", 86), ("ardupilotmega", 86), ("asluav", 86), ("avssuas", 86), ("common", 86), ("cubepilot", 86), ("development", 86), ("matrixpilot", 86), ("paparazzi", 86), ("pythonarraytest", 86), ("storm32", 86), ("ualberta", 86), ("uavionix", 86)]),
  ("AIS_TYPE_TANKER_RESERVED_3", [("all", 87), ("ardupilotmega", 87), ("asluav", 87), ("avssuas", 87), ("common", 87), ("cubepilot", 87), ("development", 87), ("matrixpilot", 87), ("paparazzi", 87), ("pythonarraytest", 87), ("storm32", 87), ("ualberta", 87), ("uavionix", 87)]),
  ("AIS_TYPE_TANKER_RESERVED_4", [("all", 88), ("ardupilotmega", 88), ("asluav", 88), ("avssuas", 88), ("common", 88), ("cubepilot", 88), ("development", 88), ("matrixpilot", 88), ("paparazzi", 88), ("pythonarraytest", 88), ("storm32", 88), ("ualberta", 88), ("uavionix", 88)]),
  ("AIS_TYPE_TANKER_UNKNOWN", [("all", 89), ("ardupilotmega", 89), ("asluav", 89), ("avssuas", 89), ("common", 89), ("cubepilot", 89), ("development", 89), ("matrixpilot", 89), ("paparazzi", 89), ("pythonarraytest", 89), ("storm32", 89), ("ualberta", 89), ("uavionix", 89)]),
  ("AIS_TYPE_TOWING", [("all", 31), ("ardupilotmega", 31), ("asluav", 31), ("avssuas", 31), ("common", 31), ("cubepilot", 31), ("development", 31), ("matrixpilot", 31), ("paparazzi", 31), ("pythonarraytest", 31), ("storm32", 31), ("ualberta", 31), ("uavionix", 31)]),
  ("AIS_TYPE_TOWING_LARGE", [("all", 32), ("ardupilotmega", 32), ("asluav", 32), ("avssuas", 32), ("common", 32), ("cubepilot", 32), ("development", 32), ("matrixpilot", 32), ("paparazzi", 32), ("pythonarraytest", 32), ("storm32", 32), ("ualberta", 32), ("uavionix", 32)]),
  ("AIS_TYPE_TUG", [("all", 52), ("ardupilotmega", 52), ("asluav", 52), ("avssuas", 52), ("common", 52), ("cubepilot", 52), ("development", 52), ("matrixpilot", 52), ("paparazzi", 52), ("pythonarraytest", 52), ("storm32", 52), ("ualberta", 52), ("uavionix", 52)]),
  ("AIS_TYPE_UNKNOWN", [("all", 0), ("ardupilotmega", 0), ("asluav", 0), ("avssuas", 0), ("common", 0), ("cubepilot", 0), ("development", 0), ("matrixpilot", 0), ("paparazzi", 0), ("pythonarraytest", 0), ("storm32", 0), ("ualberta", 0), ("uavionix", 0)]),
  ("AIS_TYPE_WIG", [("all", 20), ("ardupilotmega", 20), ("asluav", 20), ("avssuas", 20), ("common", 20), ("cubepilot", 20), ("development", 20), ("matrixpilot", 20), ("paparazzi", 20), ("pythonarraytest", 20), ("storm32", 20), ("ualberta", 20), ("uavionix", 20)]),
  ("AIS_TYPE_WIG_HAZARDOUS_A", [("all", 21), ("ardupilotmega", 21), ("asluav", 21), ("avssuas", 21), ("common", 21), ("cubepilot", 21), ("development", 21), ("matrixpilot", 21), ("paparazzi", 21), ("pythonarraytest", 21), ("storm32", 21), ("ualberta", 21), ("uavionix", 21)]),
  ("AIS_TYPE_WIG_HAZARDOUS_B", [("all", 22), ("ardupilotmega", 22), ("asluav", 22), ("avssuas", 22), ("common", 22), ("cubepilot", 22), ("development", 22), ("matrixpilot", 22), ("paparazzi", 22), ("pythonarraytest", 22), ("storm32", 22), ("ualberta", 22), ("uavionix", 22)]),
  ("AIS_TYPE_WIG_HAZARDOUS_C", [("all", 23), ("ardupilotmega", 23), ("asluav", 23), ("avssuas", 23), ("common", 23), ("cubepilot", 23), ("development", 23), ("matrixpilot", 23), ("paparazzi", 23), ("pythonarraytest", 23), ("storm32", 23), ("ualberta", 23), ("uavionix", 23)]),
  ("AIS_TYPE_WIG_HAZARDOUS_D", [("all", 24), ("ardupilotmega", 24), ("asluav", 24), ("avssuas", 24), ("common", 24), ("cubepilot", 24), ("development", 24), ("matrixpilot", 24), ("paparazzi", 24), ("pythonarraytest", 24), ("storm32", 24), ("ualberta", 24), ("uavionix", 24)]),
  ("AIS_TYPE_WIG_RESERVED_1", [("all", 25), ("ardupilotmega", 25), ("asluav", 25), ("avssuas", 25), ("common", 25), ("cubepilot", 25), ("development", 25), ("matrixpilot", 25), ("paparazzi", 25), ("pythonarraytest", 25), ("storm32", 25), ("ualberta", 25), ("uavionix", 25)]),
  ("AIS_TYPE_WIG_RESERVED_2", [("all", 26), ("ardupilotmega", 26), ("asluav", 26), ("avssuas", 26), ("common", 26), ("cubepilot", 26), ("development", 26), ("matrixpilot", 26), ("paparazzi", 26), ("pythonarraytest", 26), ("storm32", 26), ("ualberta", 26), ("uavionix", 26)]),
  ("AIS_TYPE_WIG_RESERVED_3", [("all", 27), ("ardupilotmega", 27), ("asluav", 27), ("avssuas", 27), ("common", 27), ("cubepilot", 27), ("development", 27), ("matrixpilot", 27), ("paparazzi", 27), ("pythonarraytest", 27), ("storm32", 27), ("ualberta", 27), ("uavionix", 27)]),
  ("AIS_TYPE_WIG_RESERVED_4", [("all", 28), ("ardupilotmega", 28), ("asluav", 28), ("avssuas", 28), ("common", 28), ("cubepilot", 28), ("development", 28), ("matrixpilot", 28), ("paparazzi", 28), ("pythonarraytest", 28), ("storm32", 28), ("ualberta", 28), ("uavionix", 28)]),
  ("AIS_TYPE_WIG_RESERVED_5", [("all", 29), ("ardupilotmega", 29), ("asluav", 29), ("avssuas", 29), ("common", 29), ("cubepilot", 29), ("development", 29), ("matrixpilot", 29), ("paparazzi", 29), ("pythonarraytest", 29), ("storm32", 29), ("ualberta", 29), ("uavionix", 29)]),
  ("ALT_FRAME", [("all", 24), ("ardupilotmega", 24), ("storm32", 24)]),
  ("ALT_FRAME_VALID", [("all", 4), ("ardupilotmega", 4), ("storm32", 4)]),
  ("ATTITUDE_TARGET_TYPEMASK_ATTITUDE_IGNORE", [("all", 128), ("ardupilotmega", 128), ("asluav", 128), ("avssuas", 128), ("common", 128), ("cubepilot", 128), ("development", 128), ("matrixpilot", 128), ("paparazzi", 128), ("pythonarraytest", 128), ("storm32", 128), ("ualberta", 128), ("uavionix", 128)]),
  ("ATTITUDE_TARGET_TYPEMASK_BODY_PITCH_RATE_IGNORE", [("all", 2), ("ardupilotmega", 2), ("asluav", 2), ("avssuas", 2), ("common", 2), ("cubepilot", 2), ("development", 2), ("matrixpilot", 2), ("paparazzi", 2), ("pythonarraytest", 2), ("storm32", 2), ("ualberta", 2), ("uavionix", 2)]),
  ("ATTITUDE_TARGET_TYPEMASK_BODY_ROLL_RATE_IGNORE", [("all", 1), ("ardupilotmega", 1), ("asluav", 1), ("avssuas", 1), ("common", 1), ("cubepilot", 1), ("development", 1), ("matrixpilot", 1), ("paparazzi", 1), ("pythonarraytest", 1), ("storm32", 1), ("ualberta", 1), ("uavionix", 1)]),
  ("ATTITUDE_TARGET_TYPEMASK_BODY_YAW_RATE_IGNORE", [("all", 4), ("ardupilotmega", 4), ("asluav", 4), ("avssuas", 4), ("common", 4), ("cubepilot", 4), ("development", 4), ("matrixpilot", 4), ("paparazzi", 4), ("pythonarraytest", 4), ("storm32", 4), ("ualberta", 4), ("uavionix", 4)]),
  ("ATTITUDE_TARGET_TYPEMASK_THROTTLE_IGNORE", [("all", 64), ("ardupilotmega", 64), ("asluav", 64), ("avssuas", 64), ("common", 64), ("cubepilot", 64), ("development", 64), ("matrixpilot", 64), ("paparazzi", 64), ("pythonarraytest", 64), ("storm32", 64), ("ualberta", 64), ("uavionix", 64)]),
  ("ATTITUDE_TARGET_TYPEMASK_THRUST_BODY_SET", [("all", 32), ("ardupilotmega", 32), ("asluav", 32), ("avssuas", 32), ("common", 32), ("cubepilot", 32), ("development", 32), ("matrixpilot", 32), ("paparazzi", 32), ("pythonarraytest", 32), ("storm32", 32), ("ualberta", 32), ("uavionix", 32)]),
  ("AUTOTUNE_AXIS_DEFAULT", [("all", 0), ("ardupilotmega", 0), ("asluav", 0), ("avssuas", 0), ("common", 0), ("cubepilot", 0), ("development", 0), ("matrixpilot", 0), ("paparazzi", 0), ("pythonarraytest", 0), ("storm32", 0), ("ualberta", 0), ("uavionix", 0)]),
  ("AUTOTUNE_AXIS_PITCH", [("all", 2), ("ardupilotmega", 2), ("asluav", 2), ("avssuas", 2), ("common", 2), ("cubepilot", 2), ("development", 2), ("matrixpilot", 2), ("paparazzi", 2), ("pythonarraytest", 2), ("storm32", 2), ("ualberta", 2), ("uavionix", 2)]),
  ("AUTOTUNE_AXIS_ROLL", [("all", 1), ("ardupilotmega", 1), ("asluav", 1), ("avssuas", 1), ("common", 1), ("cubepilot", 1), ("development", 1), ("matrixpilot", 1), ("paparazzi", 1), ("pythonarraytest", 1), ("storm32", 1), ("ualberta", 1), ("uavionix", 1)]),
  ("AUTOTUNE_AXIS_YAW", [("all", 4), ("ardupilotmega", 4), ("asluav", 4), ("avssuas", 4), ("common", 4), ("cubepilot", 4), ("development", 4), ("matrixpilot", 4), ("paparazzi", 4), ("pythonarraytest", 4), ("storm32", 4), ("ualberta", 4), ("uavionix", 4)]),
  ("BATTERY_FAULT_INCOMPATIBLE_CELLS_CONFIGURATION", [("all", 256), ("ardupilotmega", 256), ("asluav", 256), ("avssuas", 256), ("common", 256), ("cubepilot", 256), ("development", 256), ("matrixpilot", 256), ("paparazzi", 256), ("pythonarraytest", 256), ("storm32", 256), ("ualberta", 256), ("uavionix", 256)]),
  ("CAMERA_CAP_FLAGS_CAN_CAPTURE_IMAGE_IN_VIDEO_MODE", [("all", 8), ("ardupilotmega", 8), ("asluav", 8), ("avssuas", 8), ("common", 8), ("cubepilot", 8), ("development", 8), ("matrixpilot", 8), ("paparazzi", 8), ("pythonarraytest", 8), ("storm32", 8), ("ualberta", 8), ("uavionix", 8)]),
  ("CAMERA_CAP_FLAGS_CAN_CAPTURE_VIDEO_IN_IMAGE_MODE", [("all", 16), ("ardupilotmega", 16), ("asluav", 16), ("avssuas", 16), ("common", 16), ("cubepilot", 16), ("development", 16), ("matrixpilot", 16), ("paparazzi", 16), ("pythonarraytest", 16), ("storm32", 16), ("ualberta", 16), ("uavionix", 16)]),
  ("CAMERA_CAP_FLAGS_CAPTURE_IMAGE", [("all", 2), ("ardupilotmega", 2), ("asluav", 2), ("avssuas", 2), ("common", 2), ("cubepilot", 2), ("development", 2), ("matrixpilot", 2), ("paparazzi", 2), ("pythonarraytest", 2), ("storm32", 2), ("ualberta", 2), ("uavionix", 2)]),
  ("CAMERA_CAP_FLAGS_CAPTURE_VIDEO", [("all", 1), ("ardupilotmega", 1), ("asluav", 1), ("avssuas", 1), ("common", 1), ("cubepilot", 1), ("development", 1), ("matrixpilot", 1), ("paparazzi", 1), ("pythonarraytest", 1), ("storm32", 1), ("ualberta", 1), ("uavionix", 1)]),
  ("CAMERA_CAP_FLAGS_HAS_BASIC_FOCUS", [("all", 128), ("ardupilotmega", 128), ("asluav", 128), ("avssuas", 128), ("common", 128), ("cubepilot", 128), ("development", 128), ("matrixpilot", 128), ("paparazzi", 128), ("pythonarraytest", 128), ("storm32", 128), ("ualberta", 128), ("uavionix", 128)]),
  ("CAMERA_CAP_FLAGS_HAS_BASIC_ZOOM", [("all", 64), ("ardupilotmega", 64), ("asluav", 64), ("avssuas", 64), ("common", 64), ("cubepilot", 64), ("development", 64), ("matrixpilot", 64), ("paparazzi", 64), ("pythonarraytest", 64), ("storm32", 64), ("ualberta", 64), ("uavionix", 64)]),
  ("CAMERA_CAP_FLAGS_HAS_IMAGE_SURVEY_MODE", [("all", 32), ("ardupilotmega", 32), ("asluav", 32), ("avssuas", 32), ("common", 32), ("cubepilot", 32), ("development", 32), ("matrixpilot", 32), ("paparazzi", 32), ("pythonarraytest", 32), ("storm32", 32), ("ualberta", 32), ("uavionix", 32)])]
def constGroups_4 : List (String × List (String × Nat)) := [
  ("CAMERA_CAP_FLAGS_HAS_MODES", [("all", 4), ("ardupilotmega", 4), ("asluav", 4), ("avssuas", 4), ("common", 4), ("cubepilot", 4), ("development", 4), ("matrixpilot", 4), ("paparazzi", 4), ("pythonarraytest", 4), ("storm32", 4), ("ualberta", 4), ("uavionix", 4)]),
  ("CAMERA_CAP_FLAGS_HAS_THERMAL_RANGE", [("all", 4096), ("ardupilotmega", 4096), ("asluav", 4096), ("avssuas", 4096), ("common", 4096), ("cubepilot", 4096), ("development", 4096), ("matrixpilot", 4096), ("paparazzi", 4096), ("pythonarraytest", 4096), ("storm32", 4096), ("ualberta", 4096), ("uavionix", 4096)]),
  ("CAMERA_CAP_FLAGS_HAS_TRACKING_GEO_STATUS", [("all", 2048), ("ardupilotmega", 2048), ("asluav", 2048), ("avssuas", 2048), ("common", 2048), ("cubepilot", 2048), ("development", 2048), ("matrixpilot", 2048), ("paparazzi", 2048), ("pythonarraytest", 2048), ("storm32", 2048), ("ualberta", 2048), ("uavionix", 2048)]),
  ("CAMERA_CAP_FLAGS_HAS_TRACKING_POINT", [("all", 512), ("ardupilotmega", 512), ("asluav", 512), ("avssuas", 512), ("common", 512), ("cubepilot", 512), ("development", 512), ("matrixpilot", 512), ("paparazzi", 512), ("pythonarraytest", 512), ("storm32", 512), ("ualberta", 512), ("uavionix", 512)]),
  ("CAMERA_CAP_FLAGS_HAS_TRACKING_RECTANGLE", [("all", 1024), ("ardupilotmega", 1024), ("asluav", 1024), ("avssuas", 1024), ("common", 1024), ("cubepilot", 1024), ("development", 1024), ("matrixpilot", 1024), ("paparazzi", 1024), ("pythonarraytest", 1024), ("storm32", 1024), ("ualberta", 1024), ("uavionix", 1024)]),
  ("CAMERA_CAP_FLAGS_HAS_VIDEO_STREAM", [("all", 256), ("ardupilotmega", 256), ("asluav", 256), ("avssuas", 256), ("common", 256), ("cubepilot", 256), ("development", 256), ("matrixpilot", 256), ("paparazzi", 256), ("pythonarraytest", 256), ("storm32", 256), ("ualberta", 256), ("uavionix", 256)]),
  ("CAMERA_FEEDBACK_BADEXPOSURE", [("all", 2), ("ardupilotmega", 2), ("storm32", 2)]),
  ("CAMERA_FEEDBACK_CLOSEDLOOP", [("all", 3), ("ardupilotmega", 3), ("storm32", 3)]),
  ("CAMERA_FEEDBACK_OPENLOOP", [("all", 4), ("ardupilotmega", 4), ("storm32", 4)]),
  ("CAMERA_FEEDBACK_PHOTO", [("all", 0), ("ardupilotmega", 0), ("storm32", 0)]),
  ("CAMERA_FEEDBACK_VIDEO", [("all", 1), ("ardupilotmega", 1), ("storm32", 1)]),
  ("CAMERA_MODE_IMAGE", [("all", 0), ("ardupilotmega", 0), ("asluav", 0), ("avssuas", 0), ("common", 0), ("cubepilot", 0), ("development", 0), ("matrixpilot", 0), ("paparazzi", 0), ("pythonarraytest", 0), ("storm32", 0), ("ualberta", 0), ("uavionix", 0)]),
  ("CAMERA_MODE_IMAGE_SURVEY", [("all", 2), ("ardupilotmega", 2), ("asluav", 2), ("avssuas", 2), ("common", 2), ("cubepilot", 2), ("development", 2), ("matrixpilot", 2), ("paparazzi", 2), ("pythonarraytest", 2), ("storm32", 2), ("ualberta", 2), ("uavionix", 2)]),
  ("CAMERA_MODE_VIDEO", [("all", 1), ("ardupilotmega", 1), ("asluav", 1), ("avssuas", 1), ("common", 1), ("cubepilot", 1), ("development", 1), ("matrixpilot", 1), ("paparazzi", 1), ("pythonarraytest", 1), ("storm32", 1), ("ualberta", 1), ("uavionix", 1)]),
  ("CAMERA_SOURCE_DEFAULT", [("all", 0), ("ardupilotmega", 0), ("asluav", 0), ("avssuas", 0), ("common", 0), ("cubepilot", 0), ("development", 0), ("matrixpilot", 0), ("paparazzi", 0), ("pythonarraytest", 0), ("storm32", 0), ("ualberta", 0), ("uavionix", 0)]),
  ("CAMERA_SOURCE_IR", [("all", 2), ("ardupilotmega", 2), ("asluav", 2), ("avssuas", 2), ("common", 2), ("cubepilot", 2), ("development", 2), ("matrixpilot", 2), ("paparazzi", 2), ("pythonarraytest", 2), ("storm32", 2), ("ualberta", 2), ("uavionix", 2)]),
  ("CAMERA_SOURCE_NDVI", [("all", 3), ("ardupilotmega", 3), ("asluav", 3), ("avssuas", 3), ("common", 3), ("cubepilot", 3), ("development", 3), ("matrixpilot", 3), ("paparazzi", 3), ("pythonarraytest", 3), ("storm32", 3), ("ualberta", 3), ("uavionix", 3)]),
  ("CAMERA_SOURCE_RGB", [("all", 1), ("ardupilotmega", 1), ("asluav", 1), ("avssuas", 1), ("common", 1), ("cubepilot", 1), ("development", 1), ("matrixpilot", 1), ("paparazzi", 1), ("pythonarraytest", 1), ("storm32", 1), ("ualberta", 1), ("uavionix", 1)]),
  ("CAMERA_STATUS_TYPE_DISCONNECT", [("all", 2), ("ardupilotmega", 2), ("storm32", 2)]),
  ("CAMERA_STATUS_TYPE_ERROR", [("all", 3), ("ardupilotmega", 3), ("storm32", 3)]),
  ("CAMERA_STATUS_TYPE_HEARTBEAT", [("all", 0), ("ardupilotmega", 0), ("storm32", 0)]),
  ("CAMERA_STATUS_TYPE_LOWBATT", [("all", 4), ("ardupilotmega", 4), ("storm32", 4)]),
  ("CAMERA_STATUS_TYPE_LOWSTORE", [("all", 5), ("ardupilotmega", 5), ("storm32", 5)]),
  ("CAMERA_STATUS_TYPE_LOWSTOREV", [("all", 6), ("ardupilotmega", 6), ("storm32", 6)]),
  ("CAMERA_STATUS_TYPE_TRIGGER", [("all", 1), ("ardupilotmega", 1), ("storm32", 1)]),
  ("CAMERA_TRACKING_MODE_NONE", [("all", 0), ("ardupilotmega", 0), ("asluav", 0), ("avssuas", 0), ("common", 0), ("cubepilot", 0), ("development", 0), ("matrixpilot", 0), ("paparazzi", 0), ("pythonarraytest", 0), ("storm32", 0), ("ualberta", 0), ("uavionix", 0)]),
  ("CAMERA_TRACKING_MODE_POINT", [("all", 1), ("ardupilotmega", 1), ("asluav", 1), ("avssuas", 1), ("common", 1), ("cubepilot", 1), ("development", 1), ("matrixpilot", 1), ("paparazzi", 1), ("pythonarraytest", 1), ("storm32", 1), ("ualberta", 1), ("uavionix", 1)]),
  ("CAMERA_TRACKING_MODE_RECTANGLE", [("all", 2), ("ardupilotmega", 2), ("asluav", 2), ("avssuas", 2), ("common", 2), ("cubepilot", 2), ("development", 2), ("matrixpilot", 2), ("paparazzi", 2), ("pythonarraytest", 2), ("storm32", 2), ("ualberta", 2), ("uavionix", 2)]),
  ("CAMERA_TRACKING_STATUS_FLAGS_ACTIVE", [("all", 1), ("ardupilotmega", 1), ("asluav", 1), ("avssuas", 1), ("common", 1), ("cubepilot", 1), ("development", 1), ("matrixpilot", 1), ("paparazzi", 1), ("pythonarraytest", 1), ("storm32", 1), ("ualberta", 1), ("uavionix", 1)]),
  ("CAMERA_TRACKING_STATUS_FLAGS_ERROR", [("all", 2), ("ardupilotmega", 2), ("asluav", 2), ("avssuas", 2), ("common", 2), ("cubepilot", 2), ("development", 2), ("matrixpilot", 2), ("paparazzi", 2), ("pythonarraytest", 2), ("storm32", 2), ("ualberta", 2), ("uavionix", 2)]),
  ("CAMERA_TRACKING_STATUS_FLAGS_IDLE", [("all", 0), ("ardupilotmega", 0), ("asluav", 0), ("avssuas", 0), ("common", 0), ("cubepilot", 0), ("development", 0), ("matrixpilot", 0), ("paparazzi", 0), ("pythonarraytest", 0), ("storm32", 0), ("ualberta", 0), ("uavionix", 0)]),
  ("CAMERA_TRACKING_TARGET_DATA_EMBEDDED", [("all", 1), ("ardupilotmega", 1), ("asluav", 1), ("avssuas", 1), ("common", 1), ("cubepilot", 1), ("development", 1), ("matrixpilot", 1), ("paparazzi", 1), ("pythonarraytest", 1), ("storm32", 1), ("ualberta", 1), ("uavionix", 1)]),
  ("CAMERA_TRACKING_TARGET_DATA_IN_STATUS", [("all", 4), ("ardupilotmega", 4), ("asluav", 4), ("avssuas", 4), ("common", 4), ("cubepilot", 4), ("development", 4), ("matrixpilot", 4), ("paparazzi", 4), ("pythonarraytest", 4), ("storm32", 4), ("ualberta", 4), ("uavionix", 4)]),
  ("CAMERA_TRACKING_TARGET_DATA_RENDERED", [("all", 2), ("ardupilotmega", 2), ("asluav", 2), ("avssuas", 2), ("common", 2), ("cubepilot", 2), ("development", 2), ("matrixpilot", 2), ("paparazzi", 2), ("pythonarraytest", 2), ("storm32", 2), ("ualberta", 2), ("uavionix", 2)]),
  ("CAN_FILTER_ADD", [("all", 1), ("ardupilotmega", 1), ("asluav", 1), ("avssuas", 1), ("common", 1), ("cubepilot", 1), ("development", 1), ("matrixpilot", 1), ("paparazzi", 1), ("pythonarraytest", 1), ("storm32", 1), ("ualberta", 1), ("uavionix", 1)]),
  ("CAN_FILTER_REMOVE", [("all", 2), ("ardupilotmega", 2), ("asluav", 2), ("avssuas", 2), ("common", 2), ("cubepilot", 2), ("development", 2), ("matrixpilot", 2), ("paparazzi", 2), ("pythonarraytest", 2), ("storm32", 2), ("ualberta", 2), ("uavionix", 2)]),
  ("CAN_FILTER_REPLACE", [("all", 0), ("ardupilotmega", 0), ("asluav", 0), ("avssuas", 0), ("common", 0), ("cubepilot", 0), ("development", 0), ("matrixpilot", 0), ("paparazzi", 0), ("pythonarraytest", 0), ("storm32", 0), ("ualberta", 0), ("uavionix", 0)]),
  ("CELLULAR_CONFIG_BLOCKED_PUK_REQUIRED", [("all", 4), ("ardupilotmega", 4), ("asluav", 4), ("avssuas", 4), ("common", 4), ("cubepilot", 4), ("development", 4), ("matrixpilot", 4), ("paparazzi", 4), ("pythonarraytest", 4), ("storm32", 4), ("ualberta", 4), ("uavionix", 4)]),
  ("CELLULAR_CONFIG_RESPONSE_ACCEPTED", [("all", 0), ("ardupilotmega", 0), ("asluav", 0), ("avssuas", 0), ("common", 0), ("cubepilot", 0), ("development", 0), ("matrixpilot", 0), ("paparazzi", 0), ("pythonarraytest", 0), ("storm32", 0), ("ualberta", 0), ("uavionix", 0)]),
  ("CELLULAR_CONFIG_RESPONSE_APN_ERROR", [("all", 1), ("ardupilotmega", 1), ("asluav", 1), ("avssuas", 1), ("common", 1), ("cubepilot", 1), ("development", 1), ("matrixpilot", 1), ("paparazzi", 1), ("pythonarraytest", 1), ("storm32", 1), ("ualberta", 1), ("uavionix", 1)]),
  ("CELLULAR_CONFIG_RESPONSE_PIN_ERROR", [("all", 2), ("ardupilotmega", 2), ("asluav", 2), ("avssuas", 2), ("common", 2), ("cubepilot", 2), ("development", 2), ("matrixpilot", 2), ("paparazzi", 2), ("pythonarraytest", 2), ("storm32", 2), ("ualberta", 2), ("uavionix", 2)]),
  ("CELLULAR_CONFIG_RESPONSE_REJECTED", [("all", 3), ("ardupilotmega", 3), ("asluav", 3), ("avssuas", 3), ("common", 3), ("cubepilot", 3), ("development", 3), ("matrixpilot", 3), ("paparazzi", 3), ("pythonarraytest", 3), ("storm32", 3), ("ualberta", 3), ("uavionix", 3)]),
  ("CELLULAR_NETWORK_FAILED_REASON_NONE", [("all", 0), ("ardupilotmega", 0), ("asluav", 0), ("avssuas", 0), ("common", 0), ("cubepilot", 0), ("development", 0), ("matrixpilot", 0), ("paparazzi", 0), ("pythonarraytest", 0), ("storm32", 0), ("ualberta", 0), ("uavionix", 0)]),
  ("CELLULAR_NETWORK_FAILED_REASON_SIM_ERROR", [("all", 3), ("ardupilotmega", 3), ("asluav", 3), ("avssuas", 3), ("common", 3), ("cubepilot", 3), ("development", 3), ("matrixpilot", 3), ("paparazzi", 3), ("pythonarraytest", 3), ("storm32", 3), ("ualberta", 3), ("uavionix", 3)]),
  ("CELLULAR_NETWORK_FAILED_REASON_SIM_MISSING", [("all", 2), ("ardupilotmega", 2), ("asluav", 2), ("avssuas", 2), ("common", 2), ("cubepilot", 2), ("development", 2), ("matrixpilot", 2), ("paparazzi", 2), ("pythonarraytest", 2), ("storm32", 2), ("ualberta", 2), ("uavionix", 2)]),
  ("CELLULAR_NETWORK_FAILED_REASON_UNKNOWN", [("all", 1), ("ardupilotmega", 1), ("asluav", 1), ("avssuas", 1), ("common", 1), ("cubepilot", 1), ("development", 1), ("matrixpilot", 1), ("paparazzi", 1), ("pythonarraytest", 1), ("storm32", 1), ("ualberta", 1), ("uavionix", 1)]),
  ("CELLULAR_NETWORK_RADIO_TYPE_CDMA", [("all", 2), ("ardupilotmega", 2), ("asluav", 2), ("avssuas", 2), ("common", 2), ("cubepilot", 2), ("development", 2), ("matrixpilot", 2), ("paparazzi", 2), ("pythonarraytest", 2), ("storm32", 2), ("ualberta", 2), ("uavionix", 2)]),
  ("CELLULAR_NETWORK_RADIO_TYPE_GSM", [("all", 1), ("ardupilotmega", 1), ("asluav", 1), ("avssuas", 1), ("common", 1), ("cubepilot", 1), ("development", 1), ("matrixpilot", 1), ("paparazzi", 1), ("pythonarraytest", 1), ("storm32", 1), ("ualberta", 1), ("uavionix", 1)]),
  ("CELLULAR_NETWORK_RADIO_TYPE_LTE", [("all", 4), ("ardupilotmega", 4), ("asluav", 4), ("avssuas", 4), ("common", 4), ("cubepilot", 4), ("development", 4), ("matrixpilot", 4), ("paparazzi", 4), ("pythonarraytest", 4), ("storm32", 4), ("ualberta", 4), ("uavionix", 4)]),
  ("CELLULAR_NETWORK_RADIO_TYPE_NONE", [("all", 0), ("ardupilotmega", 0), ("asluav", 0), ("avssuas", 0), ("common", 0), ("cubepilot", 0), ("development", 0), ("matrixpilot", 0), ("paparazzi", 0), ("pythonarraytest", 0), ("storm32", 0), ("ualberta", 0), ("uavionix", 0)]),
  ("CELLULAR_NETWORK_RADIO_TYPE_WCDMA", [("all", 3), ("ardupilotmega", 3), ("asluav", 3), ("avssuas", 3), ("common", 3), ("cubepilot", 3), ("development", 3), ("matrixpilot", 3), ("paparazzi", 3), ("pythonarraytest", 3), ("storm32", 3), ("ualberta", 3), ("uavionix", 3)]),
  ("CELLULAR_STATUS_FLAG_CONNECTED", [("all", 12), ("ardupilotmega", 12), ("asluav", 12), ("avssuas", 12), ("common", 12), ("cubepilot", 12), ("development", 12), ("matrixpilot", 12), ("paparazzi", 12), ("pythonarraytest", 12), ("storm32", 12), ("ualberta", 12), ("uavionix", 12)]),
  ("CELLULAR_STATUS_FLAG_CONNECTING", [("all", 11), ("ardupilotmega", 11), ("asluav", 11), ("avssuas", 11), ("common", 11), ("cubepilot", 11), ("development", 11), ("matrixpilot", 11), ("paparazzi", 11), ("pythonarraytest", 11), ("storm32", 11), ("ualberta", 11), ("uavionix", 11)]),
  ("CELLULAR_STATUS_FLAG_DISABLED", [("all", 4), ("ardupilotmega", 4), ("asluav", 4), ("avssuas", 4), ("common", 4), ("cubepilot", 4), ("development", 4), ("matrixpilot", 4), ("paparazzi", 4), ("pythonarraytest", 4), ("storm32", 4), ("ualberta", 4), ("uavionix", 4)]),
  ("CELLULAR_STATUS_FLAG_DISABLING", [("all", 5), ("ardupilotmega", 5), ("asluav", 5), ("avssuas", 5), ("common", 5), ("cubepilot", 5), ("development", 5), ("matrixpilot", 5), ("paparazzi", 5), ("pythonarraytest", 5), ("storm32", 5), ("ualberta", 5), ("uavionix", 5)]),
  ("CELLULAR_STATUS_FLAG_DISCONNECTING", [("all", 10), ("ardupilotmega", 10), ("asluav", 10), ("avssuas", 10), ("common", 10), ("cubepilot", 10), ("development", 10), ("matrixpilot", 10), ("paparazzi", 10), ("pythonarraytest", 10), ("storm32", 10), ("ualberta", 10), ("uavionix", 10)]),
  ("CELLULAR_STATUS_FLAG_ENABLED", [("all", 7), ("ardupilotmega", 7), ("asluav", 7), ("avssuas", 7), ("common", 7), ("cubepilot", 7), ("development", 7), ("matrixpilot", 7), ("paparazzi", 7), ("pythonarraytest", 7), ("storm32", 7), ("ualberta", 7), ("uavionix", 7)]),
  ("CELLULAR_STATUS_FLAG_ENABLING", [("all", 6), ("ardupilotmega", 6), ("asluav", 6), ("avssuas", 6), ("common", 6), ("cubepilot", 6), ("development", 6), ("matrixpilot", 6), ("paparazzi", 6), ("pythonarraytest", 6), ("storm32", 6), ("ualberta", 6), ("uavionix", 6)]),
  ("CELLULAR_STATUS_FLAG_FAILED", [("all", 1), ("ardupilotmega", 1), ("asluav", 1), ("avssuas", 1), ("common", 1), ("cubepilot", 1), ("development", 1), ("matrixpilot", 1), ("paparazzi", 1), ("pythonarraytest", 1), ("storm32", 1), ("ualberta", 1), ("uavionix", 1)]),
  ("CELLULAR_STATUS_FLAG_INITIALIZING", [("all", 2), ("ardupilotmega", 2), ("asluav", 2), ("avssuas", 2), ("common", 2), ("cubepilot", 2), ("development", 2), ("matrixpilot", 2), ("paparazzi", 2), ("pythonarraytest", 2), ("storm32", 2), ("ualberta", 2), ("uavionix", 2)])]
def constGroups_5 : List (String × List (String × Nat)) := [
  ("CELLULAR_STATUS_FLAG_LOCKED", [("all", 3), ("ardupilotmega", 3), ("asluav", 3), ("avssuas", 3), ("common", 3), ("cubepilot", 3), ("development", 3), ("matrixpilot", 3), ("paparazzi", 3), ("pythonarraytest", 3), ("storm32", 3), ("ualberta", 3), ("uavionix", 3)]),
  ("CELLULAR_STATUS_FLAG_REGISTERED", [("all", 9), ("ardupilotmega", 9), ("asluav", 9), ("avssuas", 9), ("common", 9), ("cubepilot", 9), ("development", 9), ("matrixpilot", 9), ("paparazzi", 9), ("pythonarraytest", 9), ("storm32", 9), ("ualberta", 9), ("uavionix", 9)]),
  ("CELLULAR_STATUS_FLAG_SEARCHING", [("all", 8), ("ardupilotmega", 8), ("asluav", 8), ("avssuas", 8), ("common", 8), ("cubepilot", 8), ("development", 8), ("matrixpilot", 8), ("paparazzi", 8), ("pythonarraytest", 8), ("storm32", 8), ("ualberta", 8), ("uavionix", 8)]),
  ("CELLULAR_STATUS_FLAG_UNKNOWN", [("all", 0), ("ardupilotmega", 0), ("asluav", 0), ("avssuas", 0), ("common", 0), ("cubepilot", 0), ("development", 0), ("matrixpilot", 0), ("paparazzi", 0), ("pythonarraytest", 0), ("storm32", 0), ("ualberta", 0), ("uavionix", 0)]),
  ("COMP_METADATA_TYPE_ACTUATORS", [("all", 5), ("ardupilotmega", 5), ("asluav", 5), ("avssuas", 5), ("common", 5), ("cubepilot", 5), ("development", 5), ("matrixpilot", 5), ("paparazzi", 5), ("pythonarraytest", 5), ("storm32", 5), ("ualberta", 5), ("uavionix", 5)]),
  ("COMP_METADATA_TYPE_COMMANDS", [("all", 2), ("ardupilotmega", 2), ("asluav", 2), ("avssuas", 2), ("common", 2), ("cubepilot", 2), ("development", 2), ("matrixpilot", 2), ("paparazzi", 2), ("pythonarraytest", 2), ("storm32", 2), ("ualberta", 2), ("uavionix", 2)]),
  ("COMP_METADATA_TYPE_EVENTS", [("all", 4), ("ardupilotmega", 4), ("asluav", 4), ("avssuas", 4), ("common", 4), ("cubepilot", 4), ("development", 4), ("matrixpilot", 4), ("paparazzi", 4), ("pythonarraytest", 4), ("storm32", 4), ("ualberta", 4), ("uavionix", 4)]),
  ("COMP_METADATA_TYPE_GENERAL", [("all", 0), ("ardupilotmega", 0), ("asluav", 0), ("avssuas", 0), ("common", 0), ("cubepilot", 0), ("development", 0), ("matrixpilot", 0), ("paparazzi", 0), ("pythonarraytest", 0), ("storm32", 0), ("ualberta", 0), ("uavionix", 0)]),
  ("COMP_METADATA_TYPE_PARAMETER", [("all", 1), ("ardupilotmega", 1), ("asluav", 1), ("avssuas", 1), ("common", 1), ("cubepilot", 1), ("development", 1), ("matrixpilot", 1), ("paparazzi", 1), ("pythonarraytest", 1), ("storm32", 1), ("ualberta", 1), ("uavionix", 1)]),
  ("COMP_METADATA_TYPE_PERIPHERALS", [("all", 3), ("ardupilotmega", 3), ("asluav", 3), ("avssuas", 3), ("common", 3), ("cubepilot", 3), ("development", 3), ("matrixpilot", 3), ("paparazzi", 3), ("pythonarraytest", 3), ("storm32", 3), ("ualberta", 3), ("uavionix", 3)]),
  ("COPTER_MODE_ACRO", [("all", 1), ("ardupilotmega", 1), ("storm32", 1)]),
  ("COPTER_MODE_ALT_HOLD", [("all", 2), ("ardupilotmega", 2), ("storm32", 2)]),
  ("COPTER_MODE_AUTO", [("all", 3), ("ardupilotmega", 3), ("storm32", 3)]),
  ("COPTER_MODE_AUTOROTATE", [("all", 26), ("ardupilotmega", 26), ("storm32", 26)]),
  ("COPTER_MODE_AUTOTUNE", [("all", 15), ("ardupilotmega", 15), ("storm32", 15)]),
  ("COPTER_MODE_AUTO_RTL", [("all", 27), ("ardupilotmega", 27), ("storm32", 27)]),
  ("COPTER_MODE_AVOID_ADSB", [("all", 19), ("ardupilotmega", 19), ("storm32", 19)]),
  ("COPTER_MODE_BRAKE", [("all", 17), ("ardupilotmega", 17), ("storm32", 17)]),
  ("COPTER_MODE_CIRCLE", [("all", 7), ("ardupilotmega", 7), ("storm32", 7)]),
  ("COPTER_MODE_DRIFT", [("all", 11), ("ardupilotmega", 11), ("storm32", 11)]),
  ("COPTER_MODE_FLIP", [("all", 14), ("ardupilotmega", 14), ("storm32", 14)]),
  ("COPTER_MODE_FLOWHOLD", [("all", 22), ("ardupilotmega", 22), ("storm32", 22)]),
  ("COPTER_MODE_FOLLOW", [("all", 23), ("ardupilotmega", 23), ("storm32", 23)]),
  ("COPTER_MODE_GUIDED", [("all", 4), ("ardupilotmega", 4), ("storm32", 4)]),
  ("COPTER_MODE_GUIDED_NOGPS", [("all", 20), ("ardupilotmega", 20), ("storm32", 20)]),
  ("COPTER_MODE_LAND", [("all", 9), ("ardupilotmega", 9), ("storm32", 9)]),
  ("COPTER_MODE_LOITER", [("all", 5), ("ardupilotmega", 5), ("storm32", 5)]),
  ("COPTER_MODE_POSHOLD", [("all", 16), ("ardupilotmega", 16), ("storm32", 16)]),
  ("COPTER_MODE_RTL", [("all", 6), ("ardupilotmega", 6), ("storm32", 6)]),
  ("COPTER_MODE_SMART_RTL", [("all", 21), ("ardupilotmega", 21), ("storm32", 21)]),
  ("COPTER_MODE_SPORT", [("all", 13), ("ardupilotmega", 13), ("storm32", 13)]),
  ("COPTER_MODE_STABILIZE", [("all", 0), ("ardupilotmega", 0), ("storm32", 0)]),
  ("COPTER_MODE_SYSTEMID", [("all", 25), ("ardupilotmega", 25), ("storm32", 25)]),
  ("COPTER_MODE_THROW", [("all", 18), ("ardupilotmega", 18), ("storm32", 18)]),
  ("COPTER_MODE_ZIGZAG", [("all", 24), ("ardupilotmega", 24), ("storm32", 24)]),
  ("DEEPSTALL_STAGE_APPROACH", [("all", 5), ("ardupilotmega", 5), ("storm32", 5)]),
  ("DEEPSTALL_STAGE_ARC", [("all", 4), ("ardupilotmega", 4), ("storm32", 4)]),
  ("DEEPSTALL_STAGE_ESTIMATE_WIND", [("all", 1), ("ardupilotmega", 1), ("storm32", 1)]),
  ("DEEPSTALL_STAGE_FLY_TO_ARC", [("all", 3), ("ardupilotmega", 3), ("storm32", 3)]),
  ("DEEPSTALL_STAGE_FLY_TO_LANDING", [("all", 0), ("ardupilotmega", 0), ("storm32", 0)]),
  ("DEEPSTALL_STAGE_LAND", [("all", 6), ("ardupilotmega", 6), ("storm32", 6)]),
  ("DEEPSTALL_STAGE_WAIT_FOR_BREAKOUT", [("all", 2), ("ardupilotmega", 2), ("storm32", 2)]),
  ("DEVICE_OP_BUSTYPE_I2C", [("all", 0), ("ardupilotmega", 0), ("storm32", 0)]),
  ("DEVICE_OP_BUSTYPE_SPI", [("all", 1), ("ardupilotmega", 1), ("storm32", 1)]),
  ("EKF_ATTITUDE", [("all", 1), ("ardupilotmega", 1), ("storm32", 1)]),
  ("EKF_CONST_POS_MODE", [("all", 128), ("ardupilotmega", 128), ("storm32", 128)]),
  ("EKF_GPS_GLITCHING", [("all", 32768), ("ardupilotmega", 32768), ("storm32", 32768)]),
  ("EKF_POS_HORIZ_ABS", [("all", 16), ("ardupilotmega", 16), ("storm32", 16)]),
  ("EKF_POS_HORIZ_REL", [("all", 8), ("ardupilotmega", 8), ("storm32", 8)]),
  ("EKF_POS_VERT_ABS", [("all", 32), ("ardupilotmega", 32), ("storm32", 32)]),
  ("EKF_POS_VERT_AGL", [("all", 64), ("ardupilotmega", 64), ("storm32", 64)]),
  ("EKF_PRED_POS_HORIZ_ABS", [("all", 512), ("ardupilotmega", 512), ("storm32", 512)]),
  ("EKF_PRED_POS_HORIZ_REL", [("all", 256), ("ardupilotmega", 256), ("storm32", 256)]),
  ("EKF_UNINITIALIZED", [("all", 1024), ("ardupilotmega", 1024), ("storm32", 1024)]),
  ("EKF_VELOCITY_HORIZ", [("all", 2), ("ardupilotmega", 2), ("storm32", 2)]),
  ("EKF_VELOCITY_VERT", [("all", 4), ("ardupilotmega", 4), ("storm32", 4)]),
  ("ESC_CONNECTION_TYPE_CAN", [("all", 4), ("ardupilotmega", 4), ("asluav", 4), ("avssuas", 4), ("common", 4), ("cubepilot", 4), ("development", 4), ("matrixpilot", 4), ("paparazzi", 4), ("pythonarraytest", 4), ("storm32", 4), ("ualberta", 4), ("uavionix", 4)]),
  ("ESC_CONNECTION_TYPE_DSHOT", [("all", 5), ("ardupilotmega", 5), ("asluav", 5), ("avssuas", 5), ("common", 5), ("cubepilot", 5), ("development", 5), ("matrixpilot", 5), ("paparazzi", 5), ("pythonarraytest", 5), ("storm32", 5), ("ualberta", 5), ("uavionix", 5)]),
  ("ESC_CONNECTION_TYPE_I2C", [("all", 3), ("ardupilotmega", 3), ("asluav", 3), ("avssuas", 3), ("common", 3), ("cubepilot", 3), ("development", 3), ("matrixpilot", 3), ("paparazzi", 3), ("pythonarraytest", 3), ("storm32", 3), ("ualberta", 3), ("uavionix", 3)]),
  ("ESC_CONNECTION_TYPE_ONESHOT", [("all", 2), ("ardupilotmega", 2), ("asluav", 2), ("avssuas", 2), ("common", 2), ("cubepilot", 2), ("development", 2), ("matrixpilot", 2), ("paparazzi", 2), ("pythonarraytest", 2), ("storm32", 2), ("ualberta", 2), ("uavionix", 2)])]
def constGroups_6 : List (String × List (String × Nat)) := [
  ("ESC_CONNECTION_TYPE_PPM", [("all", 0), ("ardupilotmega", 0), ("asluav", 0), ("avssuas", 0), ("common", 0), ("cubepilot", 0), ("development", 0), ("matrixpilot", 0), ("paparazzi", 0), ("pythonarraytest", 0), ("storm32", 0), ("ualberta", 0), ("uavionix", 0)]),
  ("ESC_CONNECTION_TYPE_SERIAL", [("all", 1), ("ardupilotmega", 1), ("asluav", 1), ("avssuas", 1), ("common", 1), ("cubepilot", 1), ("development", 1), ("matrixpilot", 1), ("paparazzi", 1), ("pythonarraytest", 1), ("storm32", 1), ("ualberta", 1), ("uavionix", 1)]),
  ("ESC_FAILURE_GENERIC", [("all", 64), ("ardupilotmega", 64), ("asluav", 64), ("avssuas", 64), ("common", 64), ("cubepilot", 64), ("development", 64), ("matrixpilot", 64), ("paparazzi", 64), ("pythonarraytest", 64), ("storm32", 64), ("ualberta", 64), ("uavionix", 64)]),
  ("ESC_FAILURE_INCONSISTENT_CMD", [("all", 16), ("ardupilotmega", 16), ("asluav", 16), ("avssuas", 16), ("common", 16), ("cubepilot", 16), ("development", 16), ("matrixpilot", 16), ("paparazzi", 16), ("pythonarraytest", 16), ("storm32", 16), ("ualberta", 16), ("uavionix", 16)]),
  ("ESC_FAILURE_MOTOR_STUCK", [("all", 32), ("ardupilotmega", 32), ("asluav", 32), ("avssuas", 32), ("common", 32), ("cubepilot", 32), ("development", 32), ("matrixpilot", 32), ("paparazzi", 32), ("pythonarraytest", 32), ("storm32", 32), ("ualberta", 32), ("uavionix", 32)]),
  ("ESC_FAILURE_OVER_CURRENT", [("all", 1), ("ardupilotmega", 1), ("asluav", 1), ("avssuas", 1), ("common", 1), ("cubepilot", 1), ("development", 1), ("matrixpilot", 1), ("paparazzi", 1), ("pythonarraytest", 1), ("storm32", 1), ("ualberta", 1), ("uavionix", 1)]),
  ("ESC_FAILURE_OVER_RPM", [("all", 8), ("ardupilotmega", 8), ("asluav", 8), ("avssuas", 8), ("common", 8), ("cubepilot", 8), ("development", 8), ("matrixpilot", 8), ("paparazzi", 8), ("pythonarraytest", 8), ("storm32", 8), ("ualberta", 8), ("uavionix", 8)]),
  ("ESC_FAILURE_OVER_TEMPERATURE", [("all", 4), ("ardupilotmega", 4), ("asluav", 4), ("avssuas", 4), ("common", 4), ("cubepilot", 4), ("development", 4), ("matrixpilot", 4), ("paparazzi", 4), ("pythonarraytest", 4), ("storm32", 4), ("ualberta", 4), ("uavionix", 4)]),
  ("ESC_FAILURE_OVER_VOLTAGE", [("all", 2), ("ardupilotmega", 2), ("asluav", 2), ("avssuas", 2), ("common", 2), ("cubepilot", 2), ("development", 2), ("matrixpilot", 2), ("paparazzi", 2), ("pythonarraytest", 2), ("storm32", 2), ("ualberta", 2), ("uavionix", 2)]),
  ("ESTIMATOR_ACCEL_ERROR", [("all", 2048), ("ardupilotmega", 2048), ("asluav", 2048), ("avssuas", 2048), ("common", 2048), ("cubepilot", 2048), ("development", 2048), ("matrixpilot", 2048), ("paparazzi", 2048), ("pythonarraytest", 2048), ("storm32", 2048), ("ualberta", 2048), ("uavionix", 2048)]),
  ("ESTIMATOR_ATTITUDE", [("all", 1), ("ardupilotmega", 1), ("asluav", 1), ("avssuas", 1), ("common", 1), ("cubepilot", 1), ("development", 1), ("matrixpilot", 1), ("paparazzi", 1), ("pythonarraytest", 1), ("storm32", 1), ("ualberta", 1), ("uavionix", 1)]),
  ("ESTIMATOR_CONST_POS_MODE", [("all", 128), ("ardupilotmega", 128), ("asluav", 128), ("avssuas", 128), ("common", 128), ("cubepilot", 128), ("development", 128), ("matrixpilot", 128), ("paparazzi", 128), ("pythonarraytest", 128), ("storm32", 128), ("ualberta", 128), ("uavionix", 128)]),
  ("ESTIMATOR_GPS_GLITCH", [("all", 1024), ("ardupilotmega", 1024), ("asluav", 1024), ("avssuas", 1024), ("common", 1024), ("cubepilot", 1024), ("development", 1024), ("matrixpilot", 1024), ("paparazzi", 1024), ("pythonarraytest", 1024), ("storm32", 1024), ("ualberta", 1024), ("uavionix", 1024)]),
  ("ESTIMATOR_POS_HORIZ_ABS", [("all", 16), ("ardupilotmega", 16), ("asluav", 16), ("avssuas", 16), ("common", 16), ("cubepilot", 16), ("development", 16), ("matrixpilot", 16), ("paparazzi", 16), ("pythonarraytest", 16), ("storm32", 16), ("ualberta", 16), ("uavionix", 16)]),
  ("ESTIMATOR_POS_HORIZ_REL", [("all", 8), ("ardupilotmega", 8), ("asluav", 8), ("avssuas", 8), ("common", 8), ("cubepilot", 8), ("development", 8), ("matrixpilot", 8), ("paparazzi", 8), ("pythonarraytest", 8), ("storm32", 8), ("ualberta", 8), ("uavionix", 8)]),
  ("ESTIMATOR_POS_VERT_ABS", [("all", 32), ("ardupilotmega", 32), ("asluav", 32), ("avssuas", 32), ("common", 32), ("cubepilot", 32), ("development", 32), ("matrixpilot", 32), ("paparazzi", 32), ("pythonarraytest", 32), ("storm32", 32), ("ualberta", 32), ("uavionix", 32)]),
  ("ESTIMATOR_POS_VERT_AGL", [("all", 64), ("ardupilotmega", 64), ("asluav", 64), ("avssuas", 64), ("common", 64), ("cubepilot", 64), ("development", 64), ("matrixpilot", 64), ("paparazzi", 64), ("pythonarraytest", 64), ("storm32", 64), ("ualberta", 64), ("uavionix", 64)]),
  ("ESTIMATOR_PRED_POS_HORIZ_ABS", [("all", 512), ("ardupilotmega", 512), ("asluav", 512), ("avssuas", 512), ("common", 512), ("cubepilot", 512), ("development", 512), ("matrixpilot", 512), ("paparazzi", 512), ("pythonarraytest", 512), ("storm32", 512), ("ualberta", 512), ("uavionix", 512)]),
  ("ESTIMATOR_PRED_POS_HORIZ_REL", [("all", 256), ("ardupilotmega", 256), ("asluav", 256), ("avssuas", 256), ("common", 256), ("cubepilot", 256), ("development", 256), ("matrixpilot", 256), ("paparazzi", 256), ("pythonarraytest", 256), ("storm32", 256), ("ualberta", 256), ("uavionix", 256)]),
  ("ESTIMATOR_VELOCITY_HORIZ", [("all", 2), ("ardupilotmega", 2), ("asluav", 2), ("avssuas", 2), ("common", 2), ("cubepilot", 2), ("development", 2), ("matrixpilot", 2), ("paparazzi", 2), ("pythonarraytest", 2), ("storm32", 2), ("ualberta", 2), ("uavionix", 2)]),
  ("ESTIMATOR_VELOCITY_VERT", [("all", 4), ("ardupilotmega", 4), ("asluav", 4), ("avssuas", 4), ("common", 4), ("cubepilot", 4), ("development", 4), ("matrixpilot", 4), ("paparazzi", 4), ("pythonarraytest", 4), ("storm32", 4), ("ualberta", 4), ("uavionix", 4)]),
  ("FAILURE_TYPE_DELAYED", [("all", 6), ("ardupilotmega", 6), ("asluav", 6), ("avssuas", 6), ("common", 6), ("cubepilot", 6), ("development", 6), ("matrixpilot", 6), ("paparazzi", 6), ("pythonarraytest", 6), ("storm32", 6), ("ualberta", 6), ("uavionix", 6)]),
  ("FAILURE_TYPE_GARBAGE", [("all", 3), ("ardupilotmega", 3), ("asluav", 3), ("avssuas", 3), ("common", 3), ("cubepilot", 3), ("development", 3), ("matrixpilot", 3), ("paparazzi", 3), ("pythonarraytest", 3), ("storm32", 3), ("ualberta", 3), ("uavionix", 3)]),
  ("FAILURE_TYPE_INTERMITTENT", [("all", 7), ("ardupilotmega", 7), ("asluav", 7), ("avssuas", 7), ("common", 7), ("cubepilot", 7), ("development", 7), ("matrixpilot", 7), ("paparazzi", 7), ("pythonarraytest", 7), ("storm32", 7), ("ualberta", 7), ("uavionix", 7)]),
  ("FAILURE_TYPE_OFF", [("all", 1), ("ardupilotmega", 1), ("asluav", 1), ("avssuas", 1), ("common", 1), ("cubepilot", 1), ("development", 1), ("matrixpilot", 1), ("paparazzi", 1), ("pythonarraytest", 1), ("storm32", 1), ("ualberta", 1), ("uavionix", 1)]),
  ("FAILURE_TYPE_OK", [("all", 0), ("ardupilotmega", 0), ("asluav", 0), ("avssuas", 0), ("common", 0), ("cubepilot", 0), ("development", 0), ("matrixpilot", 0), ("paparazzi", 0), ("pythonarraytest", 0), ("storm32", 0), ("ualberta", 0), ("uavionix", 0)]),
  ("FAILURE_TYPE_SLOW", [("all", 5), ("ardupilotmega", 5), ("asluav", 5), ("avssuas", 5), ("common", 5), ("cubepilot", 5), ("development", 5), ("matrixpilot", 5), ("paparazzi", 5), ("pythonarraytest", 5), ("storm32", 5), ("ualberta", 5), ("uavionix", 5)]),
  ("FAILURE_TYPE_STUCK", [("all", 2), ("ardupilotmega", 2), ("asluav", 2), ("avssuas", 2), ("common", 2), ("cubepilot", 2), ("development", 2), ("matrixpilot", 2), ("paparazzi", 2), ("pythonarraytest", 2), ("storm32", 2), ("ualberta", 2), ("uavionix", 2)]),
  ("FAILURE_TYPE_WRONG", [("all", 4), ("ardupilotmega", 4), ("asluav", 4), ("avssuas", 4), ("common", 4), ("cubepilot", 4), ("development", 4), ("matrixpilot", 4), ("paparazzi", 4), ("pythonarraytest", 4), ("storm32", 4), ("ualberta", 4), ("uavionix", 4)]),
  ("FAILURE_UNIT_SENSOR_ACCEL", [("all", 1), ("ardupilotmega", 1), ("asluav", 1), ("avssuas", 1), ("common", 1), ("cubepilot", 1), ("development", 1), ("matrixpilot", 1), ("paparazzi", 1), ("pythonarraytest", 1), ("storm32", 1), ("ualberta", 1), ("uavionix", 1)]),
  ("FAILURE_UNIT_SENSOR_AIRSPEED", [("all", 8), ("ardupilotmega", 8), ("asluav", 8), ("avssuas", 8), ("common", 8), ("cubepilot", 8), ("development", 8), ("matrixpilot", 8), ("paparazzi", 8), ("pythonarraytest", 8), ("storm32", 8), ("ualberta", 8), ("uavionix", 8)]),
  ("FAILURE_UNIT_SENSOR_BARO", [("all", 3), ("ardupilotmega", 3), ("asluav", 3), ("avssuas", 3), ("common", 3), ("cubepilot", 3), ("development", 3), ("matrixpilot", 3), ("paparazzi", 3), ("pythonarraytest", 3), ("storm32", 3), ("ualberta", 3), ("uavionix", 3)]),
  ("FAILURE_UNIT_SENSOR_DISTANCE_SENSOR", [("all", 7), ("ardupilotmega", 7), ("asluav", 7), ("avssuas", 7), ("common", 7), ("cubepilot", 7), ("development", 7), ("matrixpilot", 7), ("paparazzi", 7), ("pythonarraytest", 7), ("storm32", 7), ("ualberta", 7), ("uavionix", 7)]),
  ("FAILURE_UNIT_SENSOR_GPS", [("all", 4), ("ardupilotmega", 4), ("asluav", 4), ("avssuas", 4), ("common", 4), ("cubepilot", 4), ("development", 4), ("matrixpilot", 4), ("paparazzi", 4), ("pythonarraytest", 4), ("storm32", 4), ("ualberta", 4), ("uavionix", 4)]),
  ("FAILURE_UNIT_SENSOR_GYRO", [("all", 0), ("ardupilotmega", 0), ("asluav", 0), ("avssuas", 0), ("common", 0), ("cubepilot", 0), ("development", 0), ("matrixpilot", 0), ("paparazzi", 0), ("pythonarraytest", 0), ("storm32", 0), ("ualberta", 0), ("uavionix", 0)]),
  ("FAILURE_UNIT_SENSOR_MAG", [("all", 2), ("ardupilotmega", 2), ("asluav", 2), ("avssuas", 2), ("common", 2), ("cubepilot", 2), ("development", 2), ("matrixpilot", 2), ("paparazzi", 2), ("pythonarraytest", 2), ("storm32", 2), ("ualberta", 2), ("uavionix", 2)]),
  ("FAILURE_UNIT_SENSOR_OPTICAL_FLOW", [("all", 5), ("ardupilotmega", 5), ("asluav", 5), ("avssuas", 5), ("common", 5), ("cubepilot", 5), ("development", 5), ("matrixpilot", 5), ("paparazzi", 5), ("pythonarraytest", 5), ("storm32", 5), ("ualberta", 5), ("uavionix", 5)]),
  ("FAILURE_UNIT_SENSOR_VIO", [("all", 6), ("ardupilotmega", 6), ("asluav", 6), ("avssuas", 6), ("common", 6), ("cubepilot", 6), ("development", 6), ("matrixpilot", 6), ("paparazzi", 6), ("pythonarraytest", 6), ("storm32", 6), ("ualberta", 6), ("uavionix", 6)]),
  ("FAILURE_UNIT_SYSTEM_AVOIDANCE", [("all", 103), ("ardupilotmega", 103), ("asluav", 103), ("avssuas", 103), ("common", 103), ("cubepilot", 103), ("development", 103), ("matrixpilot", 103), ("paparazzi", 103), ("pythonarraytest", 103), ("storm32", 103), ("ualberta", 103), ("uavionix", 103)]),
  ("FAILURE_UNIT_SYSTEM_BATTERY", [("all", 100), ("ardupilotmega", 100), ("asluav", 100), ("avssuas", 100), ("common", 100), ("cubepilot", 100), ("development", 100), ("matrixpilot", 100), ("paparazzi", 100), ("pythonarraytest", 100), ("storm32", 100), ("ualberta", 100), ("uavionix", 100)]),
  ("FAILURE_UNIT_SYSTEM_MAVLINK_SIGNAL", [("all", 105), ("ardupilotmega", 105), ("asluav", 105), ("avssuas", 105), ("common", 105), ("cubepilot", 105), ("development", 105), ("matrixpilot", 105), ("paparazzi", 105), ("pythonarraytest", 105), ("storm32", 105), ("ualberta", 105), ("uavionix", 105)]),
  ("FAILURE_UNIT_SYSTEM_MOTOR", [("all", 101), ("ardupilotmega", 101), ("asluav", 101), ("avssuas", 101), ("common", 101), ("cubepilot", 101), ("development", 101), ("matrixpilot", 101), ("paparazzi", 101), ("pythonarraytest", 101), ("storm32", 101), ("ualberta", 101), ("uavionix", 101)]),
  ("FAILURE_UNIT_SYSTEM_RC_SIGNAL", [("all", 104), ("ardupilotmega", 104), ("asluav", 104), ("avssuas", 104), ("common", 104), ("cubepilot", 104), ("development", 104), ("matrixpilot", 104), ("paparazzi", 104), ("pythonarraytest", 104), ("storm32", 104), ("ualberta", 104), ("uavionix", 104)]),
  ("FAILURE_UNIT_SYSTEM_SERVO", [("all", 102), ("ardupilotmega", 102), ("asluav", 102), ("avssuas", 102), ("common", 102), ("cubepilot", 102), ("development", 102), ("matrixpilot", 102), ("paparazzi", 102), ("pythonarraytest", 102), ("storm32", 102), ("ualberta", 102), ("uavionix", 102)]),
  ("FAVORABLE_WIND", [("all", 1), ("ardupilotmega", 1), ("storm32", 1)]),
  ("FENCE_ACTION_GUIDED", [("all", 1), ("ardupilotmega", 1), ("asluav", 1), ("avssuas", 1), ("common", 1), ("cubepilot", 1), ("development", 1), ("matrixpilot", 1), ("paparazzi", 1), ("pythonarraytest", 1), ("storm32", 1), ("ualberta", 1), ("uavionix", 1)]),
  ("FENCE_ACTION_GUIDED_THR_PASS", [("all", 3), ("ardupilotmega", 3), ("asluav", 3), ("avssuas", 3), ("common", 3), ("cubepilot", 3), ("development", 3), ("matrixpilot", 3), ("paparazzi", 3), ("pythonarraytest", 3), ("storm32", 3), ("ualberta", 3), ("uavionix", 3)]),
  ("FENCE_ACTION_HOLD", [("all", 5), ("ardupilotmega", 5), ("asluav", 5), ("avssuas", 5), ("common", 5), ("cubepilot", 5), ("development", 5), ("matrixpilot", 5), ("paparazzi", 5), ("pythonarraytest", 5), ("storm32", 5), ("ualberta", 5), ("uavionix", 5)]),
  ("FENCE_ACTION_LAND", [("all", 7), ("ardupilotmega", 7), ("asluav", 7), ("avssuas", 7), ("common", 7), ("cubepilot", 7), ("development", 7), ("matrixpilot", 7), ("paparazzi", 7), ("pythonarraytest", 7), ("storm32", 7), ("ualberta", 7), ("uavionix", 7)]),
  ("FENCE_ACTION_NONE", [("all", 0), ("ardupilotmega", 0), ("asluav", 0), ("avssuas", 0), ("common", 0), ("cubepilot", 0), ("development", 0), ("matrixpilot", 0), ("paparazzi", 0), ("pythonarraytest", 0), ("storm32", 0), ("ualberta", 0), ("uavionix", 0)]),
  ("FENCE_ACTION_REPORT", [("all", 2), ("ardupilotmega", 2), ("asluav", 2), ("avssuas", 2), ("common", 2), ("cubepilot", 2), ("development", 2), ("matrixpilot", 2), ("paparazzi", 2), ("pythonarraytest", 2), ("storm32", 2), ("ualberta", 2), ("uavionix", 2)]),
  ("FENCE_ACTION_RTL", [("all", 4), ("ardupilotmega", 4), ("asluav", 4), ("avssuas", 4), ("common", 4), ("cubepilot", 4), ("development", 4), ("matrixpilot", 4), ("paparazzi", 4), ("pythonarraytest", 4), ("storm32", 4), ("ualberta", 4), ("uavionix", 4)]),
  ("FENCE_ACTION_TERMINATE", [("all", 6), ("ardupilotmega", 6), ("asluav", 6), ("avssuas", 6), ("common", 6), ("cubepilot", 6), ("development", 6), ("matrixpilot", 6), ("paparazzi", 6), ("pythonarraytest", 6), ("storm32", 6), ("ualberta", 6), ("uavionix", 6)]),
  ("FENCE_BREACH_BOUNDARY", [("all", 3), ("ardupilotmega", 3), ("asluav", 3), ("avssuas", 3), ("common", 3), ("cubepilot", 3), ("development", 3), ("matrixpilot", 3), ("paparazzi", 3), ("pythonarraytest", 3), ("storm32", 3), ("ualberta", 3), ("uavionix", 3)]),
  ("FENCE_BREACH_MAXALT", [("all", 2), ("ardupilotmega", 2), ("asluav", 2), ("avssuas", 2), ("common", 2), ("cubepilot", 2), ("development", 2), ("matrixpilot", 2), ("paparazzi", 2), ("pythonarraytest", 2), ("storm32", 2), ("ualberta", 2), ("uavionix", 2)]),
  ("FENCE_BREACH_MINALT", [("all", 1), ("ardupilotmega", 1), ("asluav", 1), ("avssuas", 1), ("common", 1), ("cubepilot", 1), ("development", 1), ("matrixpilot", 1), ("paparazzi", 1), ("pythonarraytest", 1), ("storm32", 1), ("ualberta", 1), ("uavionix", 1)]),
  ("FENCE_BREACH_NONE", [("all", 0), ("ardupilotmega", 0), ("asluav", 0), ("avssuas", 0), ("common", 0), ("cubepilot", 0), ("development", 0), ("matrixpilot", 0), ("paparazzi", 0), ("pythonarraytest", 0), ("storm32", 0), ("ualberta", 0), ("uavionix", 0)]),
  ("FENCE_MITIGATE_NONE", [("all", 1), ("ardupilotmega", 1), ("asluav", 1), ("avssuas", 1), ("common", 1), ("cubepilot", 1), ("development", 1), ("matrixpilot", 1), ("paparazzi", 1), ("pythonarraytest", 1), ("storm32", 1), ("ualberta", 1), ("uavionix", 1)]),
  ("FENCE_MITIGATE_UNKNOWN", [("all", 0), ("ardupilotmega", 0), ("asluav", 0), ("avssuas", 0), ("common", 0), ("cubepilot", 0), ("development", 0), ("matrixpilot", 0), ("paparazzi", 0), ("pythonarraytest", 0), ("storm32", 0), ("ualberta", 0), ("uavionix", 0)]),
  ("FENCE_MITIGATE_VEL_LIMIT", [("all", 2), ("ardupilotmega", 2), ("asluav", 2), ("avssuas", 2), ("common", 2), ("cubepilot", 2), ("development", 2), ("matrixpilot", 2), ("paparazzi", 2), ("pythonarraytest", 2), ("storm32", 2), ("ualberta", 2), ("uavionix", 2)])]
def constGroups_7 : List (String × List (String × Nat)) := [
  ("FENCE_TYPE_ALL", [("all", 0), ("ardupilotmega", 0), ("asluav", 0), ("avssuas", 0), ("common", 0), ("cubepilot", 0), ("development", 0), ("matrixpilot", 0), ("paparazzi", 0), ("pythonarraytest", 0), ("storm32", 0), ("ualberta", 0), ("uavionix", 0)]),
  ("FENCE_TYPE_ALT_MAX", [("all", 1), ("ardupilotmega", 1), ("asluav", 1), ("avssuas", 1), ("common", 1), ("cubepilot", 1), ("development", 1), ("matrixpilot", 1), ("paparazzi", 1), ("pythonarraytest", 1), ("storm32", 1), ("ualberta", 1), ("uavionix", 1)]),
  ("FENCE_TYPE_ALT_MIN", [("all", 8), ("ardupilotmega", 8), ("asluav", 8), ("avssuas", 8), ("common", 8), ("cubepilot", 8), ("development", 8), ("matrixpilot", 8), ("paparazzi", 8), ("pythonarraytest", 8), ("storm32", 8), ("ualberta", 8), ("uavionix", 8)]),
  ("FENCE_TYPE_CIRCLE", [("all", 2), ("ardupilotmega", 2), ("asluav", 2), ("avssuas", 2), ("common", 2), ("cubepilot", 2), ("development", 2), ("matrixpilot", 2), ("paparazzi", 2), ("pythonarraytest", 2), ("storm32", 2), ("ualberta", 2), ("uavionix", 2)]),
  ("FENCE_TYPE_POLYGON", [("all", 4), ("ardupilotmega", 4), ("asluav", 4), ("avssuas", 4), ("common", 4), ("cubepilot", 4), ("development", 4), ("matrixpilot", 4), ("paparazzi", 4), ("pythonarraytest", 4), ("storm32", 4), ("ualberta", 4), ("uavionix", 4)]),
  ("FIRMWARE_VERSION_TYPE_ALPHA", [("all", 64), ("ardupilotmega", 64), ("asluav", 64), ("avssuas", 64), ("common", 64), ("cubepilot", 64), ("development", 64), ("matrixpilot", 64), ("paparazzi", 64), ("pythonarraytest", 64), ("storm32", 64), ("ualberta", 64), ("uavionix", 64)]),
  ("FIRMWARE_VERSION_TYPE_BETA", [("all", 128), ("ardupilotmega", 128), ("asluav", 128), ("avssuas", 128), ("common", 128), ("cubepilot", 128), ("development", 128), ("matrixpilot", 128), ("paparazzi", 128), ("pythonarraytest", 128), ("storm32", 128), ("ualberta", 128), ("uavionix", 128)]),
  ("FIRMWARE_VERSION_TYPE_DEV", [("all", 0), ("ardupilotmega", 0), ("asluav", 0), ("avssuas", 0), ("common", 0), ("cubepilot", 0), ("development", 0), ("matrixpilot", 0), ("paparazzi", 0), ("pythonarraytest", 0), ("storm32", 0), ("ualberta", 0), ("uavionix", 0)]),
  ("FIRMWARE_VERSION_TYPE_OFFICIAL", [("all", 255), ("ardupilotmega", 255), ("asluav", 255), ("avssuas", 255), ("common", 255), ("cubepilot", 255), ("development", 255), ("matrixpilot", 255), ("paparazzi", 255), ("pythonarraytest", 255), ("storm32", 255), ("ualberta", 255), ("uavionix", 255)]),
  ("FIRMWARE_VERSION_TYPE_RC", [("all", 192), ("ardupilotmega", 192), ("asluav", 192), ("avssuas", 192), ("common", 192), ("cubepilot", 192), ("development", 192), ("matrixpilot", 192), ("paparazzi", 192), ("pythonarraytest", 192), ("storm32", 192), ("ualberta", 192), ("uavionix", 192)]),
  ("FOCUS_TYPE_AUTO", [("all", 4), ("ardupilotmega", 4), ("asluav", 4), ("avssuas", 4), ("common", 4), ("cubepilot", 4), ("development", 4), ("matrixpilot", 4), ("paparazzi", 4), ("pythonarraytest", 4), ("storm32", 4), ("ualberta", 4), ("uavionix", 4)]),
  ("FOCUS_TYPE_AUTO_CONTINUOUS", [("all", 6), ("ardupilotmega", 6), ("asluav", 6), ("avssuas", 6), ("common", 6), ("cubepilot", 6), ("development", 6), ("matrixpilot", 6), ("paparazzi", 6), ("pythonarraytest", 6), ("storm32", 6), ("ualberta", 6), ("uavionix", 6)]),
  ("FOCUS_TYPE_AUTO_SINGLE", [("all", 5), ("ardupilotmega", 5), ("asluav", 5), ("avssuas", 5), ("common", 5), ("cubepilot", 5), ("development", 5), ("matrixpilot", 5), ("paparazzi", 5), ("pythonarraytest", 5), ("storm32", 5), ("ualberta", 5), ("uavionix", 5)]),
  ("FOCUS_TYPE_CONTINUOUS", [("all", 1), ("ardupilotmega", 1), ("asluav", 1), ("avssuas", 1), ("common", 1), ("cubepilot", 1), ("development", 1), ("matrixpilot", 1), ("paparazzi", 1), ("pythonarraytest", 1), ("storm32", 1), ("ualberta", 1), ("uavionix", 1)]),
  ("FOCUS_TYPE_METERS", [("all", 3), ("ardupilotmega", 3), ("asluav", 3), ("avssuas", 3), ("common", 3), ("cubepilot", 3), ("development", 3), ("matrixpilot", 3), ("paparazzi", 3), ("pythonarraytest", 3), ("storm32", 3), ("ualberta", 3), ("uavionix", 3)]),
  ("FOCUS_TYPE_RANGE", [("all", 2), ("ardupilotmega", 2), ("asluav", 2), ("avssuas", 2), ("common", 2), ("cubepilot", 2), ("development", 2), ("matrixpilot", 2), ("paparazzi", 2), ("pythonarraytest", 2), ("storm32", 2), ("ualberta", 2), ("uavionix", 2)]),
  ("FOCUS_TYPE_STEP", [("all", 0), ("ardupilotmega", 0), ("asluav", 0), ("avssuas", 0), ("common", 0), ("cubepilot", 0), ("development", 0), ("matrixpilot", 0), ("paparazzi", 0), ("pythonarraytest", 0), ("storm32", 0), ("ualberta", 0), ("uavionix", 0)]),
  ("GCS_CONTROL_STATUS_FLAGS_SYSTEM_MANAGER", [("all", 1), ("development", 1)]),
  ("GCS_CONTROL_STATUS_FLAGS_TAKEOVER_ALLOWED", [("all", 2), ("development", 2)]),
  ("GIMBAL_AXIS_CALIBRATION_REQUIRED_FALSE", [("all", 2), ("ardupilotmega", 2), ("storm32", 2)]),
  ("GIMBAL_AXIS_CALIBRATION_REQUIRED_TRUE", [("all", 1), ("ardupilotmega", 1), ("storm32", 1)]),
  ("GIMBAL_AXIS_CALIBRATION_REQUIRED_UNKNOWN", [("all", 0), ("ardupilotmega", 0), ("storm32", 0)]),
  ("GIMBAL_AXIS_CALIBRATION_STATUS_FAILED", [("all", 2), ("ardupilotmega", 2), ("storm32", 2)]),
  ("GIMBAL_AXIS_CALIBRATION_STATUS_IN_PROGRESS", [("all", 0), ("ardupilotmega", 0), ("storm32", 0)]),
  ("GIMBAL_AXIS_CALIBRATION_STATUS_SUCCEEDED", [("all", 1), ("ardupilotmega", 1), ("storm32", 1)]),
  ("GIMBAL_AXIS_PITCH", [("all", 1), ("ardupilotmega", 1), ("storm32", 1)]),
  ("GIMBAL_AXIS_ROLL", [("all", 2), ("ardupilotmega", 2), ("storm32", 2)]),
  ("GIMBAL_AXIS_YAW", [("all", 0), ("ardupilotmega", 0), ("storm32", 0)]),
  ("GIMBAL_DEVICE_CAP_FLAGS_HAS_NEUTRAL", [("all", 2), ("ardupilotmega", 2), ("asluav", 2), ("avssuas", 2), ("common", 2), ("cubepilot", 2), ("development", 2), ("matrixpilot", 2), ("paparazzi", 2), ("pythonarraytest", 2), ("storm32", 2), ("ualberta", 2), ("uavionix", 2)]),
  ("GIMBAL_DEVICE_CAP_FLAGS_HAS_PITCH_AXIS", [("all", 32), ("ardupilotmega", 32), ("asluav", 32), ("avssuas", 32), ("common", 32), ("cubepilot", 32), ("development", 32), ("matrixpilot", 32), ("paparazzi", 32), ("pythonarraytest", 32), ("storm32", 32), ("ualberta", 32), ("uavionix", 32)]),
  ("GIMBAL_DEVICE_CAP_FLAGS_HAS_PITCH_FOLLOW", [("all", 64), ("ardupilotmega", 64), ("asluav", 64), ("avssuas", 64), ("common", 64), ("cubepilot", 64), ("development", 64), ("matrixpilot", 64), ("paparazzi", 64), ("pythonarraytest", 64), ("storm32", 64), ("ualberta", 64), ("uavionix", 64)]),
  ("GIMBAL_DEVICE_CAP_FLAGS_HAS_PITCH_LOCK", [("all", 128), ("ardupilotmega", 128), ("asluav", 128), ("avssuas", 128), ("common", 128), ("cubepilot", 128), ("development", 128), ("matrixpilot", 128), ("paparazzi", 128), ("pythonarraytest", 128), ("storm32", 128), ("ualberta", 128), ("uavionix", 128)]),
  ("GIMBAL_DEVICE_CAP_FLAGS_HAS_RC_INPUTS", [("all", 8192), ("ardupilotmega", 8192), ("asluav", 8192), ("avssuas", 8192), ("common", 8192), ("cubepilot", 8192), ("development", 8192), ("matrixpilot", 8192), ("paparazzi", 8192), ("pythonarraytest", 8192), ("storm32", 8192), ("ualberta", 8192), ("uavionix", 8192)]),
  ("GIMBAL_DEVICE_CAP_FLAGS_HAS_RETRACT", [("all", 1), ("ardupilotmega", 1), ("asluav", 1), ("avssuas", 1), ("common", 1), ("cubepilot", 1), ("development", 1), ("matrixpilot", 1), ("paparazzi", 1), ("pythonarraytest", 1), ("storm32", 1), ("ualberta", 1), ("uavionix", 1)]),
  ("GIMBAL_DEVICE_CAP_FLAGS_HAS_ROLL_AXIS", [("all", 4), ("ardupilotmega", 4), ("asluav", 4), ("avssuas", 4), ("common", 4), ("cubepilot", 4), ("development", 4), ("matrixpilot", 4), ("paparazzi", 4), ("pythonarraytest", 4), ("storm32", 4), ("ualberta", 4), ("uavionix", 4)]),
  ("GIMBAL_DEVICE_CAP_FLAGS_HAS_ROLL_FOLLOW", [("all", 8), ("ardupilotmega", 8), ("asluav", 8), ("avssuas", 8), ("common", 8), ("cubepilot", 8), ("development", 8), ("matrixpilot", 8), ("paparazzi", 8), ("pythonarraytest", 8), ("storm32", 8), ("ualberta", 8), ("uavionix", 8)]),
  ("GIMBAL_DEVICE_CAP_FLAGS_HAS_ROLL_LOCK", [("all", 16), ("ardupilotmega", 16), ("asluav", 16), ("avssuas", 16), ("common", 16), ("cubepilot", 16), ("development", 16), ("matrixpilot", 16), ("paparazzi", 16), ("pythonarraytest", 16), ("storm32", 16), ("ualberta", 16), ("uavionix", 16)]),
  ("GIMBAL_DEVICE_CAP_FLAGS_HAS_YAW_AXIS", [("all", 256), ("ardupilotmega", 256), ("asluav", 256), ("avssuas", 256), ("common", 256), ("cubepilot", 256), ("development", 256), ("matrixpilot", 256), ("paparazzi", 256), ("pythonarraytest", 256), ("storm32", 256), ("ualberta", 256), ("uavionix", 256)]),
  ("GIMBAL_DEVICE_CAP_FLAGS_HAS_YAW_FOLLOW", [("all", 512), ("ardupilotmega", 512), ("asluav", 512), ("avssuas", 512), ("common", 512), ("cubepilot", 512), ("development", 512), ("matrixpilot", 512), ("paparazzi", 512), ("pythonarraytest", 512), ("storm32", 512), ("ualberta", 512), ("uavionix", 512)]),
  ("GIMBAL_DEVICE_CAP_FLAGS_HAS_YAW_LOCK", [("all", 1024), ("ardupilotmega", 1024), ("asluav", 1024), ("avssuas", 1024), ("common", 1024), ("cubepilot", 1024), ("development", 1024), ("matrixpilot", 1024), ("paparazzi", 1024), ("pythonarraytest", 1024), ("storm32", 1024), ("ualberta", 1024), ("uavionix", 1024)]),
  ("GIMBAL_DEVICE_CAP_FLAGS_SUPPORTS_INFINITE_YAW", [("all", 2048), ("ardupilotmega", 2048), ("asluav", 2048), ("avssuas", 2048), ("common", 2048), ("cubepilot", 2048), ("development", 2048), ("matrixpilot", 2048), ("paparazzi", 2048), ("pythonarraytest", 2048), ("storm32", 2048), ("ualberta", 2048), ("uavionix", 2048)]),
  ("GIMBAL_DEVICE_CAP_FLAGS_SUPPORTS_YAW_IN_EARTH_FRAME", [("all", 4096), ("ardupilotmega", 4096), ("asluav", 4096), ("avssuas", 4096), ("common", 4096), ("cubepilot", 4096), ("development", 4096), ("matrixpilot", 4096), ("paparazzi", 4096), ("pythonarraytest", 4096), ("storm32", 4096), ("ualberta", 4096), ("uavionix", 4096)]),
  ("GIMBAL_DEVICE_ERROR_FLAGS_AT_PITCH_LIMIT", [("all", 2), ("ardupilotmega", 2), ("asluav", 2), ("avssuas", 2), ("common", 2), ("cubepilot", 2), ("development", 2), ("matrixpilot", 2), ("paparazzi", 2), ("pythonarraytest", 2), ("storm32", 2), ("ualberta", 2), ("uavionix", 2)]),
  ("GIMBAL_DEVICE_ERROR_FLAGS_AT_ROLL_LIMIT", [("all", 1), ("ardupilotmega", 1), ("asluav", 1), ("avssuas", 1), ("common", 1), ("cubepilot", 1), ("development", 1), ("matrixpilot", 1), ("paparazzi", 1), ("pythonarraytest", 1), ("storm32", 1), ("ualberta", 1), ("uavionix", 1)]),
  ("GIMBAL_DEVICE_ERROR_FLAGS_AT_YAW_LIMIT", [("all", 4), ("ardupilotmega", 4), ("asluav", 4), ("avssuas", 4), ("common", 4), ("cubepilot", 4), ("development", 4), ("matrixpilot", 4), ("paparazzi", 4), ("pythonarraytest", 4), ("storm32", 4), ("ualberta", 4), ("uavionix", 4)]),
  ("GIMBAL_DEVICE_ERROR_FLAGS_CALIBRATION_RUNNING", [("all", 256), ("ardupilotmega", 256), ("asluav", 256), ("avssuas", 256), ("common", 256), ("cubepilot", 256), ("development", 256), ("matrixpilot", 256), ("paparazzi", 256), ("pythonarraytest", 256), ("storm32", 256), ("ualberta", 256), ("uavionix", 256)]),
  ("GIMBAL_DEVICE_ERROR_FLAGS_COMMS_ERROR", [("all", 128), ("ardupilotmega", 128), ("asluav", 128), ("avssuas", 128), ("common", 128), ("cubepilot", 128), ("development", 128), ("matrixpilot", 128), ("paparazzi", 128), ("pythonarraytest", 128), ("storm32", 128), ("ualberta", 128), ("uavionix", 128)]),
  ("GIMBAL_DEVICE_ERROR_FLAGS_ENCODER_ERROR", [("all", 8), ("ardupilotmega", 8), ("asluav", 8), ("avssuas", 8), ("common", 8), ("cubepilot", 8), ("development", 8), ("matrixpilot", 8), ("paparazzi", 8), ("pythonarraytest", 8), ("storm32", 8), ("ualberta", 8), ("uavionix", 8)]),
  ("GIMBAL_DEVICE_ERROR_FLAGS_MOTOR_ERROR", [("all", 32), ("ardupilotmega", 32), ("asluav", 32), ("avssuas", 32), ("common", 32), ("cubepilot", 32), ("development", 32), ("matrixpilot", 32), ("paparazzi", 32), ("pythonarraytest", 32), ("storm32", 32), ("ualberta", 32), ("uavionix", 32)]),
  ("GIMBAL_DEVICE_ERROR_FLAGS_NO_MANAGER", [("all", 512), ("ardupilotmega", 512), ("asluav", 512), ("avssuas", 512), ("common", 512), ("cubepilot", 512), ("development", 512), ("matrixpilot", 512), ("paparazzi", 512), ("pythonarraytest", 512), ("storm32", 512), ("ualberta", 512), ("uavionix", 512)]),
  ("GIMBAL_DEVICE_ERROR_FLAGS_POWER_ERROR", [("all", 16), ("ardupilotmega", 16), ("asluav", 16), ("avssuas", 16), ("common", 16), ("cubepilot", 16), ("development", 16), ("matrixpilot", 16), ("paparazzi", 16), ("pythonarraytest", 16), ("storm32", 16), ("ualberta", 16), ("uavionix", 16)]),
  ("GIMBAL_DEVICE_ERROR_FLAGS_SOFTWARE_ERROR", [("all", 64), ("ardupilotmega", 64), ("asluav", 64), ("avssuas", 64), ("common", 64), ("cubepilot", 64), ("development", 64), ("matrixpilot", 64), ("paparazzi", 64), ("pythonarraytest", 64), ("storm32", 64), ("ualberta", 64), ("uavionix", 64)]),
  ("GIMBAL_DEVICE_FLAGS_ACCEPTS_YAW_IN_EARTH_FRAME", [("all", 128), ("ardupilotmega", 128), ("asluav", 128), ("avssuas", 128), ("common", 128), ("cubepilot", 128), ("development", 128), ("matrixpilot", 128), ("paparazzi", 128), ("pythonarraytest", 128), ("storm32", 128), ("ualberta", 128), ("uavionix", 128)]),
  ("GIMBAL_DEVICE_FLAGS_NEUTRAL", [("all", 2), ("ardupilotmega", 2), ("asluav", 2), ("avssuas", 2), ("common", 2), ("cubepilot", 2), ("development", 2), ("matrixpilot", 2), ("paparazzi", 2), ("pythonarraytest", 2), ("storm32", 2), ("ualberta", 2), ("uavionix", 2)]),
  ("GIMBAL_DEVICE_FLAGS_PITCH_LOCK", [("all", 8), ("ardupilotmega", 8), ("asluav", 8), ("avssuas", 8), ("common", 8), ("cubepilot", 8), ("development", 8), ("matrixpilot", 8), ("paparazzi", 8), ("pythonarraytest", 8), ("storm32", 8), ("ualberta", 8), ("uavionix", 8)]),
  ("GIMBAL_DEVICE_FLAGS_RC_EXCLUSIVE", [("all", 256), ("ardupilotmega", 256), ("asluav", 256), ("avssuas", 256), ("common", 256), ("cubepilot", 256), ("development", 256), ("matrixpilot", 256), ("paparazzi", 256), ("pythonarraytest", 256), ("storm32", 256), ("ualberta", 256), ("uavionix", 256)]),
  ("GIMBAL_DEVICE_FLAGS_RC_MIXED", [("all", 512), ("ardupilotmega", 512), ("asluav", 512), ("avssuas", 512), ("common", 512), ("cubepilot", 512), ("development", 512), ("matrixpilot", 512), ("paparazzi", 512), ("pythonarraytest", 512), ("storm32", 512), ("ualberta", 512), ("uavionix", 512)]),
  ("GIMBAL_DEVICE_FLAGS_RETRACT", [("all", 1), ("ardupilotmega", 1), ("asluav", 1), ("avssuas", 1), ("common", 1), ("cubepilot", 1), ("development", 1), ("matrixpilot", 1), ("paparazzi", 1), ("pythonarraytest", 1), ("storm32", 1), ("ualberta", 1), ("uavionix", 1)]),
  ("GIMBAL_DEVICE_FLAGS_ROLL_LOCK", [("all", 4), ("ardupilotmega", 4), ("asluav", 4), ("avssuas", 4), ("common", 4), ("cubepilot", 4), ("development", 4), ("matrixpilot", 4), ("paparazzi", 4), ("pythonarraytest", 4), ("storm32", 4), ("ualberta", 4), ("uavionix", 4)]),
  ("GIMBAL_DEVICE_FLAGS_YAW_IN_EARTH_FRAME", [("all", 64), ("ardupilotmega", 64), ("asluav", 64), ("avssuas", 64), ("common", 64), ("cubepilot", 64), ("development", 64), ("matrixpilot", 64), ("paparazzi", 64), ("pythonarraytest", 64), ("storm32", 64), ("ualberta", 64), ("uavionix", 64)])]
def constGroups_8 : List (String × List (String × Nat)) := [
  ("GIMBAL_DEVICE_FLAGS_YAW_IN_VEHICLE_FRAME", [("all", 32), ("ardupilotmega", 32), ("asluav", 32), ("avssuas", 32), ("common", 32), ("cubepilot", 32), ("development", 32), ("matrixpilot", 32), ("paparazzi", 32), ("pythonarraytest", 32), ("storm32", 32), ("ualberta", 32), ("uavionix", 32)]),
  ("GIMBAL_DEVICE_FLAGS_YAW_LOCK", [("all", 16), ("ardupilotmega", 16), ("asluav", 16), ("avssuas", 16), ("common", 16), ("cubepilot", 16), ("development", 16), ("matrixpilot", 16), ("paparazzi", 16), ("pythonarraytest", 16), ("storm32", 16), ("ualberta", 16), ("uavionix", 16)]),
  ("GIMBAL_MANAGER_CAP_FLAGS_CAN_POINT_LOCATION_GLOBAL", [("all", 131072), ("ardupilotmega", 131072), ("asluav", 131072), ("avssuas", 131072), ("common", 131072), ("cubepilot", 131072), ("development", 131072), ("matrixpilot", 131072), ("paparazzi", 131072), ("pythonarraytest", 131072), ("storm32", 131072), ("ualberta", 131072), ("uavionix", 131072)]),
  ("GIMBAL_MANAGER_CAP_FLAGS_CAN_POINT_LOCATION_LOCAL", [("all", 65536), ("ardupilotmega", 65536), ("asluav", 65536), ("avssuas", 65536), ("common", 65536), ("cubepilot", 65536), ("development", 65536), ("matrixpilot", 65536), ("paparazzi", 65536), ("pythonarraytest", 65536), ("storm32", 65536), ("ualberta", 65536), ("uavionix", 65536)]),
  ("GIMBAL_MANAGER_CAP_FLAGS_HAS_NEUTRAL", [("all", 2), ("ardupilotmega", 2), ("asluav", 2), ("avssuas", 2), ("common", 2), ("cubepilot", 2), ("development", 2), ("matrixpilot", 2), ("paparazzi", 2), ("pythonarraytest", 2), ("storm32", 2), ("ualberta", 2), ("uavionix", 2)]),
  ("GIMBAL_MANAGER_CAP_FLAGS_HAS_PITCH_AXIS", [("all", 32), ("ardupilotmega", 32), ("asluav", 32), ("avssuas", 32), ("common", 32), ("cubepilot", 32), ("development", 32), ("matrixpilot", 32), ("paparazzi", 32), ("pythonarraytest", 32), ("storm32", 32), ("ualberta", 32), ("uavionix", 32)]),
  ("GIMBAL_MANAGER_CAP_FLAGS_HAS_PITCH_FOLLOW", [("all", 64), ("ardupilotmega", 64), ("asluav", 64), ("avssuas", 64), ("common", 64), ("cubepilot", 64), ("development", 64), ("matrixpilot", 64), ("paparazzi", 64), ("pythonarraytest", 64), ("storm32", 64), ("ualberta", 64), ("uavionix", 64)]),
  ("GIMBAL_MANAGER_CAP_FLAGS_HAS_PITCH_LOCK", [("all", 128), ("ardupilotmega", 128), ("asluav", 128), ("avssuas", 128), ("common", 128), ("cubepilot", 128), ("development", 128), ("matrixpilot", 128), ("paparazzi", 128), ("pythonarraytest", 128), ("storm32", 128), ("ualberta", 128), ("uavionix", 128)]),
  ("GIMBAL_MANAGER_CAP_FLAGS_HAS_RC_INPUTS", [("all", 8192), ("ardupilotmega", 8192), ("asluav", 8192), ("avssuas", 8192), ("common", 8192), ("cubepilot", 8192), ("development", 8192), ("matrixpilot", 8192), ("paparazzi", 8192), ("pythonarraytest", 8192), ("storm32", 8192), ("ualberta", 8192), ("uavionix", 8192)]),
  ("GIMBAL_MANAGER_CAP_FLAGS_HAS_RETRACT", [("all", 1), ("ardupilotmega", 1), ("asluav", 1), ("avssuas", 1), ("common", 1), ("cubepilot", 1), ("development", 1), ("matrixpilot", 1), ("paparazzi", 1), ("pythonarraytest", 1), ("storm32", 1), ("ualberta", 1), ("uavionix", 1)]),
  ("GIMBAL_MANAGER_CAP_FLAGS_HAS_ROLL_AXIS", [("all", 4), ("ardupilotmega", 4), ("asluav", 4), ("avssuas", 4), ("common", 4), ("cubepilot", 4), ("development", 4), ("matrixpilot", 4), ("paparazzi", 4), ("pythonarraytest", 4), ("storm32", 4), ("ualberta", 4), ("uavionix", 4)]),
  ("GIMBAL_MANAGER_CAP_FLAGS_HAS_ROLL_FOLLOW", [("all", 8), ("ardupilotmega", 8), ("asluav", 8), ("avssuas", 8), ("common", 8), ("cubepilot", 8), ("development", 8), ("matrixpilot", 8), ("paparazzi", 8), ("pythonarraytest", 8), ("storm32", 8), ("ualberta", 8), ("uavionix", 8)]),
  ("GIMBAL_MANAGER_CAP_FLAGS_HAS_ROLL_LOCK", [("all", 16), ("ardupilotmega", 16), ("asluav", 16), ("avssuas", 16), ("common", 16), ("cubepilot", 16), ("development", 16), ("matrixpilot", 16), ("paparazzi", 16), ("pythonarraytest", 16), ("storm32", 16), ("ualberta", 16), ("uavionix", 16)]),
  ("GIMBAL_MANAGER_CAP_FLAGS_HAS_YAW_AXIS", [("all", 256), ("ardupilotmega", 256), ("asluav", 256), ("avssuas", 256), ("common", 256), ("cubepilot", 256), ("development", 256), ("matrixpilot", 256), ("paparazzi", 256), ("pythonarraytest", 256), ("storm32", 256), ("ualberta", 256), ("uavionix", 256)]),
  ("GIMBAL_MANAGER_CAP_FLAGS_HAS_YAW_FOLLOW", [("all", 512), ("ardupilotmega", 512), ("asluav", 512), ("avssuas", 512), ("common", 512), ("cubepilot", 512), ("development", 512), ("matrixpilot", 512), ("paparazzi", 512), ("pythonarraytest", 512), ("storm32", 512), ("ualberta", 512), ("uavionix", 512)]),
  ("GIMBAL_MANAGER_CAP_FLAGS_HAS_YAW_LOCK", [("all", 1024), ("ardupilotmega", 1024), ("asluav", 1024), ("avssuas", 1024), ("common", 1024), ("cubepilot", 1024), ("development", 1024), ("matrixpilot", 1024), ("paparazzi", 1024), ("pythonarraytest", 1024), ("storm32", 1024), ("ualberta", 1024), ("uavionix", 1024)]),
  ("GIMBAL_MANAGER_CAP_FLAGS_SUPPORTS_INFINITE_YAW", [("all", 2048), ("ardupilotmega", 2048), ("asluav", 2048), ("avssuas", 2048), ("common", 2048), ("cubepilot", 2048), ("development", 2048), ("matrixpilot", 2048), ("paparazzi", 2048), ("pythonarraytest", 2048), ("storm32", 2048), ("ualberta", 2048), ("uavionix", 2048)]),
  ("GIMBAL_MANAGER_CAP_FLAGS_SUPPORTS_YAW_IN_EARTH_FRAME", [("all", 4096), ("ardupilotmega", 4096), ("asluav", 4096), ("avssuas", 4096), ("common", 4096), ("cubepilot", 4096), ("development", 4096), ("matrixpilot", 4096), ("paparazzi", 4096), ("pythonarraytest", 4096), ("storm32", 4096), ("ualberta", 4096), ("uavionix", 4096)]),
  ("GIMBAL_MANAGER_FLAGS_ACCEPTS_YAW_IN_EARTH_FRAME", [("all", 128), ("ardupilotmega", 128), ("asluav", 128), ("avssuas", 128), ("common", 128), ("cubepilot", 128), ("development", 128), ("matrixpilot", 128), ("paparazzi", 128), ("pythonarraytest", 128), ("storm32", 128), ("ualberta", 128), ("uavionix", 128)]),
  ("GIMBAL_MANAGER_FLAGS_NEUTRAL", [("all", 2), ("ardupilotmega", 2), ("asluav", 2), ("avssuas", 2), ("common", 2), ("cubepilot", 2), ("development", 2), ("matrixpilot", 2), ("paparazzi", 2), ("pythonarraytest", 2), ("storm32", 2), ("ualberta", 2), ("uavionix", 2)]),
  ("GIMBAL_MANAGER_FLAGS_PITCH_LOCK", [("all", 8), ("ardupilotmega", 8), ("asluav", 8), ("avssuas", 8), ("common", 8), ("cubepilot", 8), ("development", 8), ("matrixpilot", 8), ("paparazzi", 8), ("pythonarraytest", 8), ("storm32", 8), ("ualberta", 8), ("uavionix", 8)]),
  ("GIMBAL_MANAGER_FLAGS_RC_EXCLUSIVE", [("all", 256), ("ardupilotmega", 256), ("asluav", 256), ("avssuas", 256), ("common", 256), ("cubepilot", 256), ("development", 256), ("matrixpilot", 256), ("paparazzi", 256), ("pythonarraytest", 256), ("storm32", 256), ("ualberta", 256), ("uavionix", 256)]),
  ("GIMBAL_MANAGER_FLAGS_RC_MIXED", [("all", 512), ("ardupilotmega", 512), ("asluav", 512), ("avssuas", 512), ("common", 512), ("cubepilot", 512), ("development", 512), ("matrixpilot", 512), ("paparazzi", 512), ("pythonarraytest", 512), ("storm32", 512), ("ualberta", 512), ("uavionix", 512)]),
  ("GIMBAL_MANAGER_FLAGS_RETRACT", [("all", 1), ("ardupilotmega", 1), ("asluav", 1), ("avssuas", 1), ("common", 1), ("cubepilot", 1), ("development", 1), ("matrixpilot", 1), ("paparazzi", 1), ("pythonarraytest", 1), ("storm32", 1), ("ualberta", 1), ("uavionix", 1)]),
  ("GIMBAL_MANAGER_FLAGS_ROLL_LOCK", [("all", 4), ("ardupilotmega", 4), ("asluav", 4), ("avssuas", 4), ("common", 4), ("cubepilot", 4), ("development", 4), ("matrixpilot", 4), ("paparazzi", 4), ("pythonarraytest", 4), ("storm32", 4), ("ualberta", 4), ("uavionix", 4)]),
  ("GIMBAL_MANAGER_FLAGS_YAW_IN_EARTH_FRAME", [("all", 64), ("ardupilotmega", 64), ("asluav", 64), ("avssuas", 64), ("common", 64), ("cubepilot", 64), ("development", 64), ("matrixpilot", 64), ("paparazzi", 64), ("pythonarraytest", 64), ("storm32", 64), ("ualberta", 64), ("uavionix", 64)]),
  ("GIMBAL_MANAGER_FLAGS_YAW_IN_VEHICLE_FRAME", [("all", 32), ("ardupilotmega", 32), ("asluav", 32), ("avssuas", 32), ("common", 32), ("cubepilot", 32), ("development", 32), ("matrixpilot", 32), ("paparazzi", 32), ("pythonarraytest", 32), ("storm32", 32), ("ualberta", 32), ("uavionix", 32)]),
  ("GIMBAL_MANAGER_FLAGS_YAW_LOCK", [("all", 16), ("ardupilotmega", 16), ("asluav", 16), ("avssuas", 16), ("common", 16), ("cubepilot", 16), ("development", 16), ("matrixpilot", 16), ("paparazzi", 16), ("pythonarraytest", 16), ("storm32", 16), ("ualberta", 16), ("uavionix", 16)]),
  ("GOPRO_BURST_RATE_10_IN_1_SECOND", [("all", 2), ("ardupilotmega", 2), ("storm32", 2)]),
  ("GOPRO_BURST_RATE_10_IN_2_SECOND", [("all", 3), ("ardupilotmega", 3), ("storm32", 3)]),
  ("GOPRO_BURST_RATE_10_IN_3_SECOND", [("all", 4), ("ardupilotmega", 4), ("storm32", 4)]),
  ("GOPRO_BURST_RATE_30_IN_1_SECOND", [("all", 5), ("ardupilotmega", 5), ("storm32", 5)]),
  ("GOPRO_BURST_RATE_30_IN_2_SECOND", [("all", 6), ("ardupilotmega", 6), ("storm32", 6)]),
  ("GOPRO_BURST_RATE_30_IN_3_SECOND", [("all", 7), ("ardupilotmega", 7), ("storm32", 7)]),
  ("GOPRO_BURST_RATE_30_IN_6_SECOND", [("all", 8), ("ardupilotmega", 8), ("storm32", 8)]),
  ("GOPRO_BURST_RATE_3_IN_1_SECOND", [("all", 0), ("ardupilotmega", 0), ("storm32", 0)]),
  ("GOPRO_BURST_RATE_5_IN_1_SECOND", [("all", 1), ("ardupilotmega", 1), ("storm32", 1)]),
  ("GOPRO_CAPTURE_MODE_BURST", [("all", 2), ("ardupilotmega", 2), ("storm32", 2)]),
  ("GOPRO_CAPTURE_MODE_MULTI_SHOT", [("all", 4), ("ardupilotmega", 4), ("storm32", 4)]),
  ("GOPRO_CAPTURE_MODE_PHOTO", [("all", 1), ("ardupilotmega", 1), ("storm32", 1)]),
  ("GOPRO_CAPTURE_MODE_PLAYBACK", [("all", 5), ("ardupilotmega", 5), ("storm32", 5)]),
  ("GOPRO_CAPTURE_MODE_SETUP", [("all", 6), ("ardupilotmega", 6), ("storm32", 6)]),
  ("GOPRO_CAPTURE_MODE_TIME_LAPSE", [("all", 3), ("ardupilotmega", 3), ("storm32", 3)]),
  ("GOPRO_CAPTURE_MODE_UNKNOWN", [("all", 255), ("ardupilotmega", 255), ("storm32", 255)]),
  ("GOPRO_CAPTURE_MODE_VIDEO", [("all", 0), ("ardupilotmega", 0), ("storm32", 0)]),
  ("GOPRO_CHARGING_DISABLED", [("all", 0), ("ardupilotmega", 0), ("storm32", 0)]),
  ("GOPRO_CHARGING_ENABLED", [("all", 1), ("ardupilotmega", 1), ("storm32", 1)]),
  ("GOPRO_COMMAND_BATTERY", [("all", 3), ("ardupilotmega", 3), ("storm32", 3)]),
  ("GOPRO_COMMAND_CAPTURE_MODE", [("all", 1), ("ardupilotmega", 1), ("storm32", 1)]),
  ("GOPRO_COMMAND_CHARGING", [("all", 16), ("ardupilotmega", 16), ("storm32", 16)]),
  ("GOPRO_COMMAND_LOW_LIGHT", [("all", 6), ("ardupilotmega", 6), ("storm32", 6)]),
  ("GOPRO_COMMAND_MODEL", [("all", 4), ("ardupilotmega", 4), ("storm32", 4)]),
  ("GOPRO_COMMAND_PHOTO_BURST_RATE", [("all", 8), ("ardupilotmega", 8), ("storm32", 8)]),
  ("GOPRO_COMMAND_PHOTO_RESOLUTION", [("all", 7), ("ardupilotmega", 7), ("storm32", 7)]),
  ("GOPRO_COMMAND_POWER", [("all", 0), ("ardupilotmega", 0), ("storm32", 0)]),
  ("GOPRO_COMMAND_PROTUNE", [("all", 9), ("ardupilotmega", 9), ("storm32", 9)]),
  ("GOPRO_COMMAND_PROTUNE_COLOUR", [("all", 11), ("ardupilotmega", 11), ("storm32", 11)]),
  ("GOPRO_COMMAND_PROTUNE_EXPOSURE", [("all", 14), ("ardupilotmega", 14), ("storm32", 14)]),
  ("GOPRO_COMMAND_PROTUNE_GAIN", [("all", 12), ("ardupilotmega", 12), ("storm32", 12)]),
  ("GOPRO_COMMAND_PROTUNE_SHARPNESS", [("all", 13), ("ardupilotmega", 13), ("storm32", 13)])]
def constGroups_9 : List (String × List (String × Nat)) := [
  ("GOPRO_COMMAND_PROTUNE_WHITE_BALANCE", [("all", 10), ("ardupilotmega", 10), ("storm32", 10)]),
  ("GOPRO_COMMAND_SHUTTER", [("all", 2), ("ardupilotmega", 2), ("storm32", 2)]),
  ("GOPRO_COMMAND_TIME", [("all", 15), ("ardupilotmega", 15), ("storm32", 15)]),
  ("GOPRO_COMMAND_VIDEO_SETTINGS", [("all", 5), ("ardupilotmega", 5), ("storm32", 5)]),
  ("GOPRO_FIELD_OF_VIEW_MEDIUM", [("all", 1), ("ardupilotmega", 1), ("storm32", 1)]),
  ("GOPRO_FIELD_OF_VIEW_NARROW", [("all", 2), ("ardupilotmega", 2), ("storm32", 2)]),
  ("GOPRO_FIELD_OF_VIEW_WIDE", [("all", 0), ("ardupilotmega", 0), ("storm32", 0)]),
  ("GOPRO_FLAG_RECORDING", [("all", 1), ("ardupilotmega", 1), ("storm32", 1)]),
  ("GOPRO_FRAME_RATE_100", [("all", 10), ("ardupilotmega", 10), ("storm32", 10)]),
  ("GOPRO_FRAME_RATE_12", [("all", 0), ("ardupilotmega", 0), ("storm32", 0)]),
  ("GOPRO_FRAME_RATE_120", [("all", 11), ("ardupilotmega", 11), ("storm32", 11)]),
  ("GOPRO_FRAME_RATE_12_5", [("all", 13), ("ardupilotmega", 13), ("storm32", 13)]),
  ("GOPRO_FRAME_RATE_15", [("all", 1), ("ardupilotmega", 1), ("storm32", 1)]),
  ("GOPRO_FRAME_RATE_24", [("all", 2), ("ardupilotmega", 2), ("storm32", 2)]),
  ("GOPRO_FRAME_RATE_240", [("all", 12), ("ardupilotmega", 12), ("storm32", 12)]),
  ("GOPRO_FRAME_RATE_25", [("all", 3), ("ardupilotmega", 3), ("storm32", 3)]),
  ("GOPRO_FRAME_RATE_30", [("all", 4), ("ardupilotmega", 4), ("storm32", 4)]),
  ("GOPRO_FRAME_RATE_48", [("all", 5), ("ardupilotmega", 5), ("storm32", 5)]),
  ("GOPRO_FRAME_RATE_50", [("all", 6), ("ardupilotmega", 6), ("storm32", 6)]),
  ("GOPRO_FRAME_RATE_60", [("all", 7), ("ardupilotmega", 7), ("storm32", 7)]),
  ("GOPRO_FRAME_RATE_80", [("all", 8), ("ardupilotmega", 8), ("storm32", 8)]),
  ("GOPRO_FRAME_RATE_90", [("all", 9), ("ardupilotmega", 9), ("storm32", 9)]),
  ("GOPRO_HEARTBEAT_STATUS_CONNECTED", [("all", 2), ("ardupilotmega", 2), ("storm32", 2)]),
  ("GOPRO_HEARTBEAT_STATUS_DISCONNECTED", [("all", 0), ("ardupilotmega", 0), ("storm32", 0)]),
  ("GOPRO_HEARTBEAT_STATUS_ERROR", [("all", 3), ("ardupilotmega", 3), ("storm32", 3)]),
  ("GOPRO_HEARTBEAT_STATUS_INCOMPATIBLE", [("all", 1), ("ardupilotmega", 1), ("storm32", 1)]),
  ("GOPRO_MODEL_HERO_3_PLUS_BLACK", [("all", 2), ("ardupilotmega", 2), ("storm32", 2)]),
  ("GOPRO_MODEL_HERO_3_PLUS_SILVER", [("all", 1), ("ardupilotmega", 1), ("storm32", 1)]),
  ("GOPRO_MODEL_HERO_4_BLACK", [("all", 4), ("ardupilotmega", 4), ("storm32", 4)]),
  ("GOPRO_MODEL_HERO_4_SILVER", [("all", 3), ("ardupilotmega", 3), ("storm32", 3)]),
  ("GOPRO_MODEL_UNKNOWN", [("all", 0), ("ardupilotmega", 0), ("storm32", 0)]),
  ("GOPRO_PHOTO_RESOLUTION_10MP_WIDE", [("all", 3), ("ardupilotmega", 3), ("storm32", 3)]),
  ("GOPRO_PHOTO_RESOLUTION_12MP_WIDE", [("all", 4), ("ardupilotmega", 4), ("storm32", 4)]),
  ("GOPRO_PHOTO_RESOLUTION_5MP_MEDIUM", [("all", 0), ("ardupilotmega", 0), ("storm32", 0)]),
  ("GOPRO_PHOTO_RESOLUTION_7MP_MEDIUM", [("all", 1), ("ardupilotmega", 1), ("storm32", 1)]),
  ("GOPRO_PHOTO_RESOLUTION_7MP_WIDE", [("all", 2), ("ardupilotmega", 2), ("storm32", 2)]),
  ("GOPRO_PROTUNE_COLOUR_NEUTRAL", [("all", 1), ("ardupilotmega", 1), ("storm32", 1)]),
  ("GOPRO_PROTUNE_COLOUR_STANDARD", [("all", 0), ("ardupilotmega", 0), ("storm32", 0)]),
  ("GOPRO_PROTUNE_EXPOSURE_NEG_0_5", [("all", 9), ("ardupilotmega", 9), ("storm32", 9)]),
  ("GOPRO_PROTUNE_EXPOSURE_NEG_1_0", [("all", 8), ("ardupilotmega", 8), ("storm32", 8)]),
  ("GOPRO_PROTUNE_EXPOSURE_NEG_1_5", [("all", 7), ("ardupilotmega", 7), ("storm32", 7)]),
  ("GOPRO_PROTUNE_EXPOSURE_NEG_2_0", [("all", 6), ("ardupilotmega", 6), ("storm32", 6)]),
  ("GOPRO_PROTUNE_EXPOSURE_NEG_2_5", [("all", 5), ("ardupilotmega", 5), ("storm32", 5)]),
  ("GOPRO_PROTUNE_EXPOSURE_NEG_3_0", [("all", 4), ("ardupilotmega", 4), ("storm32", 4)]),
  ("GOPRO_PROTUNE_EXPOSURE_NEG_3_5", [("all", 3), ("ardupilotmega", 3), ("storm32", 3)]),
  ("GOPRO_PROTUNE_EXPOSURE_NEG_4_0", [("all", 2), ("ardupilotmega", 2), ("storm32", 2)]),
  ("GOPRO_PROTUNE_EXPOSURE_NEG_4_5", [("all", 1), ("ardupilotmega", 1), ("storm32", 1)]),
  ("GOPRO_PROTUNE_EXPOSURE_NEG_5_0", [("all", 0), ("ardupilotmega", 0), ("storm32", 0)]),
  ("GOPRO_PROTUNE_EXPOSURE_POS_0_5", [("all", 11), ("ardupilotmega", 11), ("storm32", 11)]),
  ("GOPRO_PROTUNE_EXPOSURE_POS_1_0", [("all", 12), ("ardupilotmega", 12), ("storm32", 12)]),
  ("GOPRO_PROTUNE_EXPOSURE_POS_1_5", [("all", 13), ("ardupilotmega", 13), ("storm32", 13)]),
  ("GOPRO_PROTUNE_EXPOSURE_POS_2_0", [("all", 14), ("ardupilotmega", 14), ("storm32", 14)]),
  ("GOPRO_PROTUNE_EXPOSURE_POS_2_5", [("all", 15), ("ardupilotmega", 15), ("storm32", 15)]),
  ("GOPRO_PROTUNE_EXPOSURE_POS_3_0", [("all", 16), ("ardupilotmega", 16), ("storm32", 16)]),
  ("GOPRO_PROTUNE_EXPOSURE_POS_3_5", [("all", 17), ("ardupilotmega", 17), ("storm32", 17)]),
  ("GOPRO_PROTUNE_EXPOSURE_POS_4_0", [("all", 18), ("ardupilotmega", 18), ("storm32", 18)]),
  ("GOPRO_PROTUNE_EXPOSURE_POS_4_5", [("all", 19), ("ardupilotmega", 19), ("storm32", 19)]),
  ("GOPRO_PROTUNE_EXPOSURE_POS_5_0", [("all", 20), ("ardupilotmega", 20), ("storm32", 20)]),
  ("GOPRO_PROTUNE_EXPOSURE_ZERO", [("all", 10), ("ardupilotmega", 10), ("storm32", 10)]),
  ("GOPRO_PROTUNE_GAIN_1600", [("all", 2), ("ardupilotmega", 2), ("storm32", 2)])]
def constGroups_10 : List (String × List (String × Nat)) := [
  ("GOPRO_PROTUNE_GAIN_3200", [("all", 3), ("ardupilotmega", 3), ("storm32", 3)]),
  ("GOPRO_PROTUNE_GAIN_400", [("all", 0), ("ardupilotmega", 0), ("storm32", 0)]),
  ("GOPRO_PROTUNE_GAIN_6400", [("all", 4), ("ardupilotmega", 4), ("storm32", 4)]),
  ("GOPRO_PROTUNE_GAIN_800", [("all", 1), ("ardupilotmega", 1), ("storm32", 1)]),
  ("GOPRO_PROTUNE_SHARPNESS_HIGH", [("all", 2), ("ardupilotmega", 2), ("storm32", 2)]),
  ("GOPRO_PROTUNE_SHARPNESS_LOW", [("all", 0), ("ardupilotmega", 0), ("storm32", 0)]),
  ("GOPRO_PROTUNE_SHARPNESS_MEDIUM", [("all", 1), ("ardupilotmega", 1), ("storm32", 1)]),
  ("GOPRO_PROTUNE_WHITE_BALANCE_3000K", [("all", 1), ("ardupilotmega", 1), ("storm32", 1)]),
  ("GOPRO_PROTUNE_WHITE_BALANCE_5500K", [("all", 2), ("ardupilotmega", 2), ("storm32", 2)]),
  ("GOPRO_PROTUNE_WHITE_BALANCE_6500K", [("all", 3), ("ardupilotmega", 3), ("storm32", 3)]),
  ("GOPRO_PROTUNE_WHITE_BALANCE_AUTO", [("all", 0), ("ardupilotmega", 0), ("storm32", 0)]),
  ("GOPRO_PROTUNE_WHITE_BALANCE_RAW", [("all", 4), ("ardupilotmega", 4), ("storm32", 4)]),
  ("GOPRO_REQUEST_FAILED", [("all", 1), ("ardupilotmega", 1), ("storm32", 1)]),
  ("GOPRO_REQUEST_SUCCESS", [("all", 0), ("ardupilotmega", 0), ("storm32", 0)]),
  ("GOPRO_RESOLUTION_1080p", [("all", 3), ("ardupilotmega", 3), ("storm32", 3)]),
  ("GOPRO_RESOLUTION_1080p_SUPERVIEW", [("all", 11), ("ardupilotmega", 11), ("storm32", 11)]),
  ("GOPRO_RESOLUTION_1440p", [("all", 4), ("ardupilotmega", 4), ("storm32", 4)]),
  ("GOPRO_RESOLUTION_2_7k_16_9", [("all", 6), ("ardupilotmega", 6), ("storm32", 6)]),
  ("GOPRO_RESOLUTION_2_7k_17_9", [("all", 5), ("ardupilotmega", 5), ("storm32", 5)]),
  ("GOPRO_RESOLUTION_2_7k_4_3", [("all", 7), ("ardupilotmega", 7), ("storm32", 7)]),
  ("GOPRO_RESOLUTION_2_7k_SUPERVIEW", [("all", 12), ("ardupilotmega", 12), ("storm32", 12)]),
  ("GOPRO_RESOLUTION_480p", [("all", 0), ("ardupilotmega", 0), ("storm32", 0)]),
  ("GOPRO_RESOLUTION_4k_16_9", [("all", 8), ("ardupilotmega", 8), ("storm32", 8)]),
  ("GOPRO_RESOLUTION_4k_17_9", [("all", 9), ("ardupilotmega", 9), ("storm32", 9)]),
  ("GOPRO_RESOLUTION_4k_SUPERVIEW", [("all", 13), ("ardupilotmega", 13), ("storm32", 13)]),
  ("GOPRO_RESOLUTION_720p", [("all", 1), ("ardupilotmega", 1), ("storm32", 1)]),
  ("GOPRO_RESOLUTION_720p_SUPERVIEW", [("all", 10), ("ardupilotmega", 10), ("storm32", 10)]),
  ("GOPRO_RESOLUTION_960p", [("all", 2), ("ardupilotmega", 2), ("storm32", 2)]),
  ("GOPRO_VIDEO_SETTINGS_TV_MODE", [("all", 1), ("ardupilotmega", 1), ("storm32", 1)]),
  ("GPS_AUTHENTICATION_STATE_DISABLED", [("all", 4), ("development", 4)]),
  ("GPS_AUTHENTICATION_STATE_ERROR", [("all", 2), ("development", 2)]),
  ("GPS_AUTHENTICATION_STATE_INITIALIZING", [("all", 1), ("development", 1)]),
  ("GPS_AUTHENTICATION_STATE_OK", [("all", 3), ("development", 3)]),
  ("GPS_AUTHENTICATION_STATE_UNKNOWN", [("all", 0), ("development", 0)]),
  ("GPS_FIX_TYPE_2D_FIX", [("all", 2), ("ardupilotmega", 2), ("asluav", 2), ("avssuas", 2), ("common", 2), ("cubepilot", 2), ("development", 2), ("matrixpilot", 2), ("paparazzi", 2), ("pythonarraytest", 2), ("storm32", 2), ("ualberta", 2), ("uavionix", 2)]),
  ("GPS_FIX_TYPE_3D_FIX", [("all", 3), ("ardupilotmega", 3), ("asluav", 3), ("avssuas", 3), ("common", 3), ("cubepilot", 3), ("development", 3), ("matrixpilot", 3), ("paparazzi", 3), ("pythonarraytest", 3), ("storm32", 3), ("ualberta", 3), ("uavionix", 3)]),
  ("GPS_FIX_TYPE_DGPS", [("all", 4), ("ardupilotmega", 4), ("asluav", 4), ("avssuas", 4), ("common", 4), ("cubepilot", 4), ("development", 4), ("matrixpilot", 4), ("paparazzi", 4), ("pythonarraytest", 4), ("storm32", 4), ("ualberta", 4), ("uavionix", 4)]),
  ("GPS_FIX_TYPE_NO_FIX", [("all", 1), ("ardupilotmega", 1), ("asluav", 1), ("avssuas", 1), ("common", 1), ("cubepilot", 1), ("development", 1), ("matrixpilot", 1), ("paparazzi", 1), ("pythonarraytest", 1), ("storm32", 1), ("ualberta", 1), ("uavionix", 1)]),
  ("GPS_FIX_TYPE_NO_GPS", [("all", 0), ("ardupilotmega", 0), ("asluav", 0), ("avssuas", 0), ("common", 0), ("cubepilot", 0), ("development", 0), ("matrixpilot", 0), ("paparazzi", 0), ("pythonarraytest", 0), ("storm32", 0), ("ualberta", 0), ("uavionix", 0)]),
  ("GPS_FIX_TYPE_PPP", [("all", 8), ("ardupilotmega", 8), ("asluav", 8), ("avssuas", 8), ("common", 8), ("cubepilot", 8), ("development", 8), ("matrixpilot", 8), ("paparazzi", 8), ("pythonarraytest", 8), ("storm32", 8), ("ualberta", 8), ("uavionix", 8)]),
  ("GPS_FIX_TYPE_RTK_FIXED", [("all", 6), ("ardupilotmega", 6), ("asluav", 6), ("avssuas", 6), ("common", 6), ("cubepilot", 6), ("development", 6), ("matrixpilot", 6), ("paparazzi", 6), ("pythonarraytest", 6), ("storm32", 6), ("ualberta", 6), ("uavionix", 6)]),
  ("GPS_FIX_TYPE_RTK_FLOAT", [("all", 5), ("ardupilotmega", 5), ("asluav", 5), ("avssuas", 5), ("common", 5), ("cubepilot", 5), ("development", 5), ("matrixpilot", 5), ("paparazzi", 5), ("pythonarraytest", 5), ("storm32", 5), ("ualberta", 5), ("uavionix", 5)]),
  ("GPS_FIX_TYPE_STATIC", [("all", 7), ("ardupilotmega", 7), ("asluav", 7), ("avssuas", 7), ("common", 7), ("cubepilot", 7), ("development", 7), ("matrixpilot", 7), ("paparazzi", 7), ("pythonarraytest", 7), ("storm32", 7), ("ualberta", 7), ("uavionix", 7)]),
  ("GPS_INPUT_IGNORE_FLAG_ALT", [("all", 1), ("ardupilotmega", 1), ("asluav", 1), ("avssuas", 1), ("common", 1), ("cubepilot", 1), ("development", 1), ("matrixpilot", 1), ("paparazzi", 1), ("pythonarraytest", 1), ("storm32", 1), ("ualberta", 1), ("uavionix", 1)]),
  ("GPS_INPUT_IGNORE_FLAG_HDOP", [("all", 2), ("ardupilotmega", 2), ("asluav", 2), ("avssuas", 2), ("common", 2), ("cubepilot", 2), ("development", 2), ("matrixpilot", 2), ("paparazzi", 2), ("pythonarraytest", 2), ("storm32", 2), ("ualberta", 2), ("uavionix", 2)]),
  ("GPS_INPUT_IGNORE_FLAG_HORIZONTAL_ACCURACY", [("all", 64), ("ardupilotmega", 64), ("asluav", 64), ("avssuas", 64), ("common", 64), ("cubepilot", 64), ("development", 64), ("matrixpilot", 64), ("paparazzi", 64), ("pythonarraytest", 64), ("storm32", 64), ("ualberta", 64), ("uavionix", 64)]),
  ("GPS_INPUT_IGNORE_FLAG_SPEED_ACCURACY", [("all", 32), ("ardupilotmega", 32), ("asluav", 32), ("avssuas", 32), ("common", 32), ("cubepilot", 32), ("development", 32), ("matrixpilot", 32), ("paparazzi", 32), ("pythonarraytest", 32), ("storm32", 32), ("ualberta", 32), ("uavionix", 32)]),
  ("GPS_INPUT_IGNORE_FLAG_VDOP", [("all", 4), ("ardupilotmega", 4), ("asluav", 4), ("avssuas", 4), ("common", 4), ("cubepilot", 4), ("development", 4), ("matrixpilot", 4), ("paparazzi", 4), ("pythonarraytest", 4), ("storm32", 4), ("ualberta", 4), ("uavionix", 4)]),
  ("GPS_INPUT_IGNORE_FLAG_VEL_HORIZ", [("all", 8), ("ardupilotmega", 8), ("asluav", 8), ("avssuas", 8), ("common", 8), ("cubepilot", 8), ("development", 8), ("matrixpilot", 8), ("paparazzi", 8), ("pythonarraytest", 8), ("storm32", 8), ("ualberta", 8), ("uavionix", 8)]),
  ("GPS_INPUT_IGNORE_FLAG_VEL_VERT", [("all", 16), ("ardupilotmega", 16), ("asluav", 16), ("avssuas", 16), ("common", 16), ("cubepilot", 16), ("development", 16), ("matrixpilot", 16), ("paparazzi", 16), ("pythonarraytest", 16), ("storm32", 16), ("ualberta", 16), ("uavionix", 16)]),
  ("GPS_INPUT_IGNORE_FLAG_VERTICAL_ACCURACY", [("all", 128), ("ardupilotmega", 128), ("asluav", 128), ("avssuas", 128), ("common", 128), ("cubepilot", 128), ("development", 128), ("matrixpilot", 128), ("paparazzi", 128), ("pythonarraytest", 128), ("storm32", 128), ("ualberta", 128), ("uavionix", 128)]),
  ("GPS_JAMMING_STATE_DETECTED", [("all", 3), ("development", 3)]),
  ("GPS_JAMMING_STATE_MITIGATED", [("all", 2), ("development", 2)]),
  ("GPS_JAMMING_STATE_OK", [("all", 1), ("development", 1)]),
  ("GPS_JAMMING_STATE_UNKNOWN", [("all", 0), ("development", 0)]),
  ("GPS_RAIM_STATE_DISABLED", [("all", 1), ("development", 1)]),
  ("GPS_RAIM_STATE_FAILED", [("all", 3), ("development", 3)]),
  ("GPS_RAIM_STATE_OK", [("all", 2), ("development", 2)]),
  ("GPS_RAIM_STATE_UNKNOWN", [("all", 0), ("development", 0)]),
  ("GPS_SPOOFING_STATE_DETECTED", [("all", 3), ("development", 3)])]
def constGroups_11 : List (String × List (String × Nat)) := [
  ("GPS_SPOOFING_STATE_MITIGATED", [("all", 2), ("development", 2)]),
  ("GPS_SPOOFING_STATE_OK", [("all", 1), ("development", 1)]),
  ("GPS_SPOOFING_STATE_UNKNOWN", [("all", 0), ("development", 0)]),
  ("GPS_SYSTEM_ERROR_ANTENNA", [("all", 8), ("development", 8)]),
  ("GPS_SYSTEM_ERROR_CONFIGURATION", [("all", 2), ("development", 2)]),
  ("GPS_SYSTEM_ERROR_CPU_OVERLOAD", [("all", 32), ("development", 32)]),
  ("GPS_SYSTEM_ERROR_EVENT_CONGESTION", [("all", 16), ("development", 16)]),
  ("GPS_SYSTEM_ERROR_INCOMING_CORRECTIONS", [("all", 1), ("development", 1)]),
  ("GPS_SYSTEM_ERROR_OUTPUT_CONGESTION", [("all", 64), ("development", 64)]),
  ("GPS_SYSTEM_ERROR_SOFTWARE", [("all", 4), ("development", 4)]),
  ("GRIPPER_ACTION_GRAB", [("all", 1), ("ardupilotmega", 1), ("asluav", 1), ("avssuas", 1), ("common", 1), ("cubepilot", 1), ("development", 1), ("matrixpilot", 1), ("paparazzi", 1), ("pythonarraytest", 1), ("storm32", 1), ("ualberta", 1), ("uavionix", 1)]),
  ("GRIPPER_ACTION_RELEASE", [("all", 0), ("ardupilotmega", 0), ("asluav", 0), ("avssuas", 0), ("common", 0), ("cubepilot", 0), ("development", 0), ("matrixpilot", 0), ("paparazzi", 0), ("pythonarraytest", 0), ("storm32", 0), ("ualberta", 0), ("uavionix", 0)]),
  ("GSM_LINK_TYPE_2G", [("all", 2), ("asluav", 2)]),
  ("GSM_LINK_TYPE_3G", [("all", 3), ("asluav", 3)]),
  ("GSM_LINK_TYPE_4G", [("all", 4), ("asluav", 4)]),
  ("GSM_LINK_TYPE_NONE", [("all", 0), ("asluav", 0)]),
  ("GSM_LINK_TYPE_UNKNOWN", [("all", 1), ("asluav", 1)]),
  ("GSM_MODEM_TYPE_HUAWEI_E3372", [("all", 1), ("asluav", 1)]),
  ("GSM_MODEM_TYPE_UNKNOWN", [("all", 0), ("asluav", 0)]),
  ("HEADING_TYPE_COURSE_OVER_GROUND", [("all", 0), ("ardupilotmega", 0), ("storm32", 0)]),
  ("HEADING_TYPE_DEFAULT", [("all", 2), ("ardupilotmega", 2), ("storm32", 2)]),
  ("HEADING_TYPE_HEADING", [("all", 1), ("ardupilotmega", 1), ("storm32", 1)]),
  ("HIGHRES_IMU_UPDATED_ABS_PRESSURE", [("all", 512), ("ardupilotmega", 512), ("asluav", 512), ("avssuas", 512), ("common", 512), ("cubepilot", 512), ("development", 512), ("matrixpilot", 512), ("paparazzi", 512), ("pythonarraytest", 512), ("storm32", 512), ("ualberta", 512), ("uavionix", 512)]),
  ("HIGHRES_IMU_UPDATED_DIFF_PRESSURE", [("all", 1024), ("ardupilotmega", 1024), ("asluav", 1024), ("avssuas", 1024), ("common", 1024), ("cubepilot", 1024), ("development", 1024), ("matrixpilot", 1024), ("paparazzi", 1024), ("pythonarraytest", 1024), ("storm32", 1024), ("ualberta", 1024), ("uavionix", 1024)]),
  ("HIGHRES_IMU_UPDATED_PRESSURE_ALT", [("all", 2048), ("ardupilotmega", 2048), ("asluav", 2048), ("avssuas", 2048), ("common", 2048), ("cubepilot", 2048), ("development", 2048), ("matrixpilot", 2048), ("paparazzi", 2048), ("pythonarraytest", 2048), ("storm32", 2048), ("ualberta", 2048), ("uavionix", 2048)]),
  ("HIGHRES_IMU_UPDATED_TEMPERATURE", [("all", 4096), ("ardupilotmega", 4096), ("asluav", 4096), ("avssuas", 4096), ("common", 4096), ("cubepilot", 4096), ("development", 4096), ("matrixpilot", 4096), ("paparazzi", 4096), ("pythonarraytest", 4096), ("storm32", 4096), ("ualberta", 4096), ("uavionix", 4096)]),
  ("HIGHRES_IMU_UPDATED_XACC", [("all", 1), ("ardupilotmega", 1), ("asluav", 1), ("avssuas", 1), ("common", 1), ("cubepilot", 1), ("development", 1), ("matrixpilot", 1), ("paparazzi", 1), ("pythonarraytest", 1), ("storm32", 1), ("ualberta", 1), ("uavionix", 1)]),
  ("HIGHRES_IMU_UPDATED_XGYRO", [("all", 8), ("ardupilotmega", 8), ("asluav", 8), ("avssuas", 8), ("common", 8), ("cubepilot", 8), ("development", 8), ("matrixpilot", 8), ("paparazzi", 8), ("pythonarraytest", 8), ("storm32", 8), ("ualberta", 8), ("uavionix", 8)]),
  ("HIGHRES_IMU_UPDATED_XMAG", [("all", 64), ("ardupilotmega", 64), ("asluav", 64), ("avssuas", 64), ("common", 64), ("cubepilot", 64), ("development", 64), ("matrixpilot", 64), ("paparazzi", 64), ("pythonarraytest", 64), ("storm32", 64), ("ualberta", 64), ("uavionix", 64)]),
  ("HIGHRES_IMU_UPDATED_YACC", [("all", 2), ("ardupilotmega", 2), ("asluav", 2), ("avssuas", 2), ("common", 2), ("cubepilot", 2), ("development", 2), ("matrixpilot", 2), ("paparazzi", 2), ("pythonarraytest", 2), ("storm32", 2), ("ualberta", 2), ("uavionix", 2)]),
  ("HIGHRES_IMU_UPDATED_YGYRO", [("all", 16), ("ardupilotmega", 16), ("asluav", 16), ("avssuas", 16), ("common", 16), ("cubepilot", 16), ("development", 16), ("matrixpilot", 16), ("paparazzi", 16), ("pythonarraytest", 16), ("storm32", 16), ("ualberta", 16), ("uavionix", 16)]),
  ("HIGHRES_IMU_UPDATED_YMAG", [("all", 128), ("ardupilotmega", 128), ("asluav", 128), ("avssuas", 128), ("common", 128), ("cubepilot", 128), ("development", 128), ("matrixpilot", 128), ("paparazzi", 128), ("pythonarraytest", 128), ("storm32", 128), ("ualberta", 128), ("uavionix", 128)]),
  ("HIGHRES_IMU_UPDATED_ZACC", [("all", 4), ("ardupilotmega", 4), ("asluav", 4), ("avssuas", 4), ("common", 4), ("cubepilot", 4), ("development", 4), ("matrixpilot", 4), ("paparazzi", 4), ("pythonarraytest", 4), ("storm32", 4), ("ualberta", 4), ("uavionix", 4)]),
  ("HIGHRES_IMU_UPDATED_ZGYRO", [("all", 32), ("ardupilotmega", 32), ("asluav", 32), ("avssuas", 32), ("common", 32), ("cubepilot", 32), ("development", 32), ("matrixpilot", 32), ("paparazzi", 32), ("pythonarraytest", 32), ("storm32", 32), ("ualberta", 32), ("uavionix", 32)]),
  ("HIGHRES_IMU_UPDATED_ZMAG", [("all", 256), ("ardupilotmega", 256), ("asluav", 256), ("avssuas", 256), ("common", 256), ("cubepilot", 256), ("development", 256), ("matrixpilot", 256), ("paparazzi", 256), ("pythonarraytest", 256), ("storm32", 256), ("ualberta", 256), ("uavionix", 256)]),
  ("HIL_SENSOR_UPDATED_ABS_PRESSURE", [("all", 512), ("ardupilotmega", 512), ("asluav", 512), ("avssuas", 512), ("common", 512), ("cubepilot", 512), ("development", 512), ("matrixpilot", 512), ("paparazzi", 512), ("pythonarraytest", 512), ("storm32", 512), ("ualberta", 512), ("uavionix", 512)]),
  ("HIL_SENSOR_UPDATED_DIFF_PRESSURE", [("all", 1024), ("ardupilotmega", 1024), ("asluav", 1024), ("avssuas", 1024), ("common", 1024), ("cubepilot", 1024), ("development", 1024), ("matrixpilot", 1024), ("paparazzi", 1024), ("pythonarraytest", 1024), ("storm32", 1024), ("ualberta", 1024), ("uavionix", 1024)]),
  ("HIL_SENSOR_UPDATED_PRESSURE_ALT", [("all", 2048), ("ardupilotmega", 2048), ("asluav", 2048), ("avssuas", 2048), ("common", 2048), ("cubepilot", 2048), ("development", 2048), ("matrixpilot", 2048), ("paparazzi", 2048), ("pythonarraytest", 2048), ("storm32", 2048), ("ualberta", 2048), ("uavionix", 2048)]),
  ("HIL_SENSOR_UPDATED_RESET", [("all", 2147483648), ("ardupilotmega", 2147483648), ("asluav", 2147483648), ("avssuas", 2147483648), ("common", 2147483648), ("cubepilot", 2147483648), ("development", 2147483648), ("matrixpilot", 2147483648), ("paparazzi", 2147483648), ("pythonarraytest", 2147483648), ("storm32", 2147483648), ("ualberta", 2147483648), ("uavionix", 2147483648)]),
  ("HIL_SENSOR_UPDATED_TEMPERATURE", [("all", 4096), ("ardupilotmega", 4096), ("asluav", 4096), ("avssuas", 4096), ("common", 4096), ("cubepilot", 4096), ("development", 4096), ("matrixpilot", 4096), ("paparazzi", 4096), ("pythonarraytest", 4096), ("storm32", 4096), ("ualberta", 4096), ("uavionix", 4096)]),
  ("HIL_SENSOR_UPDATED_XACC", [("all", 1), ("ardupilotmega", 1), ("asluav", 1), ("avssuas", 1), ("common", 1), ("cubepilot", 1), ("development", 1), ("matrixpilot", 1), ("paparazzi", 1), ("pythonarraytest", 1), ("storm32", 1), ("ualberta", 1), ("uavionix", 1)]),
  ("HIL_SENSOR_UPDATED_XGYRO", [("all", 8), ("ardupilotmega", 8), ("asluav", 8), ("avssuas", 8), ("common", 8), ("cubepilot", 8), ("development", 8), ("matrixpilot", 8), ("paparazzi", 8), ("pythonarraytest", 8), ("storm32", 8), ("ualberta", 8), ("uavionix", 8)]),
  ("HIL_SENSOR_UPDATED_XMAG", [("all", 64), ("ardupilotmega", 64), ("asluav", 64), ("avssuas", 64), ("common", 64), ("cubepilot", 64), ("development", 64), ("matrixpilot", 64), ("paparazzi", 64), ("pythonarraytest", 64), ("storm32", 64), ("ualberta", 64), ("uavionix", 64)]),
  ("HIL_SENSOR_UPDATED_YACC", [("all", 2), ("ardupilotmega", 2), ("asluav", 2), ("avssuas", 2), ("common", 2), ("cubepilot", 2), ("development", 2), ("matrixpilot", 2), ("paparazzi", 2), ("pythonarraytest", 2), ("storm32", 2), ("ualberta", 2), ("uavionix", 2)]),
  ("HIL_SENSOR_UPDATED_YGYRO", [("all", 16), ("ardupilotmega", 16), ("asluav", 16), ("avssuas", 16), ("common", 16), ("cubepilot", 16), ("development", 16), ("matrixpilot", 16), ("paparazzi", 16), ("pythonarraytest", 16), ("storm32", 16), ("ualberta", 16), ("uavionix", 16)]),
  ("HIL_SENSOR_UPDATED_YMAG", [("all", 128), ("ardupilotmega", 128), ("asluav", 128), ("avssuas", 128), ("common", 128), ("cubepilot", 128), ("development", 128), ("matrixpilot", 128), ("paparazzi", 128), ("pythonarraytest", 128), ("storm32", 128), ("ualberta", 128), ("uavionix", 128)]),
  ("HIL_SENSOR_UPDATED_ZACC", [("all", 4), ("ardupilotmega", 4), ("asluav", 4), ("avssuas", 4), ("common", 4), ("cubepilot", 4), ("development", 4), ("matrixpilot", 4), ("paparazzi", 4), ("pythonarraytest", 4), ("storm32", 4), ("ualberta", 4), ("uavionix", 4)]),
  ("HIL_SENSOR_UPDATED_ZGYRO", [("all", 32), ("ardupilotmega", 32), ("asluav", 32), ("avssuas", 32), ("common", 32), ("cubepilot", 32), ("development", 32), ("matrixpilot", 32), ("paparazzi", 32), ("pythonarraytest", 32), ("storm32", 32), ("ualberta", 32), ("uavionix", 32)]),
  ("HIL_SENSOR_UPDATED_ZMAG", [("all", 256), ("ardupilotmega", 256), ("asluav", 256), ("avssuas", 256), ("common", 256), ("cubepilot", 256), ("development", 256), ("matrixpilot", 256), ("paparazzi", 256), ("pythonarraytest", 256), ("storm32", 256), ("ualberta", 256), ("uavionix", 256)]),
  ("HL_FAILURE_FLAG_3D_ACCEL", [("all", 8), ("ardupilotmega", 8), ("asluav", 8), ("avssuas", 8), ("common", 8), ("cubepilot", 8), ("development", 8), ("matrixpilot", 8), ("paparazzi", 8), ("pythonarraytest", 8), ("storm32", 8), ("ualberta", 8), ("uavionix", 8)]),
  ("HL_FAILURE_FLAG_3D_GYRO", [("all", 16), ("ardupilotmega", 16), ("asluav", 16), ("avssuas", 16), ("common", 16), ("cubepilot", 16), ("development", 16), ("matrixpilot", 16), ("paparazzi", 16), ("pythonarraytest", 16), ("storm32", 16), ("ualberta", 16), ("uavionix", 16)]),
  ("HL_FAILURE_FLAG_3D_MAG", [("all", 32), ("ardupilotmega", 32), ("asluav", 32), ("avssuas", 32), ("common", 32), ("cubepilot", 32), ("development", 32), ("matrixpilot", 32), ("paparazzi", 32), ("pythonarraytest", 32), ("storm32", 32), ("ualberta", 32), ("uavionix", 32)]),
  ("HL_FAILURE_FLAG_ABSOLUTE_PRESSURE", [("all", 4), ("ardupilotmega", 4), ("asluav", 4), ("avssuas", 4), ("common", 4), ("cubepilot", 4), ("development", 4), ("matrixpilot", 4), ("paparazzi", 4), ("pythonarraytest", 4), ("storm32", 4), ("ualberta", 4), ("uavionix", 4)]),
  ("HL_FAILURE_FLAG_BATTERY", [("all", 128), ("ardupilotmega", 128), ("asluav", 128), ("avssuas", 128), ("common", 128), ("cubepilot", 128), ("development", 128), ("matrixpilot", 128), ("paparazzi", 128), ("pythonarraytest", 128), ("storm32", 128), ("ualberta", 128), ("uavionix", 128)]),
  ("HL_FAILURE_FLAG_DIFFERENTIAL_PRESSURE", [("all", 2), ("ardupilotmega", 2), ("asluav", 2), ("avssuas", 2), ("common", 2), ("cubepilot", 2), ("development", 2), ("matrixpilot", 2), ("paparazzi", 2), ("pythonarraytest", 2), ("storm32", 2), ("ualberta", 2), ("uavionix", 2)]),
  ("HL_FAILURE_FLAG_ENGINE", [("all", 1024), ("ardupilotmega", 1024), ("asluav", 1024), ("avssuas", 1024), ("common", 1024), ("cubepilot", 1024), ("development", 1024), ("matrixpilot", 1024), ("paparazzi", 1024), ("pythonarraytest", 1024), ("storm32", 1024), ("ualberta", 1024), ("uavionix", 1024)]),
  ("HL_FAILURE_FLAG_ESTIMATOR", [("all", 4096), ("ardupilotmega", 4096), ("asluav", 4096), ("avssuas", 4096), ("common", 4096), ("cubepilot", 4096), ("development", 4096), ("matrixpilot", 4096), ("paparazzi", 4096), ("pythonarraytest", 4096), ("storm32", 4096), ("ualberta", 4096), ("uavionix", 4096)]),
  ("HL_FAILURE_FLAG_GEOFENCE", [("all", 2048), ("ardupilotmega", 2048), ("asluav", 2048), ("avssuas", 2048), ("common", 2048), ("cubepilot", 2048), ("development", 2048), ("matrixpilot", 2048), ("paparazzi", 2048), ("pythonarraytest", 2048), ("storm32", 2048), ("ualberta", 2048), ("uavionix", 2048)]),
  ("HL_FAILURE_FLAG_GPS", [("all", 1), ("ardupilotmega", 1), ("asluav", 1), ("avssuas", 1), ("common", 1), ("cubepilot", 1), ("development", 1), ("matrixpilot", 1), ("paparazzi", 1), ("pythonarraytest", 1), ("storm32", 1), ("ualberta", 1), ("uavionix", 1)]),
  ("HL_FAILURE_FLAG_MISSION", [("all", 8192), ("ardupilotmega", 8192), ("asluav", 8192), ("avssuas", 8192), ("common", 8192), ("cubepilot", 8192), ("development", 8192), ("matrixpilot", 8192), ("paparazzi", 8192), ("pythonarraytest", 8192), ("storm32", 8192), ("ualberta", 8192), ("uavionix", 8192)])]
def constGroups_12 : List (String × List (String × Nat)) := [
  ("HL_FAILURE_FLAG_OFFBOARD_LINK", [("all", 512), ("ardupilotmega", 512), ("asluav", 512), ("avssuas", 512), ("common", 512), ("cubepilot", 512), ("development", 512), ("matrixpilot", 512), ("paparazzi", 512), ("pythonarraytest", 512), ("storm32", 512), ("ualberta", 512), ("uavionix", 512)]),
  ("HL_FAILURE_FLAG_RC_RECEIVER", [("all", 256), ("ardupilotmega", 256), ("asluav", 256), ("avssuas", 256), ("common", 256), ("cubepilot", 256), ("development", 256), ("matrixpilot", 256), ("paparazzi", 256), ("pythonarraytest", 256), ("storm32", 256), ("ualberta", 256), ("uavionix", 256)]),
  ("HL_FAILURE_FLAG_TERRAIN", [("all", 64), ("ardupilotmega", 64), ("asluav", 64), ("avssuas", 64), ("common", 64), ("cubepilot", 64), ("development", 64), ("matrixpilot", 64), ("paparazzi", 64), ("pythonarraytest", 64), ("storm32", 64), ("ualberta", 64), ("uavionix", 64)]),
  ("ICAROUS_FMS_STATE_APPROACH", [("all", 4), ("ardupilotmega", 4), ("icarous", 4), ("storm32", 4)]),
  ("ICAROUS_FMS_STATE_CLIMB", [("all", 2), ("ardupilotmega", 2), ("icarous", 2), ("storm32", 2)]),
  ("ICAROUS_FMS_STATE_CRUISE", [("all", 3), ("ardupilotmega", 3), ("icarous", 3), ("storm32", 3)]),
  ("ICAROUS_FMS_STATE_IDLE", [("all", 0), ("ardupilotmega", 0), ("icarous", 0), ("storm32", 0)]),
  ("ICAROUS_FMS_STATE_LAND", [("all", 5), ("ardupilotmega", 5), ("icarous", 5), ("storm32", 5)]),
  ("ICAROUS_FMS_STATE_TAKEOFF", [("all", 1), ("ardupilotmega", 1), ("icarous", 1), ("storm32", 1)]),
  ("ICAROUS_TRACK_BAND_TYPE_NEAR", [("all", 1), ("ardupilotmega", 1), ("icarous", 1), ("storm32", 1)]),
  ("ICAROUS_TRACK_BAND_TYPE_NONE", [("all", 0), ("ardupilotmega", 0), ("icarous", 0), ("storm32", 0)]),
  ("ICAROUS_TRACK_BAND_TYPE_RECOVERY", [("all", 2), ("ardupilotmega", 2), ("icarous", 2), ("storm32", 2)]),
  ("ILLUMINATOR_ERROR_FLAGS_OVER_TEMPERATURE_SHUTDOWN", [("all", 2), ("ardupilotmega", 2), ("asluav", 2), ("avssuas", 2), ("common", 2), ("cubepilot", 2), ("development", 2), ("matrixpilot", 2), ("paparazzi", 2), ("pythonarraytest", 2), ("storm32", 2), ("ualberta", 2), ("uavionix", 2)]),
  ("ILLUMINATOR_ERROR_FLAGS_THERMAL_THROTTLING", [("all", 1), ("ardupilotmega", 1), ("asluav", 1), ("avssuas", 1), ("common", 1), ("cubepilot", 1), ("development", 1), ("matrixpilot", 1), ("paparazzi", 1), ("pythonarraytest", 1), ("storm32", 1), ("ualberta", 1), ("uavionix", 1)]),
  ("ILLUMINATOR_ERROR_FLAGS_THERMISTOR_FAILURE", [("all", 4), ("ardupilotmega", 4), ("asluav", 4), ("avssuas", 4), ("common", 4), ("cubepilot", 4), ("development", 4), ("matrixpilot", 4), ("paparazzi", 4), ("pythonarraytest", 4), ("storm32", 4), ("ualberta", 4), ("uavionix", 4)]),
  ("ILLUMINATOR_MODE_EXTERNAL_SYNC", [("all", 2), ("ardupilotmega", 2), ("asluav", 2), ("avssuas", 2), ("common", 2), ("cubepilot", 2), ("development", 2), ("matrixpilot", 2), ("paparazzi", 2), ("pythonarraytest", 2), ("storm32", 2), ("ualberta", 2), ("uavionix", 2)]),
  ("ILLUMINATOR_MODE_INTERNAL_CONTROL", [("all", 1), ("ardupilotmega", 1), ("asluav", 1), ("avssuas", 1), ("common", 1), ("cubepilot", 1), ("development", 1), ("matrixpilot", 1), ("paparazzi", 1), ("pythonarraytest", 1), ("storm32", 1), ("ualberta", 1), ("uavionix", 1)]),
  ("ILLUMINATOR_MODE_UNKNOWN", [("all", 0), ("ardupilotmega", 0), ("asluav", 0), ("avssuas", 0), ("common", 0), ("cubepilot", 0), ("development", 0), ("matrixpilot", 0), ("paparazzi", 0), ("pythonarraytest", 0), ("storm32", 0), ("ualberta", 0), ("uavionix", 0)]),
  ("LANDING_TARGET_TYPE_LIGHT_BEACON", [("all", 0), ("ardupilotmega", 0), ("asluav", 0), ("avssuas", 0), ("common", 0), ("cubepilot", 0), ("development", 0), ("matrixpilot", 0), ("paparazzi", 0), ("pythonarraytest", 0), ("storm32", 0), ("ualberta", 0), ("uavionix", 0)]),
  ("LANDING_TARGET_TYPE_RADIO_BEACON", [("all", 1), ("ardupilotmega", 1), ("asluav", 1), ("avssuas", 1), ("common", 1), ("cubepilot", 1), ("development", 1), ("matrixpilot", 1), ("paparazzi", 1), ("pythonarraytest", 1), ("storm32", 1), ("ualberta", 1), ("uavionix", 1)]),
  ("LANDING_TARGET_TYPE_VISION_FIDUCIAL", [("all", 2), ("ardupilotmega", 2), ("asluav", 2), ("avssuas", 2), ("common", 2), ("cubepilot", 2), ("development", 2), ("matrixpilot", 2), ("paparazzi", 2), ("pythonarraytest", 2), ("storm32", 2), ("ualberta", 2), ("uavionix", 2)]),
  ("LANDING_TARGET_TYPE_VISION_OTHER", [("all", 3), ("ardupilotmega", 3), ("asluav", 3), ("avssuas", 3), ("common", 3), ("cubepilot", 3), ("development", 3), ("matrixpilot", 3), ("paparazzi", 3), ("pythonarraytest", 3), ("storm32", 3), ("ualberta", 3), ("uavionix", 3)]),
  ("LAND_IMMEDIATELY", [("all", 2), ("ardupilotmega", 2), ("storm32", 2)]),
  ("LED_CONTROL_PATTERN_CUSTOM", [("all", 255), ("ardupilotmega", 255), ("storm32", 255)]),
  ("LED_CONTROL_PATTERN_FIRMWAREUPDATE", [("all", 1), ("ardupilotmega", 1), ("storm32", 1)]),
  ("LED_CONTROL_PATTERN_OFF", [("all", 0), ("ardupilotmega", 0), ("storm32", 0)]),
  ("LIMITS_DISABLED", [("all", 1), ("ardupilotmega", 1), ("storm32", 1)]),
  ("LIMITS_ENABLED", [("all", 2), ("ardupilotmega", 2), ("storm32", 2)]),
  ("LIMITS_INIT", [("all", 0), ("ardupilotmega", 0), ("storm32", 0)]),
  ("LIMITS_RECOVERED", [("all", 5), ("ardupilotmega", 5), ("storm32", 5)]),
  ("LIMITS_RECOVERING", [("all", 4), ("ardupilotmega", 4), ("storm32", 4)]),
  ("LIMITS_TRIGGERED", [("all", 3), ("ardupilotmega", 3), ("storm32", 3)]),
  ("LIMIT_ALTITUDE", [("all", 4), ("ardupilotmega", 4), ("storm32", 4)]),
  ("LIMIT_GEOFENCE", [("all", 2), ("ardupilotmega", 2), ("storm32", 2)]),
  ("LIMIT_GPSLOCK", [("all", 1), ("ardupilotmega", 1), ("storm32", 1)]),
  ("MAG_CAL_BAD_ORIENTATION", [("all", 6), ("ardupilotmega", 6), ("asluav", 6), ("avssuas", 6), ("common", 6), ("cubepilot", 6), ("development", 6), ("matrixpilot", 6), ("paparazzi", 6), ("pythonarraytest", 6), ("storm32", 6), ("ualberta", 6), ("uavionix", 6)]),
  ("MAG_CAL_BAD_RADIUS", [("all", 7), ("ardupilotmega", 7), ("asluav", 7), ("avssuas", 7), ("common", 7), ("cubepilot", 7), ("development", 7), ("matrixpilot", 7), ("paparazzi", 7), ("pythonarraytest", 7), ("storm32", 7), ("ualberta", 7), ("uavionix", 7)]),
  ("MAG_CAL_FAILED", [("all", 5), ("ardupilotmega", 5), ("asluav", 5), ("avssuas", 5), ("common", 5), ("cubepilot", 5), ("development", 5), ("matrixpilot", 5), ("paparazzi", 5), ("pythonarraytest", 5), ("storm32", 5), ("ualberta", 5), ("uavionix", 5)]),
  ("MAG_CAL_NOT_STARTED", [("all", 0), ("ardupilotmega", 0), ("asluav", 0), ("avssuas", 0), ("common", 0), ("cubepilot", 0), ("development", 0), ("matrixpilot", 0), ("paparazzi", 0), ("pythonarraytest", 0), ("storm32", 0), ("ualberta", 0), ("uavionix", 0)]),
  ("MAG_CAL_RUNNING_STEP_ONE", [("all", 2), ("ardupilotmega", 2), ("asluav", 2), ("avssuas", 2), ("common", 2), ("cubepilot", 2), ("development", 2), ("matrixpilot", 2), ("paparazzi", 2), ("pythonarraytest", 2), ("storm32", 2), ("ualberta", 2), ("uavionix", 2)]),
  ("MAG_CAL_RUNNING_STEP_TWO", [("all", 3), ("ardupilotmega", 3), ("asluav", 3), ("avssuas", 3), ("common", 3), ("cubepilot", 3), ("development", 3), ("matrixpilot", 3), ("paparazzi", 3), ("pythonarraytest", 3), ("storm32", 3), ("ualberta", 3), ("uavionix", 3)]),
  ("MAG_CAL_SUCCESS", [("all", 4), ("ardupilotmega", 4), ("asluav", 4), ("avssuas", 4), ("common", 4), ("cubepilot", 4), ("development", 4), ("matrixpilot", 4), ("paparazzi", 4), ("pythonarraytest", 4), ("storm32", 4), ("ualberta", 4), ("uavionix", 4)]),
  ("MAG_CAL_WAITING_TO_START", [("all", 1), ("ardupilotmega", 1), ("asluav", 1), ("avssuas", 1), ("common", 1), ("cubepilot", 1), ("development", 1), ("matrixpilot", 1), ("paparazzi", 1), ("pythonarraytest", 1), ("storm32", 1), ("ualberta", 1), ("uavionix", 1)]),
  ("MAVLINK_DATA_STREAM_IMG_BMP", [("all", 1), ("ardupilotmega", 1), ("asluav", 1), ("avssuas", 1), ("common", 1), ("cubepilot", 1), ("development", 1), ("matrixpilot", 1), ("paparazzi", 1), ("pythonarraytest", 1), ("storm32", 1), ("ualberta", 1), ("uavionix", 1)]),
  ("MAVLINK_DATA_STREAM_IMG_JPEG", [("all", 0), ("ardupilotmega", 0), ("asluav", 0), ("avssuas", 0), ("common", 0), ("cubepilot", 0), ("development", 0), ("matrixpilot", 0), ("paparazzi", 0), ("pythonarraytest", 0), ("storm32", 0), ("ualberta", 0), ("uavionix", 0)]),
  ("MAVLINK_DATA_STREAM_IMG_PGM", [("all", 4), ("ardupilotmega", 4), ("asluav", 4), ("avssuas", 4), ("common", 4), ("cubepilot", 4), ("development", 4), ("matrixpilot", 4), ("paparazzi", 4), ("pythonarraytest", 4), ("storm32", 4), ("ualberta", 4), ("uavionix", 4)]),
  ("MAVLINK_DATA_STREAM_IMG_PNG", [("all", 5), ("ardupilotmega", 5), ("asluav", 5), ("avssuas", 5), ("common", 5), ("cubepilot", 5), ("development", 5), ("matrixpilot", 5), ("paparazzi", 5), ("pythonarraytest", 5), ("storm32", 5), ("ualberta", 5), ("uavionix", 5)]),
  ("MAVLINK_DATA_STREAM_IMG_RAW32U", [("all", 3), ("ardupilotmega", 3), ("asluav", 3), ("avssuas", 3), ("common", 3), ("cubepilot", 3), ("development", 3), ("matrixpilot", 3), ("paparazzi", 3), ("pythonarraytest", 3), ("storm32", 3), ("ualberta", 3), ("uavionix", 3)]),
  ("MAVLINK_DATA_STREAM_IMG_RAW8U", [("all", 2), ("ardupilotmega", 2), ("asluav", 2), ("avssuas", 2), ("common", 2), ("cubepilot", 2), ("development", 2), ("matrixpilot", 2), ("paparazzi", 2), ("pythonarraytest", 2), ("storm32", 2), ("ualberta", 2), ("uavionix", 2)]),
  ("MAV_ARM_AUTH_DENIED_REASON_AIRSPACE_IN_USE", [("all", 4), ("ardupilotmega", 4), ("asluav", 4), ("avssuas", 4), ("common", 4), ("cubepilot", 4), ("development", 4), ("matrixpilot", 4), ("paparazzi", 4), ("pythonarraytest", 4), ("storm32", 4), ("ualberta", 4), ("uavionix", 4)]),
  ("MAV_ARM_AUTH_DENIED_REASON_BAD_WEATHER", [("all", 5), ("ardupilotmega", 5), ("asluav", 5), ("avssuas", 5), ("common", 5), ("cubepilot", 5), ("development", 5), ("matrixpilot", 5), ("paparazzi", 5), ("pythonarraytest", 5), ("storm32", 5), ("ualberta", 5), ("uavionix", 5)]),
  ("MAV_ARM_AUTH_DENIED_REASON_GENERIC", [("all", 0), ("ardupilotmega", 0), ("asluav", 0), ("avssuas", 0), ("common", 0), ("cubepilot", 0), ("development", 0), ("matrixpilot", 0), ("paparazzi", 0), ("pythonarraytest", 0), ("storm32", 0), ("ualberta", 0), ("uavionix", 0)]),
  ("MAV_ARM_AUTH_DENIED_REASON_INVALID_WAYPOINT", [("all", 2), ("ardupilotmega", 2), ("asluav", 2), ("avssuas", 2), ("common", 2), ("cubepilot", 2), ("development", 2), ("matrixpilot", 2), ("paparazzi", 2), ("pythonarraytest", 2), ("storm32", 2), ("ualberta", 2), ("uavionix", 2)]),
  ("MAV_ARM_AUTH_DENIED_REASON_NONE", [("all", 1), ("ardupilotmega", 1), ("asluav", 1), ("avssuas", 1), ("common", 1), ("cubepilot", 1), ("development", 1), ("matrixpilot", 1), ("paparazzi", 1), ("pythonarraytest", 1), ("storm32", 1), ("ualberta", 1), ("uavionix", 1)]),
  ("MAV_ARM_AUTH_DENIED_REASON_TIMEOUT", [("all", 3), ("ardupilotmega", 3), ("asluav", 3), ("avssuas", 3), ("common", 3), ("cubepilot", 3), ("development", 3), ("matrixpilot", 3), ("paparazzi", 3), ("pythonarraytest", 3), ("storm32", 3), ("ualberta", 3), ("uavionix", 3)]),
  ("MAV_AUTOPILOT_AEROB", [("all", 16), ("ardupilotmega", 16), ("asluav", 16), ("avssuas", 16), ("common", 16), ("cubepilot", 16), ("development", 16), ("loweheiser", 16), ("matrixpilot", 16), ("minimal", 16), ("paparazzi", 16), ("pythonarraytest", 16), ("standard", 16), ("storm32", 16), ("ualberta", 16), ("uavionix", 16)]),
  ("MAV_AUTOPILOT_AIRRAILS", [("all", 19), ("ardupilotmega", 19), ("asluav", 19), ("avssuas", 19), ("common", 19), ("cubepilot", 19), ("development", 19), ("loweheiser", 19), ("matrixpilot", 19), ("minimal", 19), ("paparazzi", 19), ("pythonarraytest", 19), ("standard", 19), ("storm32", 19), ("ualberta", 19), ("uavionix", 19)]),
  ("MAV_AUTOPILOT_ARDUPILOTMEGA", [("all", 3), ("ardupilotmega", 3), ("asluav", 3), ("avssuas", 3), ("common", 3), ("cubepilot", 3), ("development", 3), ("loweheiser", 3), ("matrixpilot", 3), ("minimal", 3), ("paparazzi", 3), ("pythonarraytest", 3), ("standard", 3), ("storm32", 3), ("ualberta", 3), ("uavionix", 3)]),
  ("MAV_AUTOPILOT_ARMAZILA", [("all", 15), ("ardupilotmega", 15), ("asluav", 15), ("avssuas", 15), ("common", 15), ("cubepilot", 15), ("development", 15), ("loweheiser", 15), ("matrixpilot", 15), ("minimal", 15), ("paparazzi", 15), ("pythonarraytest", 15), ("standard", 15), ("storm32", 15), ("ualberta", 15), ("uavionix", 15)]),
  ("MAV_AUTOPILOT_ASLUAV", [("all", 17), ("ardupilotmega", 17), ("asluav", 17), ("avssuas", 17), ("common", 17), ("cubepilot", 17), ("development", 17), ("loweheiser", 17), ("matrixpilot", 17), ("minimal", 17), ("paparazzi", 17), ("pythonarraytest", 17), ("standard", 17), ("storm32", 17), ("ualberta", 17), ("uavionix", 17)])]
def constGroups_13 : List (String × List (String × Nat)) := [
  ("MAV_AUTOPILOT_AUTOQUAD", [("all", 14), ("ardupilotmega", 14), ("asluav", 14), ("avssuas", 14), ("common", 14), ("cubepilot", 14), ("development", 14), ("loweheiser", 14), ("matrixpilot", 14), ("minimal", 14), ("paparazzi", 14), ("pythonarraytest", 14), ("standard", 14), ("storm32", 14), ("ualberta", 14), ("uavionix", 14)]),
  ("MAV_AUTOPILOT_FP", [("all", 11), ("ardupilotmega", 11), ("asluav", 11), ("avssuas", 11), ("common", 11), ("cubepilot", 11), ("development", 11), ("loweheiser", 11), ("matrixpilot", 11), ("minimal", 11), ("paparazzi", 11), ("pythonarraytest", 11), ("standard", 11), ("storm32", 11), ("ualberta", 11), ("uavionix", 11)]),
  ("MAV_AUTOPILOT_GENERIC", [("all", 0), ("ardupilotmega", 0), ("asluav", 0), ("avssuas", 0), ("common", 0), ("cubepilot", 0), ("development", 0), ("loweheiser", 0), ("matrixpilot", 0), ("minimal", 0), ("paparazzi", 0), ("pythonarraytest", 0), ("standard", 0), ("storm32", 0), ("ualberta", 0), ("uavionix", 0)]),
  ("MAV_AUTOPILOT_GENERIC_MISSION_FULL", [("all", 7), ("ardupilotmega", 7), ("asluav", 7), ("avssuas", 7), ("common", 7), ("cubepilot", 7), ("development", 7), ("loweheiser", 7), ("matrixpilot", 7), ("minimal", 7), ("paparazzi", 7), ("pythonarraytest", 7), ("standard", 7), ("storm32", 7), ("ualberta", 7), ("uavionix", 7)]),
  ("MAV_AUTOPILOT_GENERIC_WAYPOINTS_AND_SIMPLE_NAVIGATION_ONLY", [("all", 6), ("ardupilotmega", 6), ("asluav", 6), ("avssuas", 6), ("common", 6), ("cubepilot", 6), ("development", 6), ("loweheiser", 6), ("matrixpilot", 6), ("minimal", 6), ("paparazzi", 6), ("pythonarraytest", 6), ("standard", 6), ("storm32", 6), ("ualberta", 6), ("uavionix", 6)]),
  ("MAV_AUTOPILOT_GENERIC_WAYPOINTS_ONLY", [("all", 5), ("ardupilotmega", 5), ("asluav", 5), ("avssuas", 5), ("common", 5), ("cubepilot", 5), ("development", 5), ("loweheiser", 5), ("matrixpilot", 5), ("minimal", 5), ("paparazzi", 5), ("pythonarraytest", 5), ("standard", 5), ("storm32", 5), ("ualberta", 5), ("uavionix", 5)]),
  ("MAV_AUTOPILOT_INVALID", [("all", 8), ("ardupilotmega", 8), ("asluav", 8), ("avssuas", 8), ("common", 8), ("cubepilot", 8), ("development", 8), ("loweheiser", 8), ("matrixpilot", 8), ("minimal", 8), ("paparazzi", 8), ("pythonarraytest", 8), ("standard", 8), ("storm32", 8), ("ualberta", 8), ("uavionix", 8)]),
  ("MAV_AUTOPILOT_OPENPILOT", [("all", 4), ("ardupilotmega", 4), ("asluav", 4), ("avssuas", 4), ("common", 4), ("cubepilot", 4), ("development", 4), ("loweheiser", 4), ("matrixpilot", 4), ("minimal", 4), ("paparazzi", 4), ("pythonarraytest", 4), ("standard", 4), ("storm32", 4), ("ualberta", 4), ("uavionix", 4)]),
  ("MAV_AUTOPILOT_PPZ", [("all", 9), ("ardupilotmega", 9), ("asluav", 9), ("avssuas", 9), ("common", 9), ("cubepilot", 9), ("development", 9), ("loweheiser", 9), ("matrixpilot", 9), ("minimal", 9), ("paparazzi", 9), ("pythonarraytest", 9), ("standard", 9), ("storm32", 9), ("ualberta", 9), ("uavionix", 9)]),
  ("MAV_AUTOPILOT_PX4", [("all", 12), ("ardupilotmega", 12), ("asluav", 12), ("avssuas", 12), ("common", 12), ("cubepilot", 12), ("development", 12), ("loweheiser", 12), ("matrixpilot", 12), ("minimal", 12), ("paparazzi", 12), ("pythonarraytest", 12), ("standard", 12), ("storm32", 12), ("ualberta", 12), ("uavionix", 12)]),
  ("MAV_AUTOPILOT_REFLEX", [("all", 20), ("ardupilotmega", 20), ("asluav", 20), ("avssuas", 20), ("common", 20), ("cubepilot", 20), ("development", 20), ("loweheiser", 20), ("matrixpilot", 20), ("minimal", 20), ("paparazzi", 20), ("pythonarraytest", 20), ("standard", 20), ("storm32", 20), ("ualberta", 20), ("uavionix", 20)]),
  ("MAV_AUTOPILOT_RESERVED", [("all", 1), ("ardupilotmega", 1), ("asluav", 1), ("avssuas", 1), ("common", 1), ("cubepilot", 1), ("development", 1), ("loweheiser", 1), ("matrixpilot", 1), ("minimal", 1), ("paparazzi", 1), ("pythonarraytest", 1), ("standard", 1), ("storm32", 1), ("ualberta", 1), ("uavionix", 1)]),
  ("MAV_AUTOPILOT_SLUGS", [("all", 2), ("ardupilotmega", 2), ("asluav", 2), ("avssuas", 2), ("common", 2), ("cubepilot", 2), ("development", 2), ("loweheiser", 2), ("matrixpilot", 2), ("minimal", 2), ("paparazzi", 2), ("pythonarraytest", 2), ("standard", 2), ("storm32", 2), ("ualberta", 2), ("uavionix", 2)]),
  ("MAV_AUTOPILOT_SMACCMPILOT", [("all", 13), ("ardupilotmega", 13), ("asluav", 13), ("avssuas", 13), ("common", 13), ("cubepilot", 13), ("development", 13), ("loweheiser", 13), ("matrixpilot", 13), ("minimal", 13), ("paparazzi", 13), ("pythonarraytest", 13), ("standard", 13), ("storm32", 13), ("ualberta", 13), ("uavionix", 13)]),
  ("MAV_AUTOPILOT_SMARTAP", [("all", 18), ("ardupilotmega", 18), ("asluav", 18), ("avssuas", 18), ("common", 18), ("cubepilot", 18), ("development", 18), ("loweheiser", 18), ("matrixpilot", 18), ("minimal", 18), ("paparazzi", 18), ("pythonarraytest", 18), ("standard", 18), ("storm32", 18), ("ualberta", 18), ("uavionix", 18)]),
  ("MAV_AUTOPILOT_UDB", [("all", 10), ("ardupilotmega", 10), ("asluav", 10), ("avssuas", 10), ("common", 10), ("cubepilot", 10), ("development", 10), ("loweheiser", 10), ("matrixpilot", 10), ("minimal", 10), ("paparazzi", 10), ("pythonarraytest", 10), ("standard", 10), ("storm32", 10), ("ualberta", 10), ("uavionix", 10)]),
  ("MAV_BATTERY_CHARGE_STATE_CHARGING", [("all", 7), ("ardupilotmega", 7), ("asluav", 7), ("avssuas", 7), ("common", 7), ("cubepilot", 7), ("development", 7), ("matrixpilot", 7), ("paparazzi", 7), ("pythonarraytest", 7), ("storm32", 7), ("ualberta", 7), ("uavionix", 7)]),
  ("MAV_BATTERY_CHARGE_STATE_CRITICAL", [("all", 3), ("ardupilotmega", 3), ("asluav", 3), ("avssuas", 3), ("common", 3), ("cubepilot", 3), ("development", 3), ("matrixpilot", 3), ("paparazzi", 3), ("pythonarraytest", 3), ("storm32", 3), ("ualberta", 3), ("uavionix", 3)]),
  ("MAV_BATTERY_CHARGE_STATE_EMERGENCY", [("all", 4), ("ardupilotmega", 4), ("asluav", 4), ("avssuas", 4), ("common", 4), ("cubepilot", 4), ("development", 4), ("matrixpilot", 4), ("paparazzi", 4), ("pythonarraytest", 4), ("storm32", 4), ("ualberta", 4), ("uavionix", 4)]),
  ("MAV_BATTERY_CHARGE_STATE_FAILED", [("all", 5), ("ardupilotmega", 5), ("asluav", 5), ("avssuas", 5), ("common", 5), ("cubepilot", 5), ("development", 5), ("matrixpilot", 5), ("paparazzi", 5), ("pythonarraytest", 5), ("storm32", 5), ("ualberta", 5), ("uavionix", 5)]),
  ("MAV_BATTERY_CHARGE_STATE_LOW", [("all", 2), ("ardupilotmega", 2), ("asluav", 2), ("avssuas", 2), ("common", 2), ("cubepilot", 2), ("development", 2), ("matrixpilot", 2), ("paparazzi", 2), ("pythonarraytest", 2), ("storm32", 2), ("ualberta", 2), ("uavionix", 2)]),
  ("MAV_BATTERY_CHARGE_STATE_OK", [("all", 1), ("ardupilotmega", 1), ("asluav", 1), ("avssuas", 1), ("common", 1), ("cubepilot", 1), ("development", 1), ("matrixpilot", 1), ("paparazzi", 1), ("pythonarraytest", 1), ("storm32", 1), ("ualberta", 1), ("uavionix", 1)]),
  ("MAV_BATTERY_CHARGE_STATE_UNDEFINED", [("all", 0), ("ardupilotmega", 0), ("asluav", 0), ("avssuas", 0), ("common", 0), ("cubepilot", 0), ("development", 0), ("matrixpilot", 0), ("paparazzi", 0), ("pythonarraytest", 0), ("storm32", 0), ("ualberta", 0), ("uavionix", 0)]),
  ("MAV_BATTERY_CHARGE_STATE_UNHEALTHY", [("all", 6), ("ardupilotmega", 6), ("asluav", 6), ("avssuas", 6), ("common", 6), ("cubepilot", 6), ("development", 6), ("matrixpilot", 6), ("paparazzi", 6), ("pythonarraytest", 6), ("storm32", 6), ("ualberta", 6), ("uavionix", 6)]),
  ("MAV_BATTERY_FAULT_CELL_FAIL", [("all", 4), ("ardupilotmega", 4), ("asluav", 4), ("avssuas", 4), ("common", 4), ("cubepilot", 4), ("development", 4), ("matrixpilot", 4), ("paparazzi", 4), ("pythonarraytest", 4), ("storm32", 4), ("ualberta", 4), ("uavionix", 4)]),
  ("MAV_BATTERY_FAULT_DEEP_DISCHARGE", [("all", 1), ("ardupilotmega", 1), ("asluav", 1), ("avssuas", 1), ("common", 1), ("cubepilot", 1), ("development", 1), ("matrixpilot", 1), ("paparazzi", 1), ("pythonarraytest", 1), ("storm32", 1), ("ualberta", 1), ("uavionix", 1)]),
  ("MAV_BATTERY_FAULT_INCOMPATIBLE_FIRMWARE", [("all", 128), ("ardupilotmega", 128), ("asluav", 128), ("avssuas", 128), ("common", 128), ("cubepilot", 128), ("development", 128), ("matrixpilot", 128), ("paparazzi", 128), ("pythonarraytest", 128), ("storm32", 128), ("ualberta", 128), ("uavionix", 128)]),
  ("MAV_BATTERY_FAULT_INCOMPATIBLE_VOLTAGE", [("all", 64), ("ardupilotmega", 64), ("asluav", 64), ("avssuas", 64), ("common", 64), ("cubepilot", 64), ("development", 64), ("matrixpilot", 64), ("paparazzi", 64), ("pythonarraytest", 64), ("storm32", 64), ("ualberta", 64), ("uavionix", 64)]),
  ("MAV_BATTERY_FAULT_OVER_CURRENT", [("all", 8), ("ardupilotmega", 8), ("asluav", 8), ("avssuas", 8), ("common", 8), ("cubepilot", 8), ("development", 8), ("matrixpilot", 8), ("paparazzi", 8), ("pythonarraytest", 8), ("storm32", 8), ("ualberta", 8), ("uavionix", 8)]),
  ("MAV_BATTERY_FAULT_OVER_TEMPERATURE", [("all", 16), ("ardupilotmega", 16), ("asluav", 16), ("avssuas", 16), ("common", 16), ("cubepilot", 16), ("development", 16), ("matrixpilot", 16), ("paparazzi", 16), ("pythonarraytest", 16), ("storm32", 16), ("ualberta", 16), ("uavionix", 16)]),
  ("MAV_BATTERY_FAULT_SPIKES", [("all", 2), ("ardupilotmega", 2), ("asluav", 2), ("avssuas", 2), ("common", 2), ("cubepilot", 2), ("development", 2), ("matrixpilot", 2), ("paparazzi", 2), ("pythonarraytest", 2), ("storm32", 2), ("ualberta", 2), ("uavionix", 2)]),
  ("MAV_BATTERY_FAULT_UNDER_TEMPERATURE", [("all", 32), ("ardupilotmega", 32), ("asluav", 32), ("avssuas", 32), ("common", 32), ("cubepilot", 32), ("development", 32), ("matrixpilot", 32), ("paparazzi", 32), ("pythonarraytest", 32), ("storm32", 32), ("ualberta", 32), ("uavionix", 32)]),
  ("MAV_BATTERY_FUNCTION_ALL", [("all", 1), ("ardupilotmega", 1), ("asluav", 1), ("avssuas", 1), ("common", 1), ("cubepilot", 1), ("development", 1), ("matrixpilot", 1), ("paparazzi", 1), ("pythonarraytest", 1), ("storm32", 1), ("ualberta", 1), ("uavionix", 1)]),
  ("MAV_BATTERY_FUNCTION_AVIONICS", [("all", 3), ("ardupilotmega", 3), ("asluav", 3), ("avssuas", 3), ("common", 3), ("cubepilot", 3), ("development", 3), ("matrixpilot", 3), ("paparazzi", 3), ("pythonarraytest", 3), ("storm32", 3), ("ualberta", 3), ("uavionix", 3)]),
  ("MAV_BATTERY_FUNCTION_PAYLOAD", [("all", 4), ("ardupilotmega", 4), ("asluav", 4), ("avssuas", 4), ("common", 4), ("cubepilot", 4), ("development", 4), ("matrixpilot", 4), ("paparazzi", 4), ("pythonarraytest", 4), ("storm32", 4), ("ualberta", 4), ("uavionix", 4)]),
  ("MAV_BATTERY_FUNCTION_PROPULSION", [("all", 2), ("ardupilotmega", 2), ("asluav", 2), ("avssuas", 2), ("common", 2), ("cubepilot", 2), ("development", 2), ("matrixpilot", 2), ("paparazzi", 2), ("pythonarraytest", 2), ("storm32", 2), ("ualberta", 2), ("uavionix", 2)]),
  ("MAV_BATTERY_FUNCTION_UNKNOWN", [("all", 0), ("ardupilotmega", 0), ("asluav", 0), ("avssuas", 0), ("common", 0), ("cubepilot", 0), ("development", 0), ("matrixpilot", 0), ("paparazzi", 0), ("pythonarraytest", 0), ("storm32", 0), ("ualberta", 0), ("uavionix", 0)]),
  ("MAV_BATTERY_MODE_AUTO_DISCHARGING", [("all", 1), ("ardupilotmega", 1), ("asluav", 1), ("avssuas", 1), ("common", 1), ("cubepilot", 1), ("development", 1), ("matrixpilot", 1), ("paparazzi", 1), ("pythonarraytest", 1), ("storm32", 1), ("ualberta", 1), ("uavionix", 1)]),
  ("MAV_BATTERY_MODE_HOT_SWAP", [("all", 2), ("ardupilotmega", 2), ("asluav", 2), ("avssuas", 2), ("common", 2), ("cubepilot", 2), ("development", 2), ("matrixpilot", 2), ("paparazzi", 2), ("pythonarraytest", 2), ("storm32", 2), ("ualberta", 2), ("uavionix", 2)]),
  ("MAV_BATTERY_MODE_UNKNOWN", [("all", 0), ("ardupilotmega", 0), ("asluav", 0), ("avssuas", 0), ("common", 0), ("cubepilot", 0), ("development", 0), ("matrixpilot", 0), ("paparazzi", 0), ("pythonarraytest", 0), ("storm32", 0), ("ualberta", 0), ("uavionix", 0)]),
  ("MAV_BATTERY_STATUS_FLAGS_AUTO_DISCHARGING", [("all", 16), ("development", 16)]),
  ("MAV_BATTERY_STATUS_FLAGS_BAD_BATTERY", [("all", 64), ("development", 64)]),
  ("MAV_BATTERY_STATUS_FLAGS_CAPACITY_RELATIVE_TO_FULL", [("all", 262144), ("development", 262144)]),
  ("MAV_BATTERY_STATUS_FLAGS_CELL_BALANCING", [("all", 4), ("development", 4)]),
  ("MAV_BATTERY_STATUS_FLAGS_CHARGING", [("all", 2), ("development", 2)]),
  ("MAV_BATTERY_STATUS_FLAGS_EXTENDED", [("all", 2147483648), ("development", 2147483648)]),
  ("MAV_BATTERY_STATUS_FLAGS_FAULT_CELL_IMBALANCE", [("all", 8), ("development", 8)]),
  ("MAV_BATTERY_STATUS_FLAGS_FAULT_INCOMPATIBLE_CELLS_CONFIGURATION", [("all", 131072), ("development", 131072)]),
  ("MAV_BATTERY_STATUS_FLAGS_FAULT_INCOMPATIBLE_FIRMWARE", [("all", 65536), ("development", 65536)]),
  ("MAV_BATTERY_STATUS_FLAGS_FAULT_INCOMPATIBLE_VOLTAGE", [("all", 32768), ("development", 32768)]),
  ("MAV_BATTERY_STATUS_FLAGS_FAULT_OVER_CURRENT", [("all", 8192), ("development", 8192)]),
  ("MAV_BATTERY_STATUS_FLAGS_FAULT_OVER_TEMPERATURE", [("all", 2048), ("development", 2048)]),
  ("MAV_BATTERY_STATUS_FLAGS_FAULT_OVER_VOLT", [("all", 512), ("development", 512)]),
  ("MAV_BATTERY_STATUS_FLAGS_FAULT_PROTECTION_SYSTEM", [("all", 256), ("development", 256)]),
  ("MAV_BATTERY_STATUS_FLAGS_FAULT_SHORT_CIRCUIT", [("all", 16384), ("development", 16384)]),
  ("MAV_BATTERY_STATUS_FLAGS_FAULT_UNDER_TEMPERATURE", [("all", 4096), ("development", 4096)]),
  ("MAV_BATTERY_STATUS_FLAGS_FAULT_UNDER_VOLT", [("all", 1024), ("development", 1024)]),
  ("MAV_BATTERY_STATUS_FLAGS_NOT_READY_TO_USE", [("all", 1), ("development", 1)]),
  ("MAV_BATTERY_STATUS_FLAGS_PROTECTIONS_ENABLED", [("all", 128), ("development", 128)]),
  ("MAV_BATTERY_STATUS_FLAGS_REQUIRES_SERVICE", [("all", 32), ("development", 32)])]
def constGroups_14 : List (String × List (String × Nat)) := [
  ("MAV_BATTERY_TYPE_LIFE", [("all", 2), ("ardupilotmega", 2), ("asluav", 2), ("avssuas", 2), ("common", 2), ("cubepilot", 2), ("development", 2), ("matrixpilot", 2), ("paparazzi", 2), ("pythonarraytest", 2), ("storm32", 2), ("ualberta", 2), ("uavionix", 2)]),
  ("MAV_BATTERY_TYPE_LION", [("all", 3), ("ardupilotmega", 3), ("asluav", 3), ("avssuas", 3), ("common", 3), ("cubepilot", 3), ("development", 3), ("matrixpilot", 3), ("paparazzi", 3), ("pythonarraytest", 3), ("storm32", 3), ("ualberta", 3), ("uavionix", 3)]),
  ("MAV_BATTERY_TYPE_LIPO", [("all", 1), ("ardupilotmega", 1), ("asluav", 1), ("avssuas", 1), ("common", 1), ("cubepilot", 1), ("development", 1), ("matrixpilot", 1), ("paparazzi", 1), ("pythonarraytest", 1), ("storm32", 1), ("ualberta", 1), ("uavionix", 1)]),
  ("MAV_BATTERY_TYPE_NIMH", [("all", 4), ("ardupilotmega", 4), ("asluav", 4), ("avssuas", 4), ("common", 4), ("cubepilot", 4), ("development", 4), ("matrixpilot", 4), ("paparazzi", 4), ("pythonarraytest", 4), ("storm32", 4), ("ualberta", 4), ("uavionix", 4)]),
  ("MAV_BATTERY_TYPE_UNKNOWN", [("all", 0), ("ardupilotmega", 0), ("asluav", 0), ("avssuas", 0), ("common", 0), ("cubepilot", 0), ("development", 0), ("matrixpilot", 0), ("paparazzi", 0), ("pythonarraytest", 0), ("storm32", 0), ("ualberta", 0), ("uavionix", 0)]),
  ("MAV_CMD_ACCELCAL_VEHICLE_POS", [("all", 42429), ("ardupilotmega", 42429), ("storm32", 42429)]),
  ("MAV_CMD_ACTUATOR_TEST", [("all", 310), ("ardupilotmega", 310), ("asluav", 310), ("avssuas", 310), ("common", 310), ("cubepilot", 310), ("development", 310), ("matrixpilot", 310), ("paparazzi", 310), ("pythonarraytest", 310), ("storm32", 310), ("ualberta", 310), ("uavionix", 310)]),
  ("MAV_CMD_AIRFRAME_CONFIGURATION", [("all", 2520), ("ardupilotmega", 2520), ("asluav", 2520), ("avssuas", 2520), ("common", 2520), ("cubepilot", 2520), ("development", 2520), ("matrixpilot", 2520), ("paparazzi", 2520), ("pythonarraytest", 2520), ("storm32", 2520), ("ualberta", 2520), ("uavionix", 2520)]),
  ("MAV_CMD_ARM_AUTHORIZATION_REQUEST", [("all", 3001), ("ardupilotmega", 3001), ("asluav", 3001), ("avssuas", 3001), ("common", 3001), ("cubepilot", 3001), ("development", 3001), ("matrixpilot", 3001), ("paparazzi", 3001), ("pythonarraytest", 3001), ("storm32", 3001), ("ualberta", 3001), ("uavionix", 3001)]),
  ("MAV_CMD_BATTERY_RESET", [("all", 42651), ("ardupilotmega", 42651), ("storm32", 42651)]),
  ("MAV_CMD_CAMERA_STOP_TRACKING", [("all", 2010), ("ardupilotmega", 2010), ("asluav", 2010), ("avssuas", 2010), ("common", 2010), ("cubepilot", 2010), ("development", 2010), ("matrixpilot", 2010), ("paparazzi", 2010), ("pythonarraytest", 2010), ("storm32", 2010), ("ualberta", 2010), ("uavionix", 2010)]),
  ("MAV_CMD_CAMERA_TRACK_POINT", [("all", 2004), ("ardupilotmega", 2004), ("asluav", 2004), ("avssuas", 2004), ("common", 2004), ("cubepilot", 2004), ("development", 2004), ("matrixpilot", 2004), ("paparazzi", 2004), ("pythonarraytest", 2004), ("storm32", 2004), ("ualberta", 2004), ("uavionix", 2004)]),
  ("MAV_CMD_CAMERA_TRACK_RECTANGLE", [("all", 2005), ("ardupilotmega", 2005), ("asluav", 2005), ("avssuas", 2005), ("common", 2005), ("cubepilot", 2005), ("development", 2005), ("matrixpilot", 2005), ("paparazzi", 2005), ("pythonarraytest", 2005), ("storm32", 2005), ("ualberta", 2005), ("uavionix", 2005)]),
  ("MAV_CMD_CAN_FORWARD", [("all", 32000), ("ardupilotmega", 32000), ("asluav", 32000), ("avssuas", 32000), ("common", 32000), ("cubepilot", 32000), ("development", 32000), ("matrixpilot", 32000), ("paparazzi", 32000), ("pythonarraytest", 32000), ("storm32", 32000), ("ualberta", 32000), ("uavionix", 32000)]),
  ("MAV_CMD_COMPONENT_ARM_DISARM", [("all", 400), ("ardupilotmega", 400), ("asluav", 400), ("avssuas", 400), ("common", 400), ("cubepilot", 400), ("development", 400), ("matrixpilot", 400), ("paparazzi", 400), ("pythonarraytest", 400), ("storm32", 400), ("ualberta", 400), ("uavionix", 400)]),
  ("MAV_CMD_CONDITION_CHANGE_ALT", [("all", 113), ("ardupilotmega", 113), ("asluav", 113), ("avssuas", 113), ("common", 113), ("cubepilot", 113), ("development", 113), ("matrixpilot", 113), ("paparazzi", 113), ("pythonarraytest", 113), ("storm32", 113), ("ualberta", 113), ("uavionix", 113)]),
  ("MAV_CMD_CONDITION_DELAY", [("all", 112), ("ardupilotmega", 112), ("asluav", 112), ("avssuas", 112), ("common", 112), ("cubepilot", 112), ("development", 112), ("matrixpilot", 112), ("paparazzi", 112), ("pythonarraytest", 112), ("storm32", 112), ("ualberta", 112), ("uavionix", 112)]),
  ("MAV_CMD_CONDITION_DISTANCE", [("all", 114), ("ardupilotmega", 114), ("asluav", 114), ("avssuas", 114), ("common", 114), ("cubepilot", 114), ("development", 114), ("matrixpilot", 114), ("paparazzi", 114), ("pythonarraytest", 114), ("storm32", 114), ("ualberta", 114), ("uavionix", 114)]),
  ("MAV_CMD_CONDITION_GATE", [("all", 4501), ("ardupilotmega", 4501), ("asluav", 4501), ("avssuas", 4501), ("common", 4501), ("cubepilot", 4501), ("development", 4501), ("matrixpilot", 4501), ("paparazzi", 4501), ("pythonarraytest", 4501), ("storm32", 4501), ("ualberta", 4501), ("uavionix", 4501)]),
  ("MAV_CMD_CONDITION_LAST", [("all", 159), ("ardupilotmega", 159), ("asluav", 159), ("avssuas", 159), ("common", 159), ("cubepilot", 159), ("development", 159), ("matrixpilot", 159), ("paparazzi", 159), ("pythonarraytest", 159), ("storm32", 159), ("ualberta", 159), ("uavionix", 159)]),
  ("MAV_CMD_CONDITION_YAW", [("all", 115), ("ardupilotmega", 115), ("asluav", 115), ("avssuas", 115), ("common", 115), ("cubepilot", 115), ("development", 115), ("matrixpilot", 115), ("paparazzi", 115), ("pythonarraytest", 115), ("storm32", 115), ("ualberta", 115), ("uavionix", 115)]),
  ("MAV_CMD_CONFIGURE_ACTUATOR", [("all", 311), ("ardupilotmega", 311), ("asluav", 311), ("avssuas", 311), ("common", 311), ("cubepilot", 311), ("development", 311), ("matrixpilot", 311), ("paparazzi", 311), ("pythonarraytest", 311), ("storm32", 311), ("ualberta", 311), ("uavionix", 311)]),
  ("MAV_CMD_CONTROL_HIGH_LATENCY", [("all", 2600), ("ardupilotmega", 2600), ("asluav", 2600), ("avssuas", 2600), ("common", 2600), ("cubepilot", 2600), ("development", 2600), ("matrixpilot", 2600), ("paparazzi", 2600), ("pythonarraytest", 2600), ("storm32", 2600), ("ualberta", 2600), ("uavionix", 2600)]),
  ("MAV_CMD_DEBUG_TRAP", [("all", 42700), ("ardupilotmega", 42700), ("storm32", 42700)]),
  ("MAV_CMD_DO_ACCEPT_MAG_CAL", [("all", 42425), ("ardupilotmega", 42425), ("storm32", 42425)]),
  ("MAV_CMD_DO_ADSB_OUT_IDENT", [("all", 10001), ("ardupilotmega", 10001), ("asluav", 10001), ("avssuas", 10001), ("common", 10001), ("cubepilot", 10001), ("development", 10001), ("matrixpilot", 10001), ("paparazzi", 10001), ("pythonarraytest", 10001), ("storm32", 10001), ("ualberta", 10001), ("uavionix", 10001)]),
  ("MAV_CMD_DO_AUTOTUNE_ENABLE", [("all", 212), ("ardupilotmega", 212), ("asluav", 212), ("avssuas", 212), ("common", 212), ("cubepilot", 212), ("development", 212), ("matrixpilot", 212), ("paparazzi", 212), ("pythonarraytest", 212), ("storm32", 212), ("ualberta", 212), ("uavionix", 212)]),
  ("MAV_CMD_DO_AUX_FUNCTION", [("all", 218), ("ardupilotmega", 218), ("storm32", 218)]),
  ("MAV_CMD_DO_AUX_FUNCTION_SWITCH_LEVEL_HIGH", [("all", 2), ("ardupilotmega", 2), ("storm32", 2)]),
  ("MAV_CMD_DO_AUX_FUNCTION_SWITCH_LEVEL_LOW", [("all", 0), ("ardupilotmega", 0), ("storm32", 0)]),
  ("MAV_CMD_DO_AUX_FUNCTION_SWITCH_LEVEL_MIDDLE", [("all", 1), ("ardupilotmega", 1), ("storm32", 1)]),
  ("MAV_CMD_DO_CANCEL_MAG_CAL", [("all", 42426), ("ardupilotmega", 42426), ("storm32", 42426)]),
  ("MAV_CMD_DO_CHANGE_ALTITUDE", [("all", 186), ("ardupilotmega", 186), ("asluav", 186), ("avssuas", 186), ("common", 186), ("cubepilot", 186), ("development", 186), ("matrixpilot", 186), ("paparazzi", 186), ("pythonarraytest", 186), ("storm32", 186), ("ualberta", 186), ("uavionix", 186)]),
  ("MAV_CMD_DO_CHANGE_SPEED", [("all", 178), ("ardupilotmega", 178), ("asluav", 178), ("avssuas", 178), ("common", 178), ("cubepilot", 178), ("development", 178), ("matrixpilot", 178), ("paparazzi", 178), ("pythonarraytest", 178), ("storm32", 178), ("ualberta", 178), ("uavionix", 178)]),
  ("MAV_CMD_DO_CONTROL_VIDEO", [("all", 200), ("ardupilotmega", 200), ("asluav", 200), ("avssuas", 200), ("common", 200), ("cubepilot", 200), ("development", 200), ("matrixpilot", 200), ("paparazzi", 200), ("pythonarraytest", 200), ("storm32", 200), ("ualberta", 200), ("uavionix", 200)]),
  ("MAV_CMD_DO_DIGICAM_CONFIGURE", [("all", 202), ("ardupilotmega", 202), ("asluav", 202), ("avssuas", 202), ("common", 202), ("cubepilot", 202), ("development", 202), ("matrixpilot", 202), ("paparazzi", 202), ("pythonarraytest", 202), ("storm32", 202), ("ualberta", 202), ("uavionix", 202)]),
  ("MAV_CMD_DO_DIGICAM_CONTROL", [("all", 203), ("ardupilotmega", 203), ("asluav", 203), ("avssuas", 203), ("common", 203), ("cubepilot", 203), ("development", 203), ("matrixpilot", 203), ("paparazzi", 203), ("pythonarraytest", 203), ("storm32", 203), ("ualberta", 203), ("uavionix", 203)]),
  ("MAV_CMD_DO_ENGINE_CONTROL", [("all", 223), ("ardupilotmega", 223), ("asluav", 223), ("avssuas", 223), ("common", 223), ("cubepilot", 223), ("development", 223), ("matrixpilot", 223), ("paparazzi", 223), ("pythonarraytest", 223), ("storm32", 223), ("ualberta", 223), ("uavionix", 223)]),
  ("MAV_CMD_DO_FENCE_ENABLE", [("all", 207), ("ardupilotmega", 207), ("asluav", 207), ("avssuas", 207), ("common", 207), ("cubepilot", 207), ("development", 207), ("matrixpilot", 207), ("paparazzi", 207), ("pythonarraytest", 207), ("storm32", 207), ("ualberta", 207), ("uavionix", 207)]),
  ("MAV_CMD_DO_FIGURE_EIGHT", [("all", 35), ("development", 35)]),
  ("MAV_CMD_DO_FLIGHTTERMINATION", [("all", 185), ("ardupilotmega", 185), ("asluav", 185), ("avssuas", 185), ("common", 185), ("cubepilot", 185), ("development", 185), ("matrixpilot", 185), ("paparazzi", 185), ("pythonarraytest", 185), ("storm32", 185), ("ualberta", 185), ("uavionix", 185)]),
  ("MAV_CMD_DO_FOLLOW", [("all", 32), ("ardupilotmega", 32), ("asluav", 32), ("avssuas", 32), ("common", 32), ("cubepilot", 32), ("development", 32), ("matrixpilot", 32), ("paparazzi", 32), ("pythonarraytest", 32), ("storm32", 32), ("ualberta", 32), ("uavionix", 32)]),
  ("MAV_CMD_DO_FOLLOW_REPOSITION", [("all", 33), ("ardupilotmega", 33), ("asluav", 33), ("avssuas", 33), ("common", 33), ("cubepilot", 33), ("development", 33), ("matrixpilot", 33), ("paparazzi", 33), ("pythonarraytest", 33), ("storm32", 33), ("ualberta", 33), ("uavionix", 33)]),
  ("MAV_CMD_DO_GIMBAL_MANAGER_CONFIGURE", [("all", 1001), ("ardupilotmega", 1001), ("asluav", 1001), ("avssuas", 1001), ("common", 1001), ("cubepilot", 1001), ("development", 1001), ("matrixpilot", 1001), ("paparazzi", 1001), ("pythonarraytest", 1001), ("storm32", 1001), ("ualberta", 1001), ("uavionix", 1001)]),
  ("MAV_CMD_DO_GIMBAL_MANAGER_PITCHYAW", [("all", 1000), ("ardupilotmega", 1000), ("asluav", 1000), ("avssuas", 1000), ("common", 1000), ("cubepilot", 1000), ("development", 1000), ("matrixpilot", 1000), ("paparazzi", 1000), ("pythonarraytest", 1000), ("storm32", 1000), ("ualberta", 1000), ("uavionix", 1000)]),
  ("MAV_CMD_DO_GO_AROUND", [("all", 191), ("ardupilotmega", 191), ("asluav", 191), ("avssuas", 191), ("common", 191), ("cubepilot", 191), ("development", 191), ("matrixpilot", 191), ("paparazzi", 191), ("pythonarraytest", 191), ("storm32", 191), ("ualberta", 191), ("uavionix", 191)]),
  ("MAV_CMD_DO_GRIPPER", [("all", 211), ("ardupilotmega", 211), ("asluav", 211), ("avssuas", 211), ("common", 211), ("cubepilot", 211), ("development", 211), ("matrixpilot", 211), ("paparazzi", 211), ("pythonarraytest", 211), ("storm32", 211), ("ualberta", 211), ("uavionix", 211)]),
  ("MAV_CMD_DO_GUIDED_LIMITS", [("all", 222), ("ardupilotmega", 222), ("asluav", 222), ("avssuas", 222), ("common", 222), ("cubepilot", 222), ("development", 222), ("matrixpilot", 222), ("paparazzi", 222), ("pythonarraytest", 222), ("storm32", 222), ("ualberta", 222), ("uavionix", 222)]),
  ("MAV_CMD_DO_GUIDED_MASTER", [("all", 221), ("ardupilotmega", 221), ("asluav", 221), ("avssuas", 221), ("common", 221), ("cubepilot", 221), ("development", 221), ("matrixpilot", 221), ("paparazzi", 221), ("pythonarraytest", 221), ("storm32", 221), ("ualberta", 221), ("uavionix", 221)]),
  ("MAV_CMD_DO_ILLUMINATOR_CONFIGURE", [("all", 406), ("ardupilotmega", 406), ("asluav", 406), ("avssuas", 406), ("common", 406), ("cubepilot", 406), ("development", 406), ("matrixpilot", 406), ("paparazzi", 406), ("pythonarraytest", 406), ("storm32", 406), ("ualberta", 406), ("uavionix", 406)]),
  ("MAV_CMD_DO_INVERTED_FLIGHT", [("all", 210), ("ardupilotmega", 210), ("asluav", 210), ("avssuas", 210), ("common", 210), ("cubepilot", 210), ("development", 210), ("matrixpilot", 210), ("paparazzi", 210), ("pythonarraytest", 210), ("storm32", 210), ("ualberta", 210), ("uavionix", 210)]),
  ("MAV_CMD_DO_JUMP", [("all", 177), ("ardupilotmega", 177), ("asluav", 177), ("avssuas", 177), ("common", 177), ("cubepilot", 177), ("development", 177), ("matrixpilot", 177), ("paparazzi", 177), ("pythonarraytest", 177), ("storm32", 177), ("ualberta", 177), ("uavionix", 177)]),
  ("MAV_CMD_DO_JUMP_TAG", [("all", 601), ("ardupilotmega", 601), ("asluav", 601), ("avssuas", 601), ("common", 601), ("cubepilot", 601), ("development", 601), ("matrixpilot", 601), ("paparazzi", 601), ("pythonarraytest", 601), ("storm32", 601), ("ualberta", 601), ("uavionix", 601)]),
  ("MAV_CMD_DO_LAND_START", [("all", 189), ("ardupilotmega", 189), ("asluav", 189), ("avssuas", 189), ("common", 189), ("cubepilot", 189), ("development", 189), ("matrixpilot", 189), ("paparazzi", 189), ("pythonarraytest", 189), ("storm32", 189), ("ualberta", 189), ("uavionix", 189)]),
  ("MAV_CMD_DO_LAST", [("all", 240), ("ardupilotmega", 240), ("asluav", 240), ("avssuas", 240), ("common", 240), ("cubepilot", 240), ("development", 240), ("matrixpilot", 240), ("paparazzi", 240), ("pythonarraytest", 240), ("storm32", 240), ("ualberta", 240), ("uavionix", 240)]),
  ("MAV_CMD_DO_MOTOR_TEST", [("all", 209), ("ardupilotmega", 209), ("asluav", 209), ("avssuas", 209), ("common", 209), ("cubepilot", 209), ("development", 209), ("matrixpilot", 209), ("paparazzi", 209), ("pythonarraytest", 209), ("storm32", 209), ("ualberta", 209), ("uavionix", 209)]),
  ("MAV_CMD_DO_MOUNT_CONFIGURE", [("all", 204), ("ardupilotmega", 204), ("asluav", 204), ("avssuas", 204), ("common", 204), ("cubepilot", 204), ("development", 204), ("matrixpilot", 204), ("paparazzi", 204), ("pythonarraytest", 204), ("storm32", 204), ("ualberta", 204), ("uavionix", 204)]),
  ("MAV_CMD_DO_MOUNT_CONTROL", [("all", 205), ("ardupilotmega", 205), ("asluav", 205), ("avssuas", 205), ("common", 205), ("cubepilot", 205), ("development", 205), ("matrixpilot", 205), ("paparazzi", 205), ("pythonarraytest", 205), ("storm32", 205), ("ualberta", 205), ("uavionix", 205)]),
  ("MAV_CMD_DO_MOUNT_CONTROL_QUAT", [("all", 220), ("ardupilotmega", 220), ("asluav", 220), ("avssuas", 220), ("common", 220), ("cubepilot", 220), ("development", 220), ("matrixpilot", 220), ("paparazzi", 220), ("pythonarraytest", 220), ("storm32", 220), ("ualberta", 220), ("uavionix", 220)]),
  ("MAV_CMD_DO_ORBIT", [("all", 34), ("ardupilotmega", 34), ("asluav", 34), ("avssuas", 34), ("common", 34), ("cubepilot", 34), ("development", 34), ("matrixpilot", 34), ("paparazzi", 34), ("pythonarraytest", 34), ("storm32", 34), ("ualberta", 34), ("uavionix", 34)])]
def constGroups_15 : List (String × List (String × Nat)) := [
  ("MAV_CMD_DO_PARACHUTE", [("all", 208), ("ardupilotmega", 208), ("asluav", 208), ("avssuas", 208), ("common", 208), ("cubepilot", 208), ("development", 208), ("matrixpilot", 208), ("paparazzi", 208), ("pythonarraytest", 208), ("storm32", 208), ("ualberta", 208), ("uavionix", 208)]),
  ("MAV_CMD_DO_PAUSE_CONTINUE", [("all", 193), ("ardupilotmega", 193), ("asluav", 193), ("avssuas", 193), ("common", 193), ("cubepilot", 193), ("development", 193), ("matrixpilot", 193), ("paparazzi", 193), ("pythonarraytest", 193), ("storm32", 193), ("ualberta", 193), ("uavionix", 193)]),
  ("MAV_CMD_DO_RALLY_LAND", [("all", 190), ("ardupilotmega", 190), ("asluav", 190), ("avssuas", 190), ("common", 190), ("cubepilot", 190), ("development", 190), ("matrixpilot", 190), ("paparazzi", 190), ("pythonarraytest", 190), ("storm32", 190), ("ualberta", 190), ("uavionix", 190)]),
  ("MAV_CMD_DO_REPEAT_RELAY", [("all", 182), ("ardupilotmega", 182), ("asluav", 182), ("avssuas", 182), ("common", 182), ("cubepilot", 182), ("development", 182), ("matrixpilot", 182), ("paparazzi", 182), ("pythonarraytest", 182), ("storm32", 182), ("ualberta", 182), ("uavionix", 182)]),
  ("MAV_CMD_DO_REPEAT_SERVO", [("all", 184), ("ardupilotmega", 184), ("asluav", 184), ("avssuas", 184), ("common", 184), ("cubepilot", 184), ("development", 184), ("matrixpilot", 184), ("paparazzi", 184), ("pythonarraytest", 184), ("storm32", 184), ("ualberta", 184), ("uavionix", 184)]),
  ("MAV_CMD_DO_REPOSITION", [("all", 192), ("ardupilotmega", 192), ("asluav", 192), ("avssuas", 192), ("common", 192), ("cubepilot", 192), ("development", 192), ("matrixpilot", 192), ("paparazzi", 192), ("pythonarraytest", 192), ("storm32", 192), ("ualberta", 192), ("uavionix", 192)]),
  ("MAV_CMD_DO_RETURN_PATH_START", [("all", 188), ("ardupilotmega", 188), ("asluav", 188), ("avssuas", 188), ("common", 188), ("cubepilot", 188), ("development", 188), ("matrixpilot", 188), ("paparazzi", 188), ("pythonarraytest", 188), ("storm32", 188), ("ualberta", 188), ("uavionix", 188)]),
  ("MAV_CMD_DO_SEND_BANNER", [("all", 42428), ("ardupilotmega", 42428), ("storm32", 42428)]),
  ("MAV_CMD_DO_SEND_SCRIPT_MESSAGE", [("all", 217), ("ardupilotmega", 217), ("storm32", 217)]),
  ("MAV_CMD_DO_SET_ACTUATOR", [("all", 187), ("ardupilotmega", 187), ("asluav", 187), ("avssuas", 187), ("common", 187), ("cubepilot", 187), ("development", 187), ("matrixpilot", 187), ("paparazzi", 187), ("pythonarraytest", 187), ("storm32", 187), ("ualberta", 187), ("uavionix", 187)]),
  ("MAV_CMD_DO_SET_CAM_TRIGG_DIST", [("all", 206), ("ardupilotmega", 206), ("asluav", 206), ("avssuas", 206), ("common", 206), ("cubepilot", 206), ("development", 206), ("matrixpilot", 206), ("paparazzi", 206), ("pythonarraytest", 206), ("storm32", 206), ("ualberta", 206), ("uavionix", 206)]),
  ("MAV_CMD_DO_SET_CAM_TRIGG_INTERVAL", [("all", 214), ("ardupilotmega", 214), ("asluav", 214), ("avssuas", 214), ("common", 214), ("cubepilot", 214), ("development", 214), ("matrixpilot", 214), ("paparazzi", 214), ("pythonarraytest", 214), ("storm32", 214), ("ualberta", 214), ("uavionix", 214)]),
  ("MAV_CMD_DO_SET_HOME", [("all", 179), ("ardupilotmega", 179), ("asluav", 179), ("avssuas", 179), ("common", 179), ("cubepilot", 179), ("development", 179), ("matrixpilot", 179), ("paparazzi", 179), ("pythonarraytest", 179), ("storm32", 179), ("ualberta", 179), ("uavionix", 179)]),
  ("MAV_CMD_DO_SET_MISSION_CURRENT", [("all", 224), ("ardupilotmega", 224), ("asluav", 224), ("avssuas", 224), ("common", 224), ("cubepilot", 224), ("development", 224), ("matrixpilot", 224), ("paparazzi", 224), ("pythonarraytest", 224), ("storm32", 224), ("ualberta", 224), ("uavionix", 224)]),
  ("MAV_CMD_DO_SET_MODE", [("all", 176), ("ardupilotmega", 176), ("asluav", 176), ("avssuas", 176), ("common", 176), ("cubepilot", 176), ("development", 176), ("matrixpilot", 176), ("paparazzi", 176), ("pythonarraytest", 176), ("storm32", 176), ("ualberta", 176), ("uavionix", 176)]),
  ("MAV_CMD_DO_SET_PARAMETER", [("all", 180), ("ardupilotmega", 180), ("asluav", 180), ("avssuas", 180), ("common", 180), ("cubepilot", 180), ("development", 180), ("matrixpilot", 180), ("paparazzi", 180), ("pythonarraytest", 180), ("storm32", 180), ("ualberta", 180), ("uavionix", 180)]),
  ("MAV_CMD_DO_SET_RELAY", [("all", 181), ("ardupilotmega", 181), ("asluav", 181), ("avssuas", 181), ("common", 181), ("cubepilot", 181), ("development", 181), ("matrixpilot", 181), ("paparazzi", 181), ("pythonarraytest", 181), ("storm32", 181), ("ualberta", 181), ("uavionix", 181)]),
  ("MAV_CMD_DO_SET_RESUME_REPEAT_DIST", [("all", 215), ("ardupilotmega", 215), ("storm32", 215)]),
  ("MAV_CMD_DO_SET_REVERSE", [("all", 194), ("ardupilotmega", 194), ("asluav", 194), ("avssuas", 194), ("common", 194), ("cubepilot", 194), ("development", 194), ("matrixpilot", 194), ("paparazzi", 194), ("pythonarraytest", 194), ("storm32", 194), ("ualberta", 194), ("uavionix", 194)]),
  ("MAV_CMD_DO_SET_ROI", [("all", 201), ("ardupilotmega", 201), ("asluav", 201), ("avssuas", 201), ("common", 201), ("cubepilot", 201), ("development", 201), ("matrixpilot", 201), ("paparazzi", 201), ("pythonarraytest", 201), ("storm32", 201), ("ualberta", 201), ("uavionix", 201)]),
  ("MAV_CMD_DO_SET_ROI_LOCATION", [("all", 195), ("ardupilotmega", 195), ("asluav", 195), ("avssuas", 195), ("common", 195), ("cubepilot", 195), ("development", 195), ("matrixpilot", 195), ("paparazzi", 195), ("pythonarraytest", 195), ("storm32", 195), ("ualberta", 195), ("uavionix", 195)]),
  ("MAV_CMD_DO_SET_ROI_NONE", [("all", 197), ("ardupilotmega", 197), ("asluav", 197), ("avssuas", 197), ("common", 197), ("cubepilot", 197), ("development", 197), ("matrixpilot", 197), ("paparazzi", 197), ("pythonarraytest", 197), ("storm32", 197), ("ualberta", 197), ("uavionix", 197)]),
  ("MAV_CMD_DO_SET_ROI_SYSID", [("all", 198), ("ardupilotmega", 198), ("asluav", 198), ("avssuas", 198), ("common", 198), ("cubepilot", 198), ("development", 198), ("matrixpilot", 198), ("paparazzi", 198), ("pythonarraytest", 198), ("storm32", 198), ("ualberta", 198), ("uavionix", 198)]),
  ("MAV_CMD_DO_SET_ROI_WPNEXT_OFFSET", [("all", 196), ("ardupilotmega", 196), ("asluav", 196), ("avssuas", 196), ("common", 196), ("cubepilot", 196), ("development", 196), ("matrixpilot", 196), ("paparazzi", 196), ("pythonarraytest", 196), ("storm32", 196), ("ualberta", 196), ("uavionix", 196)]),
  ("MAV_CMD_DO_SET_SAFETY_SWITCH_STATE", [("all", 5300), ("ardupilotmega", 5300), ("asluav", 5300), ("avssuas", 5300), ("common", 5300), ("cubepilot", 5300), ("development", 5300), ("matrixpilot", 5300), ("paparazzi", 5300), ("pythonarraytest", 5300), ("storm32", 5300), ("ualberta", 5300), ("uavionix", 5300)]),
  ("MAV_CMD_DO_SET_SERVO", [("all", 183), ("ardupilotmega", 183), ("asluav", 183), ("avssuas", 183), ("common", 183), ("cubepilot", 183), ("development", 183), ("matrixpilot", 183), ("paparazzi", 183), ("pythonarraytest", 183), ("storm32", 183), ("ualberta", 183), ("uavionix", 183)]),
  ("MAV_CMD_DO_SET_STANDARD_MODE", [("all", 262), ("ardupilotmega", 262), ("asluav", 262), ("avssuas", 262), ("common", 262), ("cubepilot", 262), ("development", 262), ("matrixpilot", 262), ("paparazzi", 262), ("pythonarraytest", 262), ("storm32", 262), ("ualberta", 262), ("uavionix", 262)]),
  ("MAV_CMD_DO_SET_SYS_CMP_ID", [("all", 610), ("development", 610)]),
  ("MAV_CMD_DO_SPRAYER", [("all", 216), ("ardupilotmega", 216), ("storm32", 216)]),
  ("MAV_CMD_DO_START_MAG_CAL", [("all", 42424), ("ardupilotmega", 42424), ("storm32", 42424)]),
  ("MAV_CMD_DO_TRIGGER_CONTROL", [("all", 2003), ("ardupilotmega", 2003), ("asluav", 2003), ("avssuas", 2003), ("common", 2003), ("cubepilot", 2003), ("development", 2003), ("matrixpilot", 2003), ("paparazzi", 2003), ("pythonarraytest", 2003), ("storm32", 2003), ("ualberta", 2003), ("uavionix", 2003)]),
  ("MAV_CMD_DO_UPGRADE", [("all", 247), ("development", 247)]),
  ("MAV_CMD_DO_VTOL_TRANSITION", [("all", 3000), ("ardupilotmega", 3000), ("asluav", 3000), ("avssuas", 3000), ("common", 3000), ("cubepilot", 3000), ("development", 3000), ("matrixpilot", 3000), ("paparazzi", 3000), ("pythonarraytest", 3000), ("storm32", 3000), ("ualberta", 3000), ("uavionix", 3000)]),
  ("MAV_CMD_DO_WINCH", [("all", 42600), ("ardupilotmega", 42600), ("asluav", 42600), ("avssuas", 42600), ("common", 42600), ("cubepilot", 42600), ("development", 42600), ("matrixpilot", 42600), ("paparazzi", 42600), ("pythonarraytest", 42600), ("storm32", 42600), ("ualberta", 42600), ("uavionix", 42600)]),
  ("MAV_CMD_EXTERNAL_POSITION_ESTIMATE", [("all", 43003), ("ardupilotmega", 43003), ("asluav", 43003), ("avssuas", 43003), ("common", 43003), ("cubepilot", 43003), ("development", 43003), ("matrixpilot", 43003), ("paparazzi", 43003), ("pythonarraytest", 43003), ("storm32", 43003), ("ualberta", 43003), ("uavionix", 43003)]),
  ("MAV_CMD_EXTERNAL_WIND_ESTIMATE", [("all", 43004), ("development", 43004)]),
  ("MAV_CMD_FIXED_MAG_CAL", [("all", 42004), ("ardupilotmega", 42004), ("storm32", 42004)]),
  ("MAV_CMD_FIXED_MAG_CAL_FIELD", [("all", 42005), ("ardupilotmega", 42005), ("storm32", 42005)]),
  ("MAV_CMD_FIXED_MAG_CAL_YAW", [("all", 42006), ("ardupilotmega", 42006), ("asluav", 42006), ("avssuas", 42006), ("common", 42006), ("cubepilot", 42006), ("development", 42006), ("matrixpilot", 42006), ("paparazzi", 42006), ("pythonarraytest", 42006), ("storm32", 42006), ("ualberta", 42006), ("uavionix", 42006)]),
  ("MAV_CMD_FLASH_BOOTLOADER", [("all", 42650), ("ardupilotmega", 42650), ("storm32", 42650)]),
  ("MAV_CMD_GET_HOME_POSITION", [("all", 410), ("ardupilotmega", 410), ("asluav", 410), ("avssuas", 410), ("common", 410), ("cubepilot", 410), ("development", 410), ("matrixpilot", 410), ("paparazzi", 410), ("pythonarraytest", 410), ("storm32", 410), ("ualberta", 410), ("uavionix", 410)]),
  ("MAV_CMD_GET_MESSAGE_INTERVAL", [("all", 510), ("ardupilotmega", 510), ("asluav", 510), ("avssuas", 510), ("common", 510), ("cubepilot", 510), ("development", 510), ("matrixpilot", 510), ("paparazzi", 510), ("pythonarraytest", 510), ("storm32", 510), ("ualberta", 510), ("uavionix", 510)]),
  ("MAV_CMD_GIMBAL_AXIS_CALIBRATION_STATUS", [("all", 42502), ("ardupilotmega", 42502), ("storm32", 42502)]),
  ("MAV_CMD_GIMBAL_FULL_RESET", [("all", 42505), ("ardupilotmega", 42505), ("storm32", 42505)]),
  ("MAV_CMD_GIMBAL_REQUEST_AXIS_CALIBRATION", [("all", 42503), ("ardupilotmega", 42503), ("storm32", 42503)]),
  ("MAV_CMD_GIMBAL_RESET", [("all", 42501), ("ardupilotmega", 42501), ("storm32", 42501)]),
  ("MAV_CMD_GUIDED_CHANGE_ALTITUDE", [("all", 43001), ("ardupilotmega", 43001), ("storm32", 43001)]),
  ("MAV_CMD_GUIDED_CHANGE_HEADING", [("all", 43002), ("ardupilotmega", 43002), ("storm32", 43002)]),
  ("MAV_CMD_GUIDED_CHANGE_SPEED", [("all", 43000), ("ardupilotmega", 43000), ("storm32", 43000)]),
  ("MAV_CMD_ILLUMINATOR_ON_OFF", [("all", 405), ("ardupilotmega", 405), ("asluav", 405), ("avssuas", 405), ("common", 405), ("cubepilot", 405), ("development", 405), ("matrixpilot", 405), ("paparazzi", 405), ("pythonarraytest", 405), ("storm32", 405), ("ualberta", 405), ("uavionix", 405)]),
  ("MAV_CMD_IMAGE_START_CAPTURE", [("all", 2000), ("ardupilotmega", 2000), ("asluav", 2000), ("avssuas", 2000), ("common", 2000), ("cubepilot", 2000), ("development", 2000), ("matrixpilot", 2000), ("paparazzi", 2000), ("pythonarraytest", 2000), ("storm32", 2000), ("ualberta", 2000), ("uavionix", 2000)]),
  ("MAV_CMD_IMAGE_STOP_CAPTURE", [("all", 2001), ("ardupilotmega", 2001), ("asluav", 2001), ("avssuas", 2001), ("common", 2001), ("cubepilot", 2001), ("development", 2001), ("matrixpilot", 2001), ("paparazzi", 2001), ("pythonarraytest", 2001), ("storm32", 2001), ("ualberta", 2001), ("uavionix", 2001)]),
  ("MAV_CMD_INJECT_FAILURE", [("all", 420), ("ardupilotmega", 420), ("asluav", 420), ("avssuas", 420), ("common", 420), ("cubepilot", 420), ("development", 420), ("matrixpilot", 420), ("paparazzi", 420), ("pythonarraytest", 420), ("storm32", 420), ("ualberta", 420), ("uavionix", 420)]),
  ("MAV_CMD_JUMP_TAG", [("all", 600), ("ardupilotmega", 600), ("asluav", 600), ("avssuas", 600), ("common", 600), ("cubepilot", 600), ("development", 600), ("matrixpilot", 600), ("paparazzi", 600), ("pythonarraytest", 600), ("storm32", 600), ("ualberta", 600), ("uavionix", 600)]),
  ("MAV_CMD_LOGGING_START", [("all", 2510), ("ardupilotmega", 2510), ("asluav", 2510), ("avssuas", 2510), ("common", 2510), ("cubepilot", 2510), ("development", 2510), ("matrixpilot", 2510), ("paparazzi", 2510), ("pythonarraytest", 2510), ("storm32", 2510), ("ualberta", 2510), ("uavionix", 2510)]),
  ("MAV_CMD_LOGGING_STOP", [("all", 2511), ("ardupilotmega", 2511), ("asluav", 2511), ("avssuas", 2511), ("common", 2511), ("cubepilot", 2511), ("development", 2511), ("matrixpilot", 2511), ("paparazzi", 2511), ("pythonarraytest", 2511), ("storm32", 2511), ("ualberta", 2511), ("uavionix", 2511)]),
  ("MAV_CMD_LOWEHEISER_SET_STATE", [("all", 10151), ("ardupilotmega", 10151), ("loweheiser", 10151), ("storm32", 10151)]),
  ("MAV_CMD_MISSION_START", [("all", 300), ("ardupilotmega", 300), ("asluav", 300), ("avssuas", 300), ("common", 300), ("cubepilot", 300), ("development", 300), ("matrixpilot", 300), ("paparazzi", 300), ("pythonarraytest", 300), ("storm32", 300), ("ualberta", 300), ("uavionix", 300)]),
  ("MAV_CMD_NAV_ALTITUDE_WAIT", [("all", 83), ("ardupilotmega", 83), ("storm32", 83)]),
  ("MAV_CMD_NAV_ATTITUDE_TIME", [("all", 42703), ("ardupilotmega", 42703), ("storm32", 42703)])]
def constGroups_16 : List (String × List (String × Nat)) := [
  ("MAV_CMD_NAV_CONTINUE_AND_CHANGE_ALT", [("all", 30), ("ardupilotmega", 30), ("asluav", 30), ("avssuas", 30), ("common", 30), ("cubepilot", 30), ("development", 30), ("matrixpilot", 30), ("paparazzi", 30), ("pythonarraytest", 30), ("storm32", 30), ("ualberta", 30), ("uavionix", 30)]),
  ("MAV_CMD_NAV_DELAY", [("all", 93), ("ardupilotmega", 93), ("asluav", 93), ("avssuas", 93), ("common", 93), ("cubepilot", 93), ("development", 93), ("matrixpilot", 93), ("paparazzi", 93), ("pythonarraytest", 93), ("storm32", 93), ("ualberta", 93), ("uavionix", 93)]),
  ("MAV_CMD_NAV_FENCE_CIRCLE_EXCLUSION", [("all", 5004), ("ardupilotmega", 5004), ("asluav", 5004), ("avssuas", 5004), ("common", 5004), ("cubepilot", 5004), ("development", 5004), ("matrixpilot", 5004), ("paparazzi", 5004), ("pythonarraytest", 5004), ("storm32", 5004), ("ualberta", 5004), ("uavionix", 5004)]),
  ("MAV_CMD_NAV_FENCE_CIRCLE_INCLUSION", [("all", 5003), ("ardupilotmega", 5003), ("asluav", 5003), ("avssuas", 5003), ("common", 5003), ("cubepilot", 5003), ("development", 5003), ("matrixpilot", 5003), ("paparazzi", 5003), ("pythonarraytest", 5003), ("storm32", 5003), ("ualberta", 5003), ("uavionix", 5003)]),
  ("MAV_CMD_NAV_FENCE_POLYGON_VERTEX_EXCLUSION", [("all", 5002), ("ardupilotmega", 5002), ("asluav", 5002), ("avssuas", 5002), ("common", 5002), ("cubepilot", 5002), ("development", 5002), ("matrixpilot", 5002), ("paparazzi", 5002), ("pythonarraytest", 5002), ("storm32", 5002), ("ualberta", 5002), ("uavionix", 5002)]),
  ("MAV_CMD_NAV_FENCE_POLYGON_VERTEX_INCLUSION", [("all", 5001), ("ardupilotmega", 5001), ("asluav", 5001), ("avssuas", 5001), ("common", 5001), ("cubepilot", 5001), ("development", 5001), ("matrixpilot", 5001), ("paparazzi", 5001), ("pythonarraytest", 5001), ("storm32", 5001), ("ualberta", 5001), ("uavionix", 5001)]),
  ("MAV_CMD_NAV_FENCE_RETURN_POINT", [("all", 5000), ("ardupilotmega", 5000), ("asluav", 5000), ("avssuas", 5000), ("common", 5000), ("cubepilot", 5000), ("development", 5000), ("matrixpilot", 5000), ("paparazzi", 5000), ("pythonarraytest", 5000), ("storm32", 5000), ("ualberta", 5000), ("uavionix", 5000)]),
  ("MAV_CMD_NAV_FOLLOW", [("all", 25), ("ardupilotmega", 25), ("asluav", 25), ("avssuas", 25), ("common", 25), ("cubepilot", 25), ("development", 25), ("matrixpilot", 25), ("paparazzi", 25), ("pythonarraytest", 25), ("storm32", 25), ("ualberta", 25), ("uavionix", 25)]),
  ("MAV_CMD_NAV_GUIDED_ENABLE", [("all", 92), ("ardupilotmega", 92), ("asluav", 92), ("avssuas", 92), ("common", 92), ("cubepilot", 92), ("development", 92), ("matrixpilot", 92), ("paparazzi", 92), ("pythonarraytest", 92), ("storm32", 92), ("ualberta", 92), ("uavionix", 92)]),
  ("MAV_CMD_NAV_LAND", [("all", 21), ("ardupilotmega", 21), ("asluav", 21), ("avssuas", 21), ("common", 21), ("cubepilot", 21), ("development", 21), ("matrixpilot", 21), ("paparazzi", 21), ("pythonarraytest", 21), ("storm32", 21), ("ualberta", 21), ("uavionix", 21)]),
  ("MAV_CMD_NAV_LAND_LOCAL", [("all", 23), ("ardupilotmega", 23), ("asluav", 23), ("avssuas", 23), ("common", 23), ("cubepilot", 23), ("development", 23), ("matrixpilot", 23), ("paparazzi", 23), ("pythonarraytest", 23), ("storm32", 23), ("ualberta", 23), ("uavionix", 23)]),
  ("MAV_CMD_NAV_LAST", [("all", 95), ("ardupilotmega", 95), ("asluav", 95), ("avssuas", 95), ("common", 95), ("cubepilot", 95), ("development", 95), ("matrixpilot", 95), ("paparazzi", 95), ("pythonarraytest", 95), ("storm32", 95), ("ualberta", 95), ("uavionix", 95)]),
  ("MAV_CMD_NAV_LOITER_TIME", [("all", 19), ("ardupilotmega", 19), ("asluav", 19), ("avssuas", 19), ("common", 19), ("cubepilot", 19), ("development", 19), ("matrixpilot", 19), ("paparazzi", 19), ("pythonarraytest", 19), ("storm32", 19), ("ualberta", 19), ("uavionix", 19)]),
  ("MAV_CMD_NAV_LOITER_TO_ALT", [("all", 31), ("ardupilotmega", 31), ("asluav", 31), ("avssuas", 31), ("common", 31), ("cubepilot", 31), ("development", 31), ("matrixpilot", 31), ("paparazzi", 31), ("pythonarraytest", 31), ("storm32", 31), ("ualberta", 31), ("uavionix", 31)]),
  ("MAV_CMD_NAV_LOITER_TURNS", [("all", 18), ("ardupilotmega", 18), ("asluav", 18), ("avssuas", 18), ("common", 18), ("cubepilot", 18), ("development", 18), ("matrixpilot", 18), ("paparazzi", 18), ("pythonarraytest", 18), ("storm32", 18), ("ualberta", 18), ("uavionix", 18)]),
  ("MAV_CMD_NAV_LOITER_UNLIM", [("all", 17), ("ardupilotmega", 17), ("asluav", 17), ("avssuas", 17), ("common", 17), ("cubepilot", 17), ("development", 17), ("matrixpilot", 17), ("paparazzi", 17), ("pythonarraytest", 17), ("storm32", 17), ("ualberta", 17), ("uavionix", 17)]),
  ("MAV_CMD_NAV_PATHPLANNING", [("all", 81), ("ardupilotmega", 81), ("asluav", 81), ("avssuas", 81), ("common", 81), ("cubepilot", 81), ("development", 81), ("matrixpilot", 81), ("paparazzi", 81), ("pythonarraytest", 81), ("storm32", 81), ("ualberta", 81), ("uavionix", 81)]),
  ("MAV_CMD_NAV_PAYLOAD_PLACE", [("all", 94), ("ardupilotmega", 94), ("asluav", 94), ("avssuas", 94), ("common", 94), ("cubepilot", 94), ("development", 94), ("matrixpilot", 94), ("paparazzi", 94), ("pythonarraytest", 94), ("storm32", 94), ("ualberta", 94), ("uavionix", 94)]),
  ("MAV_CMD_NAV_RALLY_POINT", [("all", 5100), ("ardupilotmega", 5100), ("asluav", 5100), ("avssuas", 5100), ("common", 5100), ("cubepilot", 5100), ("development", 5100), ("matrixpilot", 5100), ("paparazzi", 5100), ("pythonarraytest", 5100), ("storm32", 5100), ("ualberta", 5100), ("uavionix", 5100)]),
  ("MAV_CMD_NAV_RETURN_TO_LAUNCH", [("all", 20), ("ardupilotmega", 20), ("asluav", 20), ("avssuas", 20), ("common", 20), ("cubepilot", 20), ("development", 20), ("matrixpilot", 20), ("paparazzi", 20), ("pythonarraytest", 20), ("storm32", 20), ("ualberta", 20), ("uavionix", 20)]),
  ("MAV_CMD_NAV_ROI", [("all", 80), ("ardupilotmega", 80), ("asluav", 80), ("avssuas", 80), ("common", 80), ("cubepilot", 80), ("development", 80), ("matrixpilot", 80), ("paparazzi", 80), ("pythonarraytest", 80), ("storm32", 80), ("ualberta", 80), ("uavionix", 80)]),
  ("MAV_CMD_NAV_SCRIPT_TIME", [("all", 42702), ("ardupilotmega", 42702), ("storm32", 42702)]),
  ("MAV_CMD_NAV_SET_YAW_SPEED", [("all", 213), ("ardupilotmega", 213), ("asluav", 213), ("avssuas", 213), ("common", 213), ("cubepilot", 213), ("development", 213), ("matrixpilot", 213), ("paparazzi", 213), ("pythonarraytest", 213), ("storm32", 213), ("ualberta", 213), ("uavionix", 213)]),
  ("MAV_CMD_NAV_SPLINE_WAYPOINT", [("all", 82), ("ardupilotmega", 82), ("asluav", 82), ("avssuas", 82), ("common", 82), ("cubepilot", 82), ("development", 82), ("matrixpilot", 82), ("paparazzi", 82), ("pythonarraytest", 82), ("storm32", 82), ("ualberta", 82), ("uavionix", 82)]),
  ("MAV_CMD_NAV_TAKEOFF", [("all", 22), ("ardupilotmega", 22), ("asluav", 22), ("avssuas", 22), ("common", 22), ("cubepilot", 22), ("development", 22), ("matrixpilot", 22), ("paparazzi", 22), ("pythonarraytest", 22), ("storm32", 22), ("ualberta", 22), ("uavionix", 22)]),
  ("MAV_CMD_NAV_TAKEOFF_LOCAL", [("all", 24), ("ardupilotmega", 24), ("asluav", 24), ("avssuas", 24), ("common", 24), ("cubepilot", 24), ("development", 24), ("matrixpilot", 24), ("paparazzi", 24), ("pythonarraytest", 24), ("storm32", 24), ("ualberta", 24), ("uavionix", 24)]),
  ("MAV_CMD_NAV_VTOL_LAND", [("all", 85), ("ardupilotmega", 85), ("asluav", 85), ("avssuas", 85), ("common", 85), ("cubepilot", 85), ("development", 85), ("matrixpilot", 85), ("paparazzi", 85), ("pythonarraytest", 85), ("storm32", 85), ("ualberta", 85), ("uavionix", 85)]),
  ("MAV_CMD_NAV_VTOL_TAKEOFF", [("all", 84), ("ardupilotmega", 84), ("asluav", 84), ("avssuas", 84), ("common", 84), ("cubepilot", 84), ("development", 84), ("matrixpilot", 84), ("paparazzi", 84), ("pythonarraytest", 84), ("storm32", 84), ("ualberta", 84), ("uavionix", 84)]),
  ("MAV_CMD_NAV_WAYPOINT", [("all", 16), ("ardupilotmega", 16), ("asluav", 16), ("avssuas", 16), ("common", 16), ("cubepilot", 16), ("development", 16), ("matrixpilot", 16), ("paparazzi", 16), ("pythonarraytest", 16), ("storm32", 16), ("ualberta", 16), ("uavionix", 16)]),
  ("MAV_CMD_OBLIQUE_SURVEY", [("all", 260), ("ardupilotmega", 260), ("asluav", 260), ("avssuas", 260), ("common", 260), ("cubepilot", 260), ("development", 260), ("matrixpilot", 260), ("paparazzi", 260), ("pythonarraytest", 260), ("storm32", 260), ("ualberta", 260), ("uavionix", 260)]),
  ("MAV_CMD_ODID_SET_EMERGENCY", [("all", 12900), ("development", 12900)]),
  ("MAV_CMD_OVERRIDE_GOTO", [("all", 252), ("ardupilotmega", 252), ("asluav", 252), ("avssuas", 252), ("common", 252), ("cubepilot", 252), ("development", 252), ("matrixpilot", 252), ("paparazzi", 252), ("pythonarraytest", 252), ("storm32", 252), ("ualberta", 252), ("uavionix", 252)]),
  ("MAV_CMD_PANORAMA_CREATE", [("all", 2800), ("ardupilotmega", 2800), ("asluav", 2800), ("avssuas", 2800), ("common", 2800), ("cubepilot", 2800), ("development", 2800), ("matrixpilot", 2800), ("paparazzi", 2800), ("pythonarraytest", 2800), ("storm32", 2800), ("ualberta", 2800), ("uavionix", 2800)]),
  ("MAV_CMD_PAYLOAD_CONTROL", [("all", 40002), ("asluav", 40002)]),
  ("MAV_CMD_PAYLOAD_CONTROL_DEPLOY", [("all", 30002), ("ardupilotmega", 30002), ("asluav", 30002), ("avssuas", 30002), ("common", 30002), ("cubepilot", 30002), ("development", 30002), ("matrixpilot", 30002), ("paparazzi", 30002), ("pythonarraytest", 30002), ("storm32", 30002), ("ualberta", 30002), ("uavionix", 30002)]),
  ("MAV_CMD_PAYLOAD_PREPARE_DEPLOY", [("all", 30001), ("ardupilotmega", 30001), ("asluav", 30001), ("avssuas", 30001), ("common", 30001), ("cubepilot", 30001), ("development", 30001), ("matrixpilot", 30001), ("paparazzi", 30001), ("pythonarraytest", 30001), ("storm32", 30001), ("ualberta", 30001), ("uavionix", 30001)]),
  ("MAV_CMD_POWER_OFF_INITIATED", [("all", 42000), ("ardupilotmega", 42000), ("storm32", 42000)]),
  ("MAV_CMD_PREFLIGHT_CALIBRATION", [("all", 241), ("ardupilotmega", 241), ("asluav", 241), ("avssuas", 241), ("common", 241), ("cubepilot", 241), ("development", 241), ("matrixpilot", 241), ("paparazzi", 241), ("pythonarraytest", 241), ("storm32", 241), ("ualberta", 241), ("uavionix", 241)]),
  ("MAV_CMD_PREFLIGHT_REBOOT_SHUTDOWN", [("all", 246), ("ardupilotmega", 246), ("asluav", 246), ("avssuas", 246), ("common", 246), ("cubepilot", 246), ("development", 246), ("matrixpilot", 246), ("paparazzi", 246), ("pythonarraytest", 246), ("storm32", 246), ("ualberta", 246), ("uavionix", 246)]),
  ("MAV_CMD_PREFLIGHT_SET_SENSOR_OFFSETS", [("all", 242), ("ardupilotmega", 242), ("asluav", 242), ("avssuas", 242), ("common", 242), ("cubepilot", 242), ("development", 242), ("matrixpilot", 242), ("paparazzi", 242), ("pythonarraytest", 242), ("storm32", 242), ("ualberta", 242), ("uavionix", 242)]),
  ("MAV_CMD_PREFLIGHT_STORAGE", [("all", 245), ("ardupilotmega", 245), ("asluav", 245), ("avssuas", 245), ("common", 245), ("cubepilot", 245), ("development", 245), ("matrixpilot", 245), ("paparazzi", 245), ("pythonarraytest", 245), ("storm32", 245), ("ualberta", 245), ("uavionix", 245)]),
  ("MAV_CMD_PREFLIGHT_STORAGE_ADVANCED", [("matrixpilot", 0)]),
  ("MAV_CMD_PREFLIGHT_UAVCAN", [("all", 243), ("ardupilotmega", 243), ("asluav", 243), ("avssuas", 243), ("common", 243), ("cubepilot", 243), ("development", 243), ("matrixpilot", 243), ("paparazzi", 243), ("pythonarraytest", 243), ("storm32", 243), ("ualberta", 243), ("uavionix", 243)]),
  ("MAV_CMD_PRS_GET_ARM", [("all", 60051), ("avssuas", 60051)]),
  ("MAV_CMD_PRS_GET_ARM_ALTI", [("all", 60071), ("avssuas", 60071)]),
  ("MAV_CMD_PRS_GET_BATTERY", [("all", 60052), ("avssuas", 60052)]),
  ("MAV_CMD_PRS_GET_ERR", [("all", 60053), ("avssuas", 60053)]),
  ("MAV_CMD_PRS_SET_ARM", [("all", 60050), ("avssuas", 60050)]),
  ("MAV_CMD_PRS_SET_ARM_ALTI", [("all", 60070), ("avssuas", 60070)]),
  ("MAV_CMD_PRS_SHUTDOWN", [("all", 60072), ("avssuas", 60072)]),
  ("MAV_CMD_QSHOT_DO_CONFIGURE", [("all", 60020), ("storm32", 60020)]),
  ("MAV_CMD_REQUEST_AUTOPILOT_CAPABILITIES", [("all", 520), ("ardupilotmega", 520), ("asluav", 520), ("avssuas", 520), ("common", 520), ("cubepilot", 520), ("development", 520), ("matrixpilot", 520), ("paparazzi", 520), ("pythonarraytest", 520), ("storm32", 520), ("ualberta", 520), ("uavionix", 520)]),
  ("MAV_CMD_REQUEST_CAMERA_CAPTURE_STATUS", [("all", 527), ("ardupilotmega", 527), ("asluav", 527), ("avssuas", 527), ("common", 527), ("cubepilot", 527), ("development", 527), ("matrixpilot", 527), ("paparazzi", 527), ("pythonarraytest", 527), ("storm32", 527), ("ualberta", 527), ("uavionix", 527)]),
  ("MAV_CMD_REQUEST_CAMERA_IMAGE_CAPTURE", [("all", 2002), ("ardupilotmega", 2002), ("asluav", 2002), ("avssuas", 2002), ("common", 2002), ("cubepilot", 2002), ("development", 2002), ("matrixpilot", 2002), ("paparazzi", 2002), ("pythonarraytest", 2002), ("storm32", 2002), ("ualberta", 2002), ("uavionix", 2002)]),
  ("MAV_CMD_REQUEST_CAMERA_INFORMATION", [("all", 521), ("ardupilotmega", 521), ("asluav", 521), ("avssuas", 521), ("common", 521), ("cubepilot", 521), ("development", 521), ("matrixpilot", 521), ("paparazzi", 521), ("pythonarraytest", 521), ("storm32", 521), ("ualberta", 521), ("uavionix", 521)]),
  ("MAV_CMD_REQUEST_CAMERA_SETTINGS", [("all", 522), ("ardupilotmega", 522), ("asluav", 522), ("avssuas", 522), ("common", 522), ("cubepilot", 522), ("development", 522), ("matrixpilot", 522), ("paparazzi", 522), ("pythonarraytest", 522), ("storm32", 522), ("ualberta", 522), ("uavionix", 522)]),
  ("MAV_CMD_REQUEST_FLIGHT_INFORMATION", [("all", 528), ("ardupilotmega", 528), ("asluav", 528), ("avssuas", 528), ("common", 528), ("cubepilot", 528), ("development", 528), ("matrixpilot", 528), ("paparazzi", 528), ("pythonarraytest", 528), ("storm32", 528), ("ualberta", 528), ("uavionix", 528)]),
  ("MAV_CMD_REQUEST_MESSAGE", [("all", 512), ("ardupilotmega", 512), ("asluav", 512), ("avssuas", 512), ("common", 512), ("cubepilot", 512), ("development", 512), ("matrixpilot", 512), ("paparazzi", 512), ("pythonarraytest", 512), ("storm32", 512), ("ualberta", 512), ("uavionix", 512)]),
  ("MAV_CMD_REQUEST_OPERATOR_CONTROL", [("all", 32100), ("development", 32100)]),
  ("MAV_CMD_REQUEST_PROTOCOL_VERSION", [("all", 519), ("ardupilotmega", 519), ("asluav", 519), ("avssuas", 519), ("common", 519), ("cubepilot", 519), ("development", 519), ("matrixpilot", 519), ("paparazzi", 519), ("pythonarraytest", 519), ("storm32", 519), ("ualberta", 519), ("uavionix", 519)])]
def constGroups_17 : List (String × List (String × Nat)) := [
  ("MAV_CMD_REQUEST_STORAGE_INFORMATION", [("all", 525), ("ardupilotmega", 525), ("asluav", 525), ("avssuas", 525), ("common", 525), ("cubepilot", 525), ("development", 525), ("matrixpilot", 525), ("paparazzi", 525), ("pythonarraytest", 525), ("storm32", 525), ("ualberta", 525), ("uavionix", 525)]),
  ("MAV_CMD_REQUEST_VIDEO_STREAM_INFORMATION", [("all", 2504), ("ardupilotmega", 2504), ("asluav", 2504), ("avssuas", 2504), ("common", 2504), ("cubepilot", 2504), ("development", 2504), ("matrixpilot", 2504), ("paparazzi", 2504), ("pythonarraytest", 2504), ("storm32", 2504), ("ualberta", 2504), ("uavionix", 2504)]),
  ("MAV_CMD_REQUEST_VIDEO_STREAM_STATUS", [("all", 2505), ("ardupilotmega", 2505), ("asluav", 2505), ("avssuas", 2505), ("common", 2505), ("cubepilot", 2505), ("development", 2505), ("matrixpilot", 2505), ("paparazzi", 2505), ("pythonarraytest", 2505), ("storm32", 2505), ("ualberta", 2505), ("uavionix", 2505)]),
  ("MAV_CMD_RESET_CAMERA_SETTINGS", [("all", 529), ("ardupilotmega", 529), ("asluav", 529), ("avssuas", 529), ("common", 529), ("cubepilot", 529), ("development", 529), ("matrixpilot", 529), ("paparazzi", 529), ("pythonarraytest", 529), ("storm32", 529), ("ualberta", 529), ("uavionix", 529)]),
  ("MAV_CMD_RESET_MPPT", [("all", 40001), ("asluav", 40001)]),
  ("MAV_CMD_RUN_PREARM_CHECKS", [("all", 401), ("ardupilotmega", 401), ("asluav", 401), ("avssuas", 401), ("common", 401), ("cubepilot", 401), ("development", 401), ("matrixpilot", 401), ("paparazzi", 401), ("pythonarraytest", 401), ("storm32", 401), ("ualberta", 401), ("uavionix", 401)]),
  ("MAV_CMD_SCRIPTING", [("all", 42701), ("ardupilotmega", 42701), ("storm32", 42701)]),
  ("MAV_CMD_SET_AT_S_PARAM", [("all", 550), ("development", 550)]),
  ("MAV_CMD_SET_CAMERA_FOCUS", [("all", 532), ("ardupilotmega", 532), ("asluav", 532), ("avssuas", 532), ("common", 532), ("cubepilot", 532), ("development", 532), ("matrixpilot", 532), ("paparazzi", 532), ("pythonarraytest", 532), ("storm32", 532), ("ualberta", 532), ("uavionix", 532)]),
  ("MAV_CMD_SET_CAMERA_MODE", [("all", 530), ("ardupilotmega", 530), ("asluav", 530), ("avssuas", 530), ("common", 530), ("cubepilot", 530), ("development", 530), ("matrixpilot", 530), ("paparazzi", 530), ("pythonarraytest", 530), ("storm32", 530), ("ualberta", 530), ("uavionix", 530)]),
  ("MAV_CMD_SET_CAMERA_SOURCE", [("all", 534), ("ardupilotmega", 534), ("asluav", 534), ("avssuas", 534), ("common", 534), ("cubepilot", 534), ("development", 534), ("matrixpilot", 534), ("paparazzi", 534), ("pythonarraytest", 534), ("storm32", 534), ("ualberta", 534), ("uavionix", 534)]),
  ("MAV_CMD_SET_CAMERA_ZOOM", [("all", 531), ("ardupilotmega", 531), ("asluav", 531), ("avssuas", 531), ("common", 531), ("cubepilot", 531), ("development", 531), ("matrixpilot", 531), ("paparazzi", 531), ("pythonarraytest", 531), ("storm32", 531), ("ualberta", 531), ("uavionix", 531)]),
  ("MAV_CMD_SET_EKF_SOURCE_SET", [("all", 42007), ("ardupilotmega", 42007), ("storm32", 42007)]),
  ("MAV_CMD_SET_FACTORY_TEST_MODE", [("all", 42427), ("ardupilotmega", 42427), ("storm32", 42427)]),
  ("MAV_CMD_SET_GUIDED_SUBMODE_CIRCLE", [("all", 4001), ("ardupilotmega", 4001), ("asluav", 4001), ("avssuas", 4001), ("common", 4001), ("cubepilot", 4001), ("development", 4001), ("matrixpilot", 4001), ("paparazzi", 4001), ("pythonarraytest", 4001), ("storm32", 4001), ("ualberta", 4001), ("uavionix", 4001)]),
  ("MAV_CMD_SET_GUIDED_SUBMODE_STANDARD", [("all", 4000), ("ardupilotmega", 4000), ("asluav", 4000), ("avssuas", 4000), ("common", 4000), ("cubepilot", 4000), ("development", 4000), ("matrixpilot", 4000), ("paparazzi", 4000), ("pythonarraytest", 4000), ("storm32", 4000), ("ualberta", 4000), ("uavionix", 4000)]),
  ("MAV_CMD_SET_HAGL", [("all", 43005), ("ardupilotmega", 43005), ("storm32", 43005)]),
  ("MAV_CMD_SET_MESSAGE_INTERVAL", [("all", 511), ("ardupilotmega", 511), ("asluav", 511), ("avssuas", 511), ("common", 511), ("cubepilot", 511), ("development", 511), ("matrixpilot", 511), ("paparazzi", 511), ("pythonarraytest", 511), ("storm32", 511), ("ualberta", 511), ("uavionix", 511)]),
  ("MAV_CMD_SET_STORAGE_USAGE", [("all", 533), ("ardupilotmega", 533), ("asluav", 533), ("avssuas", 533), ("common", 533), ("cubepilot", 533), ("development", 533), ("matrixpilot", 533), ("paparazzi", 533), ("pythonarraytest", 533), ("storm32", 533), ("ualberta", 533), ("uavionix", 533)]),
  ("MAV_CMD_SOLO_BTN_FLY_CLICK", [("all", 42001), ("ardupilotmega", 42001), ("storm32", 42001)]),
  ("MAV_CMD_SOLO_BTN_FLY_HOLD", [("all", 42002), ("ardupilotmega", 42002), ("storm32", 42002)]),
  ("MAV_CMD_SOLO_BTN_PAUSE_CLICK", [("all", 42003), ("ardupilotmega", 42003), ("storm32", 42003)]),
  ("MAV_CMD_SPATIAL_USER_1", [("all", 31005), ("ardupilotmega", 31005), ("asluav", 31005), ("avssuas", 31005), ("common", 31005), ("cubepilot", 31005), ("development", 31005), ("matrixpilot", 31005), ("paparazzi", 31005), ("pythonarraytest", 31005), ("storm32", 31005), ("ualberta", 31005), ("uavionix", 31005)]),
  ("MAV_CMD_SPATIAL_USER_2", [("all", 31006), ("ardupilotmega", 31006), ("asluav", 31006), ("avssuas", 31006), ("common", 31006), ("cubepilot", 31006), ("development", 31006), ("matrixpilot", 31006), ("paparazzi", 31006), ("pythonarraytest", 31006), ("storm32", 31006), ("ualberta", 31006), ("uavionix", 31006)]),
  ("MAV_CMD_SPATIAL_USER_3", [("all", 31007), ("ardupilotmega", 31007), ("asluav", 31007), ("avssuas", 31007), ("common", 31007), ("cubepilot", 31007), ("development", 31007), ("matrixpilot", 31007), ("paparazzi", 31007), ("pythonarraytest", 31007), ("storm32", 31007), ("ualberta", 31007), ("uavionix", 31007)]),
  ("MAV_CMD_SPATIAL_USER_4", [("all", 31008), ("ardupilotmega", 31008), ("asluav", 31008), ("avssuas", 31008), ("common", 31008), ("cubepilot", 31008), ("development", 31008), ("matrixpilot", 31008), ("paparazzi", 31008), ("pythonarraytest", 31008), ("storm32", 31008), ("ualberta", 31008), ("uavionix", 31008)]),
  ("MAV_CMD_SPATIAL_USER_5", [("all", 31009), ("ardupilotmega", 31009), ("asluav", 31009), ("avssuas", 31009), ("common", 31009), ("cubepilot", 31009), ("development", 31009), ("matrixpilot", 31009), ("paparazzi", 31009), ("pythonarraytest", 31009), ("storm32", 31009), ("ualberta", 31009), ("uavionix", 31009)]),
  ("MAV_CMD_START_RX_PAIR", [("all", 500), ("ardupilotmega", 500), ("asluav", 500), ("avssuas", 500), ("common", 500), ("cubepilot", 500), ("development", 500), ("matrixpilot", 500), ("paparazzi", 500), ("pythonarraytest", 500), ("storm32", 500), ("ualberta", 500), ("uavionix", 500)]),
  ("MAV_CMD_STORAGE_FORMAT", [("all", 526), ("ardupilotmega", 526), ("asluav", 526), ("avssuas", 526), ("common", 526), ("cubepilot", 526), ("development", 526), ("matrixpilot", 526), ("paparazzi", 526), ("pythonarraytest", 526), ("storm32", 526), ("ualberta", 526), ("uavionix", 526)]),
  ("MAV_CMD_STORM32_DO_GIMBAL_MANAGER_CONTROL_PITCHYAW", [("all", 60002), ("storm32", 60002)]),
  ("MAV_CMD_STORM32_DO_GIMBAL_MANAGER_SETUP", [("all", 60010), ("storm32", 60010)]),
  ("MAV_CMD_UAVCAN_GET_NODE_INFO", [("all", 5200), ("ardupilotmega", 5200), ("asluav", 5200), ("avssuas", 5200), ("common", 5200), ("cubepilot", 5200), ("development", 5200), ("matrixpilot", 5200), ("paparazzi", 5200), ("pythonarraytest", 5200), ("storm32", 5200), ("ualberta", 5200), ("uavionix", 5200)]),
  ("MAV_CMD_USER_1", [("all", 31010), ("ardupilotmega", 31010), ("asluav", 31010), ("avssuas", 31010), ("common", 31010), ("cubepilot", 31010), ("development", 31010), ("matrixpilot", 31010), ("paparazzi", 31010), ("pythonarraytest", 31010), ("storm32", 31010), ("ualberta", 31010), ("uavionix", 31010)]),
  ("MAV_CMD_USER_2", [("all", 31011), ("ardupilotmega", 31011), ("asluav", 31011), ("avssuas", 31011), ("common", 31011), ("cubepilot", 31011), ("development", 31011), ("matrixpilot", 31011), ("paparazzi", 31011), ("pythonarraytest", 31011), ("storm32", 31011), ("ualberta", 31011), ("uavionix", 31011)]),
  ("MAV_CMD_USER_3", [("all", 31012), ("ardupilotmega", 31012), ("asluav", 31012), ("avssuas", 31012), ("common", 31012), ("cubepilot", 31012), ("development", 31012), ("matrixpilot", 31012), ("paparazzi", 31012), ("pythonarraytest", 31012), ("storm32", 31012), ("ualberta", 31012), ("uavionix", 31012)]),
  ("MAV_CMD_USER_4", [("all", 31013), ("ardupilotmega", 31013), ("asluav", 31013), ("avssuas", 31013), ("common", 31013), ("cubepilot", 31013), ("development", 31013), ("matrixpilot", 31013), ("paparazzi", 31013), ("pythonarraytest", 31013), ("storm32", 31013), ("ualberta", 31013), ("uavionix", 31013)]),
  ("MAV_CMD_USER_5", [("all", 31014), ("ardupilotmega", 31014), ("asluav", 31014), ("avssuas", 31014), ("common", 31014), ("cubepilot", 31014), ("development", 31014), ("matrixpilot", 31014), ("paparazzi", 31014), ("pythonarraytest", 31014), ("storm32", 31014), ("ualberta", 31014), ("uavionix", 31014)]),
  ("MAV_CMD_VIDEO_START_CAPTURE", [("all", 2500), ("ardupilotmega", 2500), ("asluav", 2500), ("avssuas", 2500), ("common", 2500), ("cubepilot", 2500), ("development", 2500), ("matrixpilot", 2500), ("paparazzi", 2500), ("pythonarraytest", 2500), ("storm32", 2500), ("ualberta", 2500), ("uavionix", 2500)]),
  ("MAV_CMD_VIDEO_START_STREAMING", [("all", 2502), ("ardupilotmega", 2502), ("asluav", 2502), ("avssuas", 2502), ("common", 2502), ("cubepilot", 2502), ("development", 2502), ("matrixpilot", 2502), ("paparazzi", 2502), ("pythonarraytest", 2502), ("storm32", 2502), ("ualberta", 2502), ("uavionix", 2502)]),
  ("MAV_CMD_VIDEO_STOP_CAPTURE", [("all", 2501), ("ardupilotmega", 2501), ("asluav", 2501), ("avssuas", 2501), ("common", 2501), ("cubepilot", 2501), ("development", 2501), ("matrixpilot", 2501), ("paparazzi", 2501), ("pythonarraytest", 2501), ("storm32", 2501), ("ualberta", 2501), ("uavionix", 2501)]),
  ("MAV_CMD_VIDEO_STOP_STREAMING", [("all", 2503), ("ardupilotmega", 2503), ("asluav", 2503), ("avssuas", 2503), ("common", 2503), ("cubepilot", 2503), ("development", 2503), ("matrixpilot", 2503), ("paparazzi", 2503), ("pythonarraytest", 2503), ("storm32", 2503), ("ualberta", 2503), ("uavionix", 2503)]),
  ("MAV_CMD_WAYPOINT_USER_1", [("all", 31000), ("ardupilotmega", 31000), ("asluav", 31000), ("avssuas", 31000), ("common", 31000), ("cubepilot", 31000), ("development", 31000), ("matrixpilot", 31000), ("paparazzi", 31000), ("pythonarraytest", 31000), ("storm32", 31000), ("ualberta", 31000), ("uavionix", 31000)]),
  ("MAV_CMD_WAYPOINT_USER_2", [("all", 31001), ("ardupilotmega", 31001), ("asluav", 31001), ("avssuas", 31001), ("common", 31001), ("cubepilot", 31001), ("development", 31001), ("matrixpilot", 31001), ("paparazzi", 31001), ("pythonarraytest", 31001), ("storm32", 31001), ("ualberta", 31001), ("uavionix", 31001)]),
  ("MAV_CMD_WAYPOINT_USER_3", [("all", 31002), ("ardupilotmega", 31002), ("asluav", 31002), ("avssuas", 31002), ("common", 31002), ("cubepilot", 31002), ("development", 31002), ("matrixpilot", 31002), ("paparazzi", 31002), ("pythonarraytest", 31002), ("storm32", 31002), ("ualberta", 31002), ("uavionix", 31002)]),
  ("MAV_CMD_WAYPOINT_USER_4", [("all", 31003), ("ardupilotmega", 31003), ("asluav", 31003), ("avssuas", 31003), ("common", 31003), ("cubepilot", 31003), ("development", 31003), ("matrixpilot", 31003), ("paparazzi", 31003), ("pythonarraytest", 31003), ("storm32", 31003), ("ualberta", 31003), ("uavionix", 31003)]),
  ("MAV_CMD_WAYPOINT_USER_5", [("all", 31004), ("ardupilotmega", 31004), ("asluav", 31004), ("avssuas", 31004), ("common", 31004), ("cubepilot", 31004), ("development", 31004), ("matrixpilot", 31004), ("paparazzi", 31004), ("pythonarraytest", 31004), ("storm32", 31004), ("ualberta", 31004), ("uavionix", 31004)]),
  ("MAV_COLLISION_ACTION_ASCEND_OR_DESCEND", [("all", 2), ("ardupilotmega", 2), ("asluav", 2), ("avssuas", 2), ("common", 2), ("cubepilot", 2), ("development", 2), ("matrixpilot", 2), ("paparazzi", 2), ("pythonarraytest", 2), ("storm32", 2), ("ualberta", 2), ("uavionix", 2)]),
  ("MAV_COLLISION_ACTION_HOVER", [("all", 6), ("ardupilotmega", 6), ("asluav", 6), ("avssuas", 6), ("common", 6), ("cubepilot", 6), ("development", 6), ("matrixpilot", 6), ("paparazzi", 6), ("pythonarraytest", 6), ("storm32", 6), ("ualberta", 6), ("uavionix", 6)]),
  ("MAV_COLLISION_ACTION_MOVE_HORIZONTALLY", [("all", 3), ("ardupilotmega", 3), ("asluav", 3), ("avssuas", 3), ("common", 3), ("cubepilot", 3), ("development", 3), ("matrixpilot", 3), ("paparazzi", 3), ("pythonarraytest", 3), ("storm32", 3), ("ualberta", 3), ("uavionix", 3)]),
  ("MAV_COLLISION_ACTION_MOVE_PERPENDICULAR", [("all", 4), ("ardupilotmega", 4), ("asluav", 4), ("avssuas", 4), ("common", 4), ("cubepilot", 4), ("development", 4), ("matrixpilot", 4), ("paparazzi", 4), ("pythonarraytest", 4), ("storm32", 4), ("ualberta", 4), ("uavionix", 4)]),
  ("MAV_COLLISION_ACTION_NONE", [("all", 0), ("ardupilotmega", 0), ("asluav", 0), ("avssuas", 0), ("common", 0), ("cubepilot", 0), ("development", 0), ("matrixpilot", 0), ("paparazzi", 0), ("pythonarraytest", 0), ("storm32", 0), ("ualberta", 0), ("uavionix", 0)]),
  ("MAV_COLLISION_ACTION_REPORT", [("all", 1), ("ardupilotmega", 1), ("asluav", 1), ("avssuas", 1), ("common", 1), ("cubepilot", 1), ("development", 1), ("matrixpilot", 1), ("paparazzi", 1), ("pythonarraytest", 1), ("storm32", 1), ("ualberta", 1), ("uavionix", 1)]),
  ("MAV_COLLISION_ACTION_RTL", [("all", 5), ("ardupilotmega", 5), ("asluav", 5), ("avssuas", 5), ("common", 5), ("cubepilot", 5), ("development", 5), ("matrixpilot", 5), ("paparazzi", 5), ("pythonarraytest", 5), ("storm32", 5), ("ualberta", 5), ("uavionix", 5)]),
  ("MAV_COLLISION_SRC_ADSB", [("all", 0), ("ardupilotmega", 0), ("asluav", 0), ("avssuas", 0), ("common", 0), ("cubepilot", 0), ("development", 0), ("matrixpilot", 0), ("paparazzi", 0), ("pythonarraytest", 0), ("storm32", 0), ("ualberta", 0), ("uavionix", 0)]),
  ("MAV_COLLISION_SRC_MAVLINK_GPS_GLOBAL_INT", [("all", 1), ("ardupilotmega", 1), ("asluav", 1), ("avssuas", 1), ("common", 1), ("cubepilot", 1), ("development", 1), ("matrixpilot", 1), ("paparazzi", 1), ("pythonarraytest", 1), ("storm32", 1), ("ualberta", 1), ("uavionix", 1)]),
  ("MAV_COLLISION_THREAT_LEVEL_HIGH", [("all", 2), ("ardupilotmega", 2), ("asluav", 2), ("avssuas", 2), ("common", 2), ("cubepilot", 2), ("development", 2), ("matrixpilot", 2), ("paparazzi", 2), ("pythonarraytest", 2), ("storm32", 2), ("ualberta", 2), ("uavionix", 2)]),
  ("MAV_COLLISION_THREAT_LEVEL_LOW", [("all", 1), ("ardupilotmega", 1), ("asluav", 1), ("avssuas", 1), ("common", 1), ("cubepilot", 1), ("development", 1), ("matrixpilot", 1), ("paparazzi", 1), ("pythonarraytest", 1), ("storm32", 1), ("ualberta", 1), ("uavionix", 1)]),
  ("MAV_COLLISION_THREAT_LEVEL_NONE", [("all", 0), ("ardupilotmega", 0), ("asluav", 0), ("avssuas", 0), ("common", 0), ("cubepilot", 0), ("development", 0), ("matrixpilot", 0), ("paparazzi", 0), ("pythonarraytest", 0), ("storm32", 0), ("ualberta", 0), ("uavionix", 0)]),
  ("MAV_COMP_ID_ADSB", [("all", 156), ("ardupilotmega", 156), ("asluav", 156), ("avssuas", 156), ("common", 156), ("cubepilot", 156), ("development", 156), ("loweheiser", 156), ("matrixpilot", 156), ("minimal", 156), ("paparazzi", 156), ("pythonarraytest", 156), ("standard", 156), ("storm32", 156), ("ualberta", 156), ("uavionix", 156)]),
  ("MAV_COMP_ID_ALL", [("all", 0), ("ardupilotmega", 0), ("asluav", 0), ("avssuas", 0), ("common", 0), ("cubepilot", 0), ("development", 0), ("loweheiser", 0), ("matrixpilot", 0), ("minimal", 0), ("paparazzi", 0), ("pythonarraytest", 0), ("standard", 0), ("storm32", 0), ("ualberta", 0), ("uavionix", 0)])]
def constGroups_18 : List (String × List (String × Nat)) := [
  ("MAV_COMP_ID_AUTOPILOT1", [("all", 1), ("ardupilotmega", 1), ("asluav", 1), ("avssuas", 1), ("common", 1), ("cubepilot", 1), ("development", 1), ("loweheiser", 1), ("matrixpilot", 1), ("minimal", 1), ("paparazzi", 1), ("pythonarraytest", 1), ("standard", 1), ("storm32", 1), ("ualberta", 1), ("uavionix", 1)]),
  ("MAV_COMP_ID_BATTERY", [("all", 180), ("ardupilotmega", 180), ("asluav", 180), ("avssuas", 180), ("common", 180), ("cubepilot", 180), ("development", 180), ("loweheiser", 180), ("matrixpilot", 180), ("minimal", 180), ("paparazzi", 180), ("pythonarraytest", 180), ("standard", 180), ("storm32", 180), ("ualberta", 180), ("uavionix", 180)]),
  ("MAV_COMP_ID_BATTERY2", [("all", 181), ("ardupilotmega", 181), ("asluav", 181), ("avssuas", 181), ("common", 181), ("cubepilot", 181), ("development", 181), ("loweheiser", 181), ("matrixpilot", 181), ("minimal", 181), ("paparazzi", 181), ("pythonarraytest", 181), ("standard", 181), ("storm32", 181), ("ualberta", 181), ("uavionix", 181)]),
  ("MAV_COMP_ID_CAMERA", [("all", 100), ("ardupilotmega", 100), ("asluav", 100), ("avssuas", 100), ("common", 100), ("cubepilot", 100), ("development", 100), ("loweheiser", 100), ("matrixpilot", 100), ("minimal", 100), ("paparazzi", 100), ("pythonarraytest", 100), ("standard", 100), ("storm32", 100), ("ualberta", 100), ("uavionix", 100)]),
  ("MAV_COMP_ID_CAMERA2", [("all", 101), ("ardupilotmega", 101), ("asluav", 101), ("avssuas", 101), ("common", 101), ("cubepilot", 101), ("development", 101), ("loweheiser", 101), ("matrixpilot", 101), ("minimal", 101), ("paparazzi", 101), ("pythonarraytest", 101), ("standard", 101), ("storm32", 101), ("ualberta", 101), ("uavionix", 101)]),
  ("MAV_COMP_ID_CAMERA3", [("all", 102), ("ardupilotmega", 102), ("asluav", 102), ("avssuas", 102), ("common", 102), ("cubepilot", 102), ("development", 102), ("loweheiser", 102), ("matrixpilot", 102), ("minimal", 102), ("paparazzi", 102), ("pythonarraytest", 102), ("standard", 102), ("storm32", 102), ("ualberta", 102), ("uavionix", 102)]),
  ("MAV_COMP_ID_CAMERA4", [("all", 103), ("ardupilotmega", 103), ("asluav", 103), ("avssuas", 103), ("common", 103), ("cubepilot", 103), ("development", 103), ("loweheiser", 103), ("matrixpilot", 103), ("minimal", 103), ("paparazzi", 103), ("pythonarraytest", 103), ("standard", 103), ("storm32", 103), ("ualberta", 103), ("uavionix", 103)]),
  ("MAV_COMP_ID_CAMERA5", [("all", 104), ("ardupilotmega", 104), ("asluav", 104), ("avssuas", 104), ("common", 104), ("cubepilot", 104), ("development", 104), ("loweheiser", 104), ("matrixpilot", 104), ("minimal", 104), ("paparazzi", 104), ("pythonarraytest", 104), ("standard", 104), ("storm32", 104), ("ualberta", 104), ("uavionix", 104)]),
  ("MAV_COMP_ID_CAMERA6", [("all", 105), ("ardupilotmega", 105), ("asluav", 105), ("avssuas", 105), ("common", 105), ("cubepilot", 105), ("development", 105), ("loweheiser", 105), ("matrixpilot", 105), ("minimal", 105), ("paparazzi", 105), ("pythonarraytest", 105), ("standard", 105), ("storm32", 105), ("ualberta", 105), ("uavionix", 105)]),
  ("MAV_COMP_ID_FLARM", [("all", 160), ("ardupilotmega", 160), ("asluav", 160), ("avssuas", 160), ("common", 160), ("cubepilot", 160), ("development", 160), ("loweheiser", 160), ("matrixpilot", 160), ("minimal", 160), ("paparazzi", 160), ("pythonarraytest", 160), ("standard", 160), ("storm32", 160), ("ualberta", 160), ("uavionix", 160)]),
  ("MAV_COMP_ID_GIMBAL", [("all", 154), ("ardupilotmega", 154), ("asluav", 154), ("avssuas", 154), ("common", 154), ("cubepilot", 154), ("development", 154), ("loweheiser", 154), ("matrixpilot", 154), ("minimal", 154), ("paparazzi", 154), ("pythonarraytest", 154), ("standard", 154), ("storm32", 154), ("ualberta", 154), ("uavionix", 154)]),
  ("MAV_COMP_ID_GIMBAL2", [("all", 171), ("ardupilotmega", 171), ("asluav", 171), ("avssuas", 171), ("common", 171), ("cubepilot", 171), ("development", 171), ("loweheiser", 171), ("matrixpilot", 171), ("minimal", 171), ("paparazzi", 171), ("pythonarraytest", 171), ("standard", 171), ("storm32", 171), ("ualberta", 171), ("uavionix", 171)]),
  ("MAV_COMP_ID_GIMBAL3", [("all", 172), ("ardupilotmega", 172), ("asluav", 172), ("avssuas", 172), ("common", 172), ("cubepilot", 172), ("development", 172), ("loweheiser", 172), ("matrixpilot", 172), ("minimal", 172), ("paparazzi", 172), ("pythonarraytest", 172), ("standard", 172), ("storm32", 172), ("ualberta", 172), ("uavionix", 172)]),
  ("MAV_COMP_ID_GIMBAL4", [("all", 173), ("ardupilotmega", 173), ("asluav", 173), ("avssuas", 173), ("common", 173), ("cubepilot", 173), ("development", 173), ("loweheiser", 173), ("matrixpilot", 173), ("minimal", 173), ("paparazzi", 173), ("pythonarraytest", 173), ("standard", 173), ("storm32", 173), ("ualberta", 173), ("uavionix", 173)]),
  ("MAV_COMP_ID_GIMBAL5", [("all", 174), ("ardupilotmega", 174), ("asluav", 174), ("avssuas", 174), ("common", 174), ("cubepilot", 174), ("development", 174), ("loweheiser", 174), ("matrixpilot", 174), ("minimal", 174), ("paparazzi", 174), ("pythonarraytest", 174), ("standard", 174), ("storm32", 174), ("ualberta", 174), ("uavionix", 174)]),
  ("MAV_COMP_ID_GIMBAL6", [("all", 175), ("ardupilotmega", 175), ("asluav", 175), ("avssuas", 175), ("common", 175), ("cubepilot", 175), ("development", 175), ("loweheiser", 175), ("matrixpilot", 175), ("minimal", 175), ("paparazzi", 175), ("pythonarraytest", 175), ("standard", 175), ("storm32", 175), ("ualberta", 175), ("uavionix", 175)]),
  ("MAV_COMP_ID_GPS", [("all", 220), ("ardupilotmega", 220), ("asluav", 220), ("avssuas", 220), ("common", 220), ("cubepilot", 220), ("development", 220), ("loweheiser", 220), ("matrixpilot", 220), ("minimal", 220), ("paparazzi", 220), ("pythonarraytest", 220), ("standard", 220), ("storm32", 220), ("ualberta", 220), ("uavionix", 220)]),
  ("MAV_COMP_ID_GPS2", [("all", 221), ("ardupilotmega", 221), ("asluav", 221), ("avssuas", 221), ("common", 221), ("cubepilot", 221), ("development", 221), ("loweheiser", 221), ("matrixpilot", 221), ("minimal", 221), ("paparazzi", 221), ("pythonarraytest", 221), ("standard", 221), ("storm32", 221), ("ualberta", 221), ("uavionix", 221)]),
  ("MAV_COMP_ID_ILLUMINATOR", [("all", 243), ("ardupilotmega", 243), ("asluav", 243), ("avssuas", 243), ("common", 243), ("cubepilot", 243), ("development", 243), ("loweheiser", 243), ("matrixpilot", 243), ("minimal", 243), ("paparazzi", 243), ("pythonarraytest", 243), ("standard", 243), ("storm32", 243), ("ualberta", 243), ("uavionix", 243)]),
  ("MAV_COMP_ID_IMU", [("all", 200), ("ardupilotmega", 200), ("asluav", 200), ("avssuas", 200), ("common", 200), ("cubepilot", 200), ("development", 200), ("loweheiser", 200), ("matrixpilot", 200), ("minimal", 200), ("paparazzi", 200), ("pythonarraytest", 200), ("standard", 200), ("storm32", 200), ("ualberta", 200), ("uavionix", 200)]),
  ("MAV_COMP_ID_IMU_2", [("all", 201), ("ardupilotmega", 201), ("asluav", 201), ("avssuas", 201), ("common", 201), ("cubepilot", 201), ("development", 201), ("loweheiser", 201), ("matrixpilot", 201), ("minimal", 201), ("paparazzi", 201), ("pythonarraytest", 201), ("standard", 201), ("storm32", 201), ("ualberta", 201), ("uavionix", 201)]),
  ("MAV_COMP_ID_IMU_3", [("all", 202), ("ardupilotmega", 202), ("asluav", 202), ("avssuas", 202), ("common", 202), ("cubepilot", 202), ("development", 202), ("loweheiser", 202), ("matrixpilot", 202), ("minimal", 202), ("paparazzi", 202), ("pythonarraytest", 202), ("standard", 202), ("storm32", 202), ("ualberta", 202), ("uavionix", 202)]),
  ("MAV_COMP_ID_LOG", [("all", 155), ("ardupilotmega", 155), ("asluav", 155), ("avssuas", 155), ("common", 155), ("cubepilot", 155), ("development", 155), ("loweheiser", 155), ("matrixpilot", 155), ("minimal", 155), ("paparazzi", 155), ("pythonarraytest", 155), ("standard", 155), ("storm32", 155), ("ualberta", 155), ("uavionix", 155)]),
  ("MAV_COMP_ID_MAVCAN", [("all", 189), ("ardupilotmega", 189), ("asluav", 189), ("avssuas", 189), ("common", 189), ("cubepilot", 189), ("development", 189), ("loweheiser", 189), ("matrixpilot", 189), ("minimal", 189), ("paparazzi", 189), ("pythonarraytest", 189), ("standard", 189), ("storm32", 189), ("ualberta", 189), ("uavionix", 189)]),
  ("MAV_COMP_ID_MISSIONPLANNER", [("all", 190), ("ardupilotmega", 190), ("asluav", 190), ("avssuas", 190), ("common", 190), ("cubepilot", 190), ("development", 190), ("loweheiser", 190), ("matrixpilot", 190), ("minimal", 190), ("paparazzi", 190), ("pythonarraytest", 190), ("standard", 190), ("storm32", 190), ("ualberta", 190), ("uavionix", 190)]),
  ("MAV_COMP_ID_OBSTACLE_AVOIDANCE", [("all", 196), ("ardupilotmega", 196), ("asluav", 196), ("avssuas", 196), ("common", 196), ("cubepilot", 196), ("development", 196), ("loweheiser", 196), ("matrixpilot", 196), ("minimal", 196), ("paparazzi", 196), ("pythonarraytest", 196), ("standard", 196), ("storm32", 196), ("ualberta", 196), ("uavionix", 196)]),
  ("MAV_COMP_ID_ODID_TXRX_1", [("all", 236), ("ardupilotmega", 236), ("asluav", 236), ("avssuas", 236), ("common", 236), ("cubepilot", 236), ("development", 236), ("loweheiser", 236), ("matrixpilot", 236), ("minimal", 236), ("paparazzi", 236), ("pythonarraytest", 236), ("standard", 236), ("storm32", 236), ("ualberta", 236), ("uavionix", 236)]),
  ("MAV_COMP_ID_ODID_TXRX_2", [("all", 237), ("ardupilotmega", 237), ("asluav", 237), ("avssuas", 237), ("common", 237), ("cubepilot", 237), ("development", 237), ("loweheiser", 237), ("matrixpilot", 237), ("minimal", 237), ("paparazzi", 237), ("pythonarraytest", 237), ("standard", 237), ("storm32", 237), ("ualberta", 237), ("uavionix", 237)]),
  ("MAV_COMP_ID_ODID_TXRX_3", [("all", 238), ("ardupilotmega", 238), ("asluav", 238), ("avssuas", 238), ("common", 238), ("cubepilot", 238), ("development", 238), ("loweheiser", 238), ("matrixpilot", 238), ("minimal", 238), ("paparazzi", 238), ("pythonarraytest", 238), ("standard", 238), ("storm32", 238), ("ualberta", 238), ("uavionix", 238)]),
  ("MAV_COMP_ID_ONBOARD_COMPUTER", [("all", 191), ("ardupilotmega", 191), ("asluav", 191), ("avssuas", 191), ("common", 191), ("cubepilot", 191), ("development", 191), ("loweheiser", 191), ("matrixpilot", 191), ("minimal", 191), ("paparazzi", 191), ("pythonarraytest", 191), ("standard", 191), ("storm32", 191), ("ualberta", 191), ("uavionix", 191)]),
  ("MAV_COMP_ID_ONBOARD_COMPUTER2", [("all", 192), ("ardupilotmega", 192), ("asluav", 192), ("avssuas", 192), ("common", 192), ("cubepilot", 192), ("development", 192), ("loweheiser", 192), ("matrixpilot", 192), ("minimal", 192), ("paparazzi", 192), ("pythonarraytest", 192), ("standard", 192), ("storm32", 192), ("ualberta", 192), ("uavionix", 192)]),
  ("MAV_COMP_ID_ONBOARD_COMPUTER3", [("all", 193), ("ardupilotmega", 193), ("asluav", 193), ("avssuas", 193), ("common", 193), ("cubepilot", 193), ("development", 193), ("loweheiser", 193), ("matrixpilot", 193), ("minimal", 193), ("paparazzi", 193), ("pythonarraytest", 193), ("standard", 193), ("storm32", 193), ("ualberta", 193), ("uavionix", 193)]),
  ("MAV_COMP_ID_ONBOARD_COMPUTER4", [("all", 194), ("ardupilotmega", 194), ("asluav", 194), ("avssuas", 194), ("common", 194), ("cubepilot", 194), ("development", 194), ("loweheiser", 194), ("matrixpilot", 194), ("minimal", 194), ("paparazzi", 194), ("pythonarraytest", 194), ("standard", 194), ("storm32", 194), ("ualberta", 194), ("uavionix", 194)]),
  ("MAV_COMP_ID_OSD", [("all", 157), ("ardupilotmega", 157), ("asluav", 157), ("avssuas", 157), ("common", 157), ("cubepilot", 157), ("development", 157), ("loweheiser", 157), ("matrixpilot", 157), ("minimal", 157), ("paparazzi", 157), ("pythonarraytest", 157), ("standard", 157), ("storm32", 157), ("ualberta", 157), ("uavionix", 157)]),
  ("MAV_COMP_ID_PAIRING_MANAGER", [("all", 198), ("ardupilotmega", 198), ("asluav", 198), ("avssuas", 198), ("common", 198), ("cubepilot", 198), ("development", 198), ("loweheiser", 198), ("matrixpilot", 198), ("minimal", 198), ("paparazzi", 198), ("pythonarraytest", 198), ("standard", 198), ("storm32", 198), ("ualberta", 198), ("uavionix", 198)]),
  ("MAV_COMP_ID_PARACHUTE", [("all", 161), ("ardupilotmega", 161), ("asluav", 161), ("avssuas", 161), ("common", 161), ("cubepilot", 161), ("development", 161), ("loweheiser", 161), ("matrixpilot", 161), ("minimal", 161), ("paparazzi", 161), ("pythonarraytest", 161), ("standard", 161), ("storm32", 161), ("ualberta", 161), ("uavionix", 161)]),
  ("MAV_COMP_ID_PATHPLANNER", [("all", 195), ("ardupilotmega", 195), ("asluav", 195), ("avssuas", 195), ("common", 195), ("cubepilot", 195), ("development", 195), ("loweheiser", 195), ("matrixpilot", 195), ("minimal", 195), ("paparazzi", 195), ("pythonarraytest", 195), ("standard", 195), ("storm32", 195), ("ualberta", 195), ("uavionix", 195)]),
  ("MAV_COMP_ID_PERIPHERAL", [("all", 158), ("ardupilotmega", 158), ("asluav", 158), ("avssuas", 158), ("common", 158), ("cubepilot", 158), ("development", 158), ("loweheiser", 158), ("matrixpilot", 158), ("minimal", 158), ("paparazzi", 158), ("pythonarraytest", 158), ("standard", 158), ("storm32", 158), ("ualberta", 158), ("uavionix", 158)]),
  ("MAV_COMP_ID_QX1_GIMBAL", [("all", 159), ("ardupilotmega", 159), ("asluav", 159), ("avssuas", 159), ("common", 159), ("cubepilot", 159), ("development", 159), ("loweheiser", 159), ("matrixpilot", 159), ("minimal", 159), ("paparazzi", 159), ("pythonarraytest", 159), ("standard", 159), ("storm32", 159), ("ualberta", 159), ("uavionix", 159)]),
  ("MAV_COMP_ID_SERVO1", [("all", 140), ("ardupilotmega", 140), ("asluav", 140), ("avssuas", 140), ("common", 140), ("cubepilot", 140), ("development", 140), ("loweheiser", 140), ("matrixpilot", 140), ("minimal", 140), ("paparazzi", 140), ("pythonarraytest", 140), ("standard", 140), ("storm32", 140), ("ualberta", 140), ("uavionix", 140)]),
  ("MAV_COMP_ID_SERVO10", [("all", 149), ("ardupilotmega", 149), ("asluav", 149), ("avssuas", 149), ("common", 149), ("cubepilot", 149), ("development", 149), ("loweheiser", 149), ("matrixpilot", 149), ("minimal", 149), ("paparazzi", 149), ("pythonarraytest", 149), ("standard", 149), ("storm32", 149), ("ualberta", 149), ("uavionix", 149)]),
  ("MAV_COMP_ID_SERVO11", [("all", 150), ("ardupilotmega", 150), ("asluav", 150), ("avssuas", 150), ("common", 150), ("cubepilot", 150), ("development", 150), ("loweheiser", 150), ("matrixpilot", 150), ("minimal", 150), ("paparazzi", 150), ("pythonarraytest", 150), ("standard", 150), ("storm32", 150), ("ualberta", 150), ("uavionix", 150)]),
  ("MAV_COMP_ID_SERVO12", [("all", 151), ("ardupilotmega", 151), ("asluav", 151), ("avssuas", 151), ("common", 151), ("cubepilot", 151), ("development", 151), ("loweheiser", 151), ("matrixpilot", 151), ("minimal", 151), ("paparazzi", 151), ("pythonarraytest", 151), ("standard", 151), ("storm32", 151), ("ualberta", 151), ("uavionix", 151)]),
  ("MAV_COMP_ID_SERVO13", [("all", 152), ("ardupilotmega", 152), ("asluav", 152), ("avssuas", 152), ("common", 152), ("cubepilot", 152), ("development", 152), ("loweheiser", 152), ("matrixpilot", 152), ("minimal", 152), ("paparazzi", 152), ("pythonarraytest", 152), ("standard", 152), ("storm32", 152), ("ualberta", 152), ("uavionix", 152)]),
  ("MAV_COMP_ID_SERVO14", [("all", 153), ("ardupilotmega", 153), ("asluav", 153), ("avssuas", 153), ("common", 153), ("cubepilot", 153), ("development", 153), ("loweheiser", 153), ("matrixpilot", 153), ("minimal", 153), ("paparazzi", 153), ("pythonarraytest", 153), ("standard", 153), ("storm32", 153), ("ualberta", 153), ("uavionix", 153)]),
  ("MAV_COMP_ID_SERVO2", [("all", 141), ("ardupilotmega", 141), ("asluav", 141), ("avssuas", 141), ("common", 141), ("cubepilot", 141), ("development", 141), ("loweheiser", 141), ("matrixpilot", 141), ("minimal", 141), ("paparazzi", 141), ("pythonarraytest", 141), ("standard", 141), ("storm32", 141), ("ualberta", 141), ("uavionix", 141)]),
  ("MAV_COMP_ID_SERVO3", [("all", 142), ("ardupilotmega", 142), ("asluav", 142), ("avssuas", 142), ("common", 142), ("cubepilot", 142), ("development", 142), ("loweheiser", 142), ("matrixpilot", 142), ("minimal", 142), ("paparazzi", 142), ("pythonarraytest", 142), ("standard", 142), ("storm32", 142), ("ualberta", 142), ("uavionix", 142)]),
  ("MAV_COMP_ID_SERVO4", [("all", 143), ("ardupilotmega", 143), ("asluav", 143), ("avssuas", 143), ("common", 143), ("cubepilot", 143), ("development", 143), ("loweheiser", 143), ("matrixpilot", 143), ("minimal", 143), ("paparazzi", 143), ("pythonarraytest", 143), ("standard", 143), ("storm32", 143), ("ualberta", 143), ("uavionix", 143)]),
  ("MAV_COMP_ID_SERVO5", [("all", 144), ("ardupilotmega", 144), ("asluav", 144), ("avssuas", 144), ("common", 144), ("cubepilot", 144), ("development", 144), ("loweheiser", 144), ("matrixpilot", 144), ("minimal", 144), ("paparazzi", 144), ("pythonarraytest", 144), ("standard", 144), ("storm32", 144), ("ualberta", 144), ("uavionix", 144)]),
  ("MAV_COMP_ID_SERVO6", [("all", 145), ("ardupilotmega", 145), ("asluav", 145), ("avssuas", 145), ("common", 145), ("cubepilot", 145), ("development", 145), ("loweheiser", 145), ("matrixpilot", 145), ("minimal", 145), ("paparazzi", 145), ("pythonarraytest", 145), ("standard", 145), ("storm32", 145), ("ualberta", 145), ("uavionix", 145)]),
  ("MAV_COMP_ID_SERVO7", [("all", 146), ("ardupilotmega", 146), ("asluav", 146), ("avssuas", 146), ("common", 146), ("cubepilot", 146), ("development", 146), ("loweheiser", 146), ("matrixpilot", 146), ("minimal", 146), ("paparazzi", 146), ("pythonarraytest", 146), ("standard", 146), ("storm32", 146), ("ualberta", 146), ("uavionix", 146)]),
  ("MAV_COMP_ID_SERVO8", [("all", 147), ("ardupilotmega", 147), ("asluav", 147), ("avssuas", 147), ("common", 147), ("cubepilot", 147), ("development", 147), ("loweheiser", 147), ("matrixpilot", 147), ("minimal", 147), ("paparazzi", 147), ("pythonarraytest", 147), ("standard", 147), ("storm32", 147), ("ualberta", 147), ("uavionix", 147)]),
  ("MAV_COMP_ID_SERVO9", [("all", 148), ("ardupilotmega", 148), ("asluav", 148), ("avssuas", 148), ("common", 148), ("cubepilot", 148), ("development", 148), ("loweheiser", 148), ("matrixpilot", 148), ("minimal", 148), ("paparazzi", 148), ("pythonarraytest", 148), ("standard", 148), ("storm32", 148), ("ualberta", 148), ("uavionix", 148)]),
  ("MAV_COMP_ID_SYSTEM_CONTROL", [("all", 250), ("ardupilotmega", 250), ("asluav", 250), ("avssuas", 250), ("common", 250), ("cubepilot", 250), ("development", 250), ("loweheiser", 250), ("matrixpilot", 250), ("minimal", 250), ("paparazzi", 250), ("pythonarraytest", 250), ("standard", 250), ("storm32", 250), ("ualberta", 250), ("uavionix", 250)]),
  ("MAV_COMP_ID_TELEMETRY_RADIO", [("all", 68), ("ardupilotmega", 68), ("asluav", 68), ("avssuas", 68), ("common", 68), ("cubepilot", 68), ("development", 68), ("loweheiser", 68), ("matrixpilot", 68), ("minimal", 68), ("paparazzi", 68), ("pythonarraytest", 68), ("standard", 68), ("storm32", 68), ("ualberta", 68), ("uavionix", 68)]),
  ("MAV_COMP_ID_TUNNEL_NODE", [("all", 242), ("ardupilotmega", 242), ("asluav", 242), ("avssuas", 242), ("common", 242), ("cubepilot", 242), ("development", 242), ("loweheiser", 242), ("matrixpilot", 242), ("minimal", 242), ("paparazzi", 242), ("pythonarraytest", 242), ("standard", 242), ("storm32", 242), ("ualberta", 242), ("uavionix", 242)]),
  ("MAV_COMP_ID_UART_BRIDGE", [("all", 241), ("ardupilotmega", 241), ("asluav", 241), ("avssuas", 241), ("common", 241), ("cubepilot", 241), ("development", 241), ("loweheiser", 241), ("matrixpilot", 241), ("minimal", 241), ("paparazzi", 241), ("pythonarraytest", 241), ("standard", 241), ("storm32", 241), ("ualberta", 241), ("uavionix", 241)]),
  ("MAV_COMP_ID_UDP_BRIDGE", [("all", 240), ("ardupilotmega", 240), ("asluav", 240), ("avssuas", 240), ("common", 240), ("cubepilot", 240), ("development", 240), ("loweheiser", 240), ("matrixpilot", 240), ("minimal", 240), ("paparazzi", 240), ("pythonarraytest", 240), ("standard", 240), ("storm32", 240), ("ualberta", 240), ("uavionix", 240)]),
  ("MAV_COMP_ID_USER1", [("all", 25), ("ardupilotmega", 25), ("asluav", 25), ("avssuas", 25), ("common", 25), ("cubepilot", 25), ("development", 25), ("loweheiser", 25), ("matrixpilot", 25), ("minimal", 25), ("paparazzi", 25), ("pythonarraytest", 25), ("standard", 25), ("storm32", 25), ("ualberta", 25), ("uavionix", 25)]),
  ("MAV_COMP_ID_USER10", [("all", 34), ("ardupilotmega", 34), ("asluav", 34), ("avssuas", 34), ("common", 34), ("cubepilot", 34), ("development", 34), ("loweheiser", 34), ("matrixpilot", 34), ("minimal", 34), ("paparazzi", 34), ("pythonarraytest", 34), ("standard", 34), ("storm32", 34), ("ualberta", 34), ("uavionix", 34)])]
def constGroups_19 : List (String × List (String × Nat)) := [
  ("MAV_COMP_ID_USER11", [("all", 35), ("ardupilotmega", 35), ("asluav", 35), ("avssuas", 35), ("common", 35), ("cubepilot", 35), ("development", 35), ("loweheiser", 35), ("matrixpilot", 35), ("minimal", 35), ("paparazzi", 35), ("pythonarraytest", 35), ("standard", 35), ("storm32", 35), ("ualberta", 35), ("uavionix", 35)]),
  ("MAV_COMP_ID_USER12", [("all", 36), ("ardupilotmega", 36), ("asluav", 36), ("avssuas", 36), ("common", 36), ("cubepilot", 36), ("development", 36), ("loweheiser", 36), ("matrixpilot", 36), ("minimal", 36), ("paparazzi", 36), ("pythonarraytest", 36), ("standard", 36), ("storm32", 36), ("ualberta", 36), ("uavionix", 36)]),
  ("MAV_COMP_ID_USER13", [("all", 37), ("ardupilotmega", 37), ("asluav", 37), ("avssuas", 37), ("common", 37), ("cubepilot", 37), ("development", 37), ("loweheiser", 37), ("matrixpilot", 37), ("minimal", 37), ("paparazzi", 37), ("pythonarraytest", 37), ("standard", 37), ("storm32", 37), ("ualberta", 37), ("uavionix", 37)]),
  ("MAV_COMP_ID_USER14", [("all", 38), ("ardupilotmega", 38), ("asluav", 38), ("avssuas", 38), ("common", 38), ("cubepilot", 38), ("development", 38), ("loweheiser", 38), ("matrixpilot", 38), ("minimal", 38), ("paparazzi", 38), ("pythonarraytest", 38), ("standard", 38), ("storm32", 38), ("ualberta", 38), ("uavionix", 38)]),
  ("MAV_COMP_ID_USER15", [("all", 39), ("ardupilotmega", 39), ("asluav", 39), ("avssuas", 39), ("common", 39), ("cubepilot", 39), ("development", 39), ("loweheiser", 39), ("matrixpilot", 39), ("minimal", 39), ("paparazzi", 39), ("pythonarraytest", 39), ("standard", 39), ("storm32", 39), ("ualberta", 39), ("uavionix", 39)]),
  ("MAV_COMP_ID_USER16", [("all", 40), ("ardupilotmega", 40), ("asluav", 40), ("avssuas", 40), ("common", 40), ("cubepilot", 40), ("development", 40), ("loweheiser", 40), ("matrixpilot", 40), ("minimal", 40), ("paparazzi", 40), ("pythonarraytest", 40), ("standard", 40), ("storm32", 40), ("ualberta", 40), ("uavionix", 40)]),
  ("MAV_COMP_ID_USER17", [("all", 41), ("ardupilotmega", 41), ("asluav", 41), ("avssuas", 41), ("common", 41), ("cubepilot", 41), ("development", 41), ("loweheiser", 41), ("matrixpilot", 41), ("minimal", 41), ("paparazzi", 41), ("pythonarraytest", 41), ("standard", 41), ("storm32", 41), ("ualberta", 41), ("uavionix", 41)]),
  ("MAV_COMP_ID_USER18", [("all", 42), ("ardupilotmega", 42), ("asluav", 42), ("avssuas", 42), ("common", 42), ("cubepilot", 42), ("development", 42), ("loweheiser", 42), ("matrixpilot", 42), ("minimal", 42), ("paparazzi", 42), ("pythonarraytest", 42), ("standard", 42), ("storm32", 42), ("ualberta", 42), ("uavionix", 42)]),
  ("MAV_COMP_ID_USER19", [("all", 43), ("ardupilotmega", 43), ("asluav", 43), ("avssuas", 43), ("common", 43), ("cubepilot", 43), ("development", 43), ("loweheiser", 43), ("matrixpilot", 43), ("minimal", 43), ("paparazzi", 43), ("pythonarraytest", 43), ("standard", 43), ("storm32", 43), ("ualberta", 43), ("uavionix", 43)]),
  ("MAV_COMP_ID_USER2", [("all", 26), ("ardupilotmega", 26), ("asluav", 26), ("avssuas", 26), ("common", 26), ("cubepilot", 26), ("development", 26), ("loweheiser", 26), ("matrixpilot", 26), ("minimal", 26), ("paparazzi", 26), ("pythonarraytest", 26), ("standard", 26), ("storm32", 26), ("ualberta", 26), ("uavionix", 26)]),
  ("MAV_COMP_ID_USER20", [("all", 44), ("ardupilotmega", 44), ("asluav", 44), ("avssuas", 44), ("common", 44), ("cubepilot", 44), ("development", 44), ("loweheiser", 44), ("matrixpilot", 44), ("minimal", 44), ("paparazzi", 44), ("pythonarraytest", 44), ("standard", 44), ("storm32", 44), ("ualberta", 44), ("uavionix", 44)]),
  ("MAV_COMP_ID_USER21", [("all", 45), ("ardupilotmega", 45), ("asluav", 45), ("avssuas", 45), ("common", 45), ("cubepilot", 45), ("development", 45), ("loweheiser", 45), ("matrixpilot", 45), ("minimal", 45), ("paparazzi", 45), ("pythonarraytest", 45), ("standard", 45), ("storm32", 45), ("ualberta", 45), ("uavionix", 45)]),
  ("MAV_COMP_ID_USER22", [("all", 46), ("ardupilotmega", 46), ("asluav", 46), ("avssuas", 46), ("common", 46), ("cubepilot", 46), ("development", 46), ("loweheiser", 46), ("matrixpilot", 46), ("minimal", 46), ("paparazzi", 46), ("pythonarraytest", 46), ("standard", 46), ("storm32", 46), ("ualberta", 46), ("uavionix", 46)]),
  ("MAV_COMP_ID_USER23", [("all", 47), ("ardupilotmega", 47), ("asluav", 47), ("avssuas", 47), ("common", 47), ("cubepilot", 47), ("development", 47), ("loweheiser", 47), ("matrixpilot", 47), ("minimal", 47), ("paparazzi", 47), ("pythonarraytest", 47), ("standard", 47), ("storm32", 47), ("ualberta", 47), ("uavionix", 47)]),
  ("MAV_COMP_ID_USER24", [("all", 48), ("ardupilotmega", 48), ("asluav", 48), ("avssuas", 48), ("common", 48), ("cubepilot", 48), ("development", 48), ("loweheiser", 48), ("matrixpilot", 48), ("minimal", 48), ("paparazzi", 48), ("pythonarraytest", 48), ("standard", 48), ("storm32", 48), ("ualberta", 48), ("uavionix", 48)]),
  ("MAV_COMP_ID_USER25", [("all", 49), ("ardupilotmega", 49), ("asluav", 49), ("avssuas", 49), ("common", 49), ("cubepilot", 49), ("development", 49), ("loweheiser", 49), ("matrixpilot", 49), ("minimal", 49), ("paparazzi", 49), ("pythonarraytest", 49), ("standard", 49), ("storm32", 49), ("ualberta", 49), ("uavionix", 49)]),
  ("MAV_COMP_ID_USER26", [("all", 50), ("ardupilotmega", 50), ("asluav", 50), ("avssuas", 50), ("common", 50), ("cubepilot", 50), ("development", 50), ("loweheiser", 50), ("matrixpilot", 50), ("minimal", 50), ("paparazzi", 50), ("pythonarraytest", 50), ("standard", 50), ("storm32", 50), ("ualberta", 50), ("uavionix", 50)]),
  ("MAV_COMP_ID_USER27", [("all", 51), ("ardupilotmega", 51), ("asluav", 51), ("avssuas", 51), ("common", 51), ("cubepilot", 51), ("development", 51), ("loweheiser", 51), ("matrixpilot", 51), ("minimal", 51), ("paparazzi", 51), ("pythonarraytest", 51), ("standard", 51), ("storm32", 51), ("ualberta", 51), ("uavionix", 51)]),
  ("MAV_COMP_ID_USER28", [("all", 52), ("ardupilotmega", 52), ("asluav", 52), ("avssuas", 52), ("common", 52), ("cubepilot", 52), ("development", 52), ("loweheiser", 52), ("matrixpilot", 52), ("minimal", 52), ("paparazzi", 52), ("pythonarraytest", 52), ("standard", 52), ("storm32", 52), ("ualberta", 52), ("uavionix", 52)]),
  ("MAV_COMP_ID_USER29", [("all", 53), ("ardupilotmega", 53), ("asluav", 53), ("avssuas", 53), ("common", 53), ("cubepilot", 53), ("development", 53), ("loweheiser", 53), ("matrixpilot", 53), ("minimal", 53), ("paparazzi", 53), ("pythonarraytest", 53), ("standard", 53), ("storm32", 53), ("ualberta", 53), ("uavionix", 53)]),
  ("MAV_COMP_ID_USER3", [("all", 27), ("ardupilotmega", 27), ("asluav", 27), ("avssuas", 27), ("common", 27), ("cubepilot", 27), ("development", 27), ("loweheiser", 27), ("matrixpilot", 27), ("minimal", 27), ("paparazzi", 27), ("pythonarraytest", 27), ("standard", 27), ("storm32", 27), ("ualberta", 27), ("uavionix", 27)]),
  ("MAV_COMP_ID_USER30", [("all", 54), ("ardupilotmega", 54), ("asluav", 54), ("avssuas", 54), ("common", 54), ("cubepilot", 54), ("development", 54), ("loweheiser", 54), ("matrixpilot", 54), ("minimal", 54), ("paparazzi", 54), ("pythonarraytest", 54), ("standard", 54), ("storm32", 54), ("ualberta", 54), ("uavionix", 54)]),
  ("MAV_COMP_ID_USER31", [("all", 55), ("ardupilotmega", 55), ("asluav", 55), ("avssuas", 55), ("common", 55), ("cubepilot", 55), ("development", 55), ("loweheiser", 55), ("matrixpilot", 55), ("minimal", 55), ("paparazzi", 55), ("pythonarraytest", 55), ("standard", 55), ("storm32", 55), ("ualberta", 55), ("uavionix", 55)]),
  ("MAV_COMP_ID_USER32", [("all", 56), ("ardupilotmega", 56), ("asluav", 56), ("avssuas", 56), ("common", 56), ("cubepilot", 56), ("development", 56), ("loweheiser", 56), ("matrixpilot", 56), ("minimal", 56), ("paparazzi", 56), ("pythonarraytest", 56), ("standard", 56), ("storm32", 56), ("ualberta", 56), ("uavionix", 56)]),
  ("MAV_COMP_ID_USER33", [("all", 57), ("ardupilotmega", 57), ("asluav", 57), ("avssuas", 57), ("common", 57), ("cubepilot", 57), ("development", 57), ("loweheiser", 57), ("matrixpilot", 57), ("minimal", 57), ("paparazzi", 57), ("pythonarraytest", 57), ("standard", 57), ("storm32", 57), ("ualberta", 57), ("uavionix", 57)]),
  ("MAV_COMP_ID_USER34", [("all", 58), ("ardupilotmega", 58), ("asluav", 58), ("avssuas", 58), ("common", 58), ("cubepilot", 58), ("development", 58), ("loweheiser", 58), ("matrixpilot", 58), ("minimal", 58), ("paparazzi", 58), ("pythonarraytest", 58), ("standard", 58), ("storm32", 58), ("ualberta", 58), ("uavionix", 58)]),
  ("MAV_COMP_ID_USER35", [("all", 59), ("ardupilotmega", 59), ("asluav", 59), ("avssuas", 59), ("common", 59), ("cubepilot", 59), ("development", 59), ("loweheiser", 59), ("matrixpilot", 59), ("minimal", 59), ("paparazzi", 59), ("pythonarraytest", 59), ("standard", 59), ("storm32", 59), ("ualberta", 59), ("uavionix", 59)]),
  ("MAV_COMP_ID_USER36", [("all", 60), ("ardupilotmega", 60), ("asluav", 60), ("avssuas", 60), ("common", 60), ("cubepilot", 60), ("development", 60), ("loweheiser", 60), ("matrixpilot", 60), ("minimal", 60), ("paparazzi", 60), ("pythonarraytest", 60), ("standard", 60), ("storm32", 60), ("ualberta", 60), ("uavionix", 60)]),
  ("MAV_COMP_ID_USER37", [("all", 61), ("ardupilotmega", 61), ("asluav", 61), ("avssuas", 61), ("common", 61), ("cubepilot", 61), ("development", 61), ("loweheiser", 61), ("matrixpilot", 61), ("minimal", 61), ("paparazzi", 61), ("pythonarraytest", 61), ("standard", 61), ("storm32", 61), ("ualberta", 61), ("uavionix", 61)]),
  ("MAV_COMP_ID_USER38", [("all", 62), ("ardupilotmega", 62), ("asluav", 62), ("avssuas", 62), ("common", 62), ("cubepilot", 62), ("development", 62), ("loweheiser", 62), ("matrixpilot", 62), ("minimal", 62), ("paparazzi", 62), ("pythonarraytest", 62), ("standard", 62), ("storm32", 62), ("ualberta", 62), ("uavionix", 62)]),
  ("MAV_COMP_ID_USER39", [("all", 63), ("ardupilotmega", 63), ("asluav", 63), ("avssuas", 63), ("common", 63), ("cubepilot", 63), ("development", 63), ("loweheiser", 63), ("matrixpilot", 63), ("minimal", 63), ("paparazzi", 63), ("pythonarraytest", 63), ("standard", 63), ("storm32", 63), ("ualberta", 63), ("uavionix", 63)]),
  ("MAV_COMP_ID_USER4", [("all", 28), ("ardupilotmega", 28), ("asluav", 28), ("avssuas", 28), ("common", 28), ("cubepilot", 28), ("development", 28), ("loweheiser", 28), ("matrixpilot", 28), ("minimal", 28), ("paparazzi", 28), ("pythonarraytest", 28), ("standard", 28), ("storm32", 28), ("ualberta", 28), ("uavionix", 28)]),
  ("MAV_COMP_ID_USER40", [("all", 64), ("ardupilotmega", 64), ("asluav", 64), ("avssuas", 64), ("common", 64), ("cubepilot", 64), ("development", 64), ("loweheiser", 64), ("matrixpilot", 64), ("minimal", 64), ("paparazzi", 64), ("pythonarraytest", 64), ("standard", 64), ("storm32", 64), ("ualberta", 64), ("uavionix", 64)]),
  ("MAV_COMP_ID_USER41", [("all", 65), ("ardupilotmega", 65), ("asluav", 65), ("avssuas", 65), ("common", 65), ("cubepilot", 65), ("development", 65), ("loweheiser", 65), ("matrixpilot", 65), ("minimal", 65), ("paparazzi", 65), ("pythonarraytest", 65), ("standard", 65), ("storm32", 65), ("ualberta", 65), ("uavionix", 65)]),
  ("MAV_COMP_ID_USER42", [("all", 66), ("ardupilotmega", 66), ("asluav", 66), ("avssuas", 66), ("common", 66), ("cubepilot", 66), ("development", 66), ("loweheiser", 66), ("matrixpilot", 66), ("minimal", 66), ("paparazzi", 66), ("pythonarraytest", 66), ("standard", 66), ("storm32", 66), ("ualberta", 66), ("uavionix", 66)]),
  ("MAV_COMP_ID_USER43", [("all", 67), ("ardupilotmega", 67), ("asluav", 67), ("avssuas", 67), ("common", 67), ("cubepilot", 67), ("development", 67), ("loweheiser", 67), ("matrixpilot", 67), ("minimal", 67), ("paparazzi", 67), ("pythonarraytest", 67), ("standard", 67), ("storm32", 67), ("ualberta", 67), ("uavionix", 67)]),
  ("MAV_COMP_ID_USER45", [("all", 69), ("ardupilotmega", 69), ("asluav", 69), ("avssuas", 69), ("common", 69), ("cubepilot", 69), ("development", 69), ("loweheiser", 69), ("matrixpilot", 69), ("minimal", 69), ("paparazzi", 69), ("pythonarraytest", 69), ("standard", 69), ("storm32", 69), ("ualberta", 69), ("uavionix", 69)]),
  ("MAV_COMP_ID_USER46", [("all", 70), ("ardupilotmega", 70), ("asluav", 70), ("avssuas", 70), ("common", 70), ("cubepilot", 70), ("development", 70), ("loweheiser", 70), ("matrixpilot", 70), ("minimal", 70), ("paparazzi", 70), ("pythonarraytest", 70), ("standard", 70), ("storm32", 70), ("ualberta", 70), ("uavionix", 70)]),
  ("MAV_COMP_ID_USER47", [("all", 71), ("ardupilotmega", 71), ("asluav", 71), ("avssuas", 71), ("common", 71), ("cubepilot", 71), ("development", 71), ("loweheiser", 71), ("matrixpilot", 71), ("minimal", 71), ("paparazzi", 71), ("pythonarraytest", 71), ("standard", 71), ("storm32", 71), ("ualberta", 71), ("uavionix", 71)]),
  ("MAV_COMP_ID_USER48", [("all", 72), ("ardupilotmega", 72), ("asluav", 72), ("avssuas", 72), ("common", 72), ("cubepilot", 72), ("development", 72), ("loweheiser", 72), ("matrixpilot", 72), ("minimal", 72), ("paparazzi", 72), ("pythonarraytest", 72), ("standard", 72), ("storm32", 72), ("ualberta", 72), ("uavionix", 72)]),
  ("MAV_COMP_ID_USER49", [("all", 73), ("ardupilotmega", 73), ("asluav", 73), ("avssuas", 73), ("common", 73), ("cubepilot", 73), ("development", 73), ("loweheiser", 73), ("matrixpilot", 73), ("minimal", 73), ("paparazzi", 73), ("pythonarraytest", 73), ("standard", 73), ("storm32", 73), ("ualberta", 73), ("uavionix", 73)]),
  ("MAV_COMP_ID_USER5", [("all", 29), ("ardupilotmega", 29), ("asluav", 29), ("avssuas", 29), ("common", 29), ("cubepilot", 29), ("development", 29), ("loweheiser", 29), ("matrixpilot", 29), ("minimal", 29), ("paparazzi", 29), ("pythonarraytest", 29), ("standard", 29), ("storm32", 29), ("ualberta", 29), ("uavionix", 29)]),
  ("MAV_COMP_ID_USER50", [("all", 74), ("ardupilotmega", 74), ("asluav", 74), ("avssuas", 74), ("common", 74), ("cubepilot", 74), ("development", 74), ("loweheiser", 74), ("matrixpilot", 74), ("minimal", 74), ("paparazzi", 74), ("pythonarraytest", 74), ("standard", 74), ("storm32", 74), ("ualberta", 74), ("uavionix", 74)]),
  ("MAV_COMP_ID_USER51", [("all", 75), ("ardupilotmega", 75), ("asluav", 75), ("avssuas", 75), ("common", 75), ("cubepilot", 75), ("development", 75), ("loweheiser", 75), ("matrixpilot", 75), ("minimal", 75), ("paparazzi", 75), ("pythonarraytest", 75), ("standard", 75), ("storm32", 75), ("ualberta", 75), ("uavionix", 75)]),
  ("MAV_COMP_ID_USER52", [("all", 76), ("ardupilotmega", 76), ("asluav", 76), ("avssuas", 76), ("common", 76), ("cubepilot", 76), ("development", 76), ("loweheiser", 76), ("matrixpilot", 76), ("minimal", 76), ("paparazzi", 76), ("pythonarraytest", 76), ("standard", 76), ("storm32", 76), ("ualberta", 76), ("uavionix", 76)]),
  ("MAV_COMP_ID_USER53", [("all", 77), ("ardupilotmega", 77), ("asluav", 77), ("avssuas", 77), ("common", 77), ("cubepilot", 77), ("development", 77), ("loweheiser", 77), ("matrixpilot", 77), ("minimal", 77), ("paparazzi", 77), ("pythonarraytest", 77), ("standard", 77), ("storm32", 77), ("ualberta", 77), ("uavionix", 77)]),
  ("MAV_COMP_ID_USER54", [("all", 78), ("ardupilotmega", 78), ("asluav", 78), ("avssuas", 78), ("common", 78), ("cubepilot", 78), ("development", 78), ("loweheiser", 78), ("matrixpilot", 78), ("minimal", 78), ("paparazzi", 78), ("pythonarraytest", 78), ("standard", 78), ("storm32", 78), ("ualberta", 78), ("uavionix", 78)]),
  ("MAV_COMP_ID_USER55", [("all", 79), ("ardupilotmega", 79), ("asluav", 79), ("avssuas", 79), ("common", 79), ("cubepilot", 79), ("development", 79), ("loweheiser", 79), ("matrixpilot", 79), ("minimal", 79), ("paparazzi", 79), ("pythonarraytest", 79), ("standard", 79), ("storm32", 79), ("ualberta", 79), ("uavionix", 79)]),
  ("MAV_COMP_ID_USER56", [("all", 80), ("ardupilotmega", 80), ("asluav", 80), ("avssuas", 80), ("common", 80), ("cubepilot", 80), ("development", 80), ("loweheiser", 80), ("matrixpilot", 80), ("minimal", 80), ("paparazzi", 80), ("pythonarraytest", 80), ("standard", 80), ("storm32", 80), ("ualberta", 80), ("uavionix", 80)]),
  ("MAV_COMP_ID_USER57", [("all", 81), ("ardupilotmega", 81), ("asluav", 81), ("avssuas", 81), ("common", 81), ("cubepilot", 81), ("development", 81), ("loweheiser", 81), ("matrixpilot", 81), ("minimal", 81), ("paparazzi", 81), ("pythonarraytest", 81), ("standard", 81), ("storm32", 81), ("ualberta", 81), ("uavionix", 81)]),
  ("MAV_COMP_ID_USER58", [("all", 82), ("ardupilotmega", 82), ("asluav", 82), ("avssuas", 82), ("common", 82), ("cubepilot", 82), ("development", 82), ("loweheiser", 82), ("matrixpilot", 82), ("minimal", 82), ("paparazzi", 82), ("pythonarraytest", 82), ("standard", 82), ("storm32", 82), ("ualberta", 82), ("uavionix", 82)]),
  ("MAV_COMP_ID_USER59", [("all", 83), ("ardupilotmega", 83), ("asluav", 83), ("avssuas", 83), ("common", 83), ("cubepilot", 83), ("development", 83), ("loweheiser", 83), ("matrixpilot", 83), ("minimal", 83), ("paparazzi", 83), ("pythonarraytest", 83), ("standard", 83), ("storm32", 83), ("ualberta", 83), ("uavionix", 83)]),
  ("MAV_COMP_ID_USER6", [("all", 30), ("ardupilotmega", 30), ("asluav", 30), ("avssuas", 30), ("common", 30), ("cubepilot", 30), ("development", 30), ("loweheiser", 30), ("matrixpilot", 30), ("minimal", 30), ("paparazzi", 30), ("pythonarraytest", 30), ("standard", 30), ("storm32", 30), ("ualberta", 30), ("uavionix", 30)]),
  ("MAV_COMP_ID_USER60", [("all", 84), ("ardupilotmega", 84), ("asluav", 84), ("avssuas", 84), ("common", 84), ("cubepilot", 84), ("development", 84), ("loweheiser", 84), ("matrixpilot", 84), ("minimal", 84), ("paparazzi", 84), ("pythonarraytest", 84), ("standard", 84), ("storm32", 84), ("ualberta", 84), ("uavionix", 84)]),
  ("MAV_COMP_ID_USER61", [("all", 85), ("ardupilotmega", 85), ("asluav", 85), ("avssuas", 85), ("common", 85), ("cubepilot", 85), ("development", 85), ("loweheiser", 85), ("matrixpilot", 85), ("minimal", 85), ("paparazzi", 85), ("pythonarraytest", 85), ("standard", 85), ("storm32", 85), ("ualberta", 85), ("uavionix", 85)]),
  ("MAV_COMP_ID_USER62", [("all", 86), ("ardupilotmega", 86), ("asluav", 86), ("avssuas", 86), ("common", 86), ("cubepilot", 86), ("development", 86), ("loweheiser", 86), ("matrixpilot", 86), ("minimal", 86), ("paparazzi", 86), ("pythonarraytest", 86), ("standard", 86), ("storm32", 86), ("ualberta", 86), ("uavionix", 86)]),
  ("MAV_COMP_ID_USER63", [("all", 87), ("ardupilotmega", 87), ("asluav", 87), ("avssuas", 87), ("common", 87), ("cubepilot", 87), ("development", 87), ("loweheiser", 87), ("matrixpilot", 87), ("minimal", 87), ("paparazzi", 87), ("pythonarraytest", 87), ("standard", 87), ("storm32", 87), ("ualberta", 87), ("uavionix", 87)]),
  ("MAV_COMP_ID_USER64", [("all", 88), ("ardupilotmega", 88), ("asluav", 88), ("avssuas", 88), ("common", 88), ("cubepilot", 88), ("development", 88), ("loweheiser", 88), ("matrixpilot", 88), ("minimal", 88), ("paparazzi", 88), ("pythonarraytest", 88), ("standard", 88), ("storm32", 88), ("ualberta", 88), ("uavionix", 88)]),
  ("MAV_COMP_ID_USER65", [("all", 89), ("ardupilotmega", 89), ("asluav", 89), ("avssuas", 89), ("common", 89), ("cubepilot", 89), ("development", 89), ("loweheiser", 89), ("matrixpilot", 89), ("minimal", 89), ("paparazzi", 89), ("pythonarraytest", 89), ("standard", 89), ("storm32", 89), ("ualberta", 89), ("uavionix", 89)]),
  ("MAV_COMP_ID_USER66", [("all", 90), ("ardupilotmega", 90), ("asluav", 90), ("avssuas", 90), ("common", 90), ("cubepilot", 90), ("development", 90), ("loweheiser", 90), ("matrixpilot", 90), ("minimal", 90), ("paparazzi", 90), ("pythonarraytest", 90), ("standard", 90), ("storm32", 90), ("ualberta", 90), ("uavionix", 90)])]
def constGroups_20 : List (String × List (String × Nat)) := [
  ("MAV_COMP_ID_USER67", [("all", 91), ("ardupilotmega", 91), ("asluav", 91), ("avssuas", 91), ("common", 91), ("cubepilot", 91), ("development", 91), ("loweheiser", 91), ("matrixpilot", 91), ("minimal", 91), ("paparazzi", 91), ("pythonarraytest", 91), ("standard", 91), ("storm32", 91), ("ualberta", 91), ("uavionix", 91)]),
  ("MAV_COMP_ID_USER68", [("all", 92), ("ardupilotmega", 92), ("asluav", 92), ("avssuas", 92), ("common", 92), ("cubepilot", 92), ("development", 92), ("loweheiser", 92), ("matrixpilot", 92), ("minimal", 92), ("paparazzi", 92), ("pythonarraytest", 92), ("standard", 92), ("storm32", 92), ("ualberta", 92), ("uavionix", 92)]),
  ("MAV_COMP_ID_USER69", [("all", 93), ("ardupilotmega", 93), ("asluav", 93), ("avssuas", 93), ("common", 93), ("cubepilot", 93), ("development", 93), ("loweheiser", 93), ("matrixpilot", 93), ("minimal", 93), ("paparazzi", 93), ("pythonarraytest", 93), ("standard", 93), ("storm32", 93), ("ualberta", 93), ("uavionix", 93)]),
  ("MAV_COMP_ID_USER7", [("all", 31), ("ardupilotmega", 31), ("asluav", 31), ("avssuas", 31), ("common", 31), ("cubepilot", 31), ("development", 31), ("loweheiser", 31), ("matrixpilot", 31), ("minimal", 31), ("paparazzi", 31), ("pythonarraytest", 31), ("standard", 31), ("storm32", 31), ("ualberta", 31), ("uavionix", 31)]),
  ("MAV_COMP_ID_USER70", [("all", 94), ("ardupilotmega", 94), ("asluav", 94), ("avssuas", 94), ("common", 94), ("cubepilot", 94), ("development", 94), ("loweheiser", 94), ("matrixpilot", 94), ("minimal", 94), ("paparazzi", 94), ("pythonarraytest", 94), ("standard", 94), ("storm32", 94), ("ualberta", 94), ("uavionix", 94)]),
  ("MAV_COMP_ID_USER71", [("all", 95), ("ardupilotmega", 95), ("asluav", 95), ("avssuas", 95), ("common", 95), ("cubepilot", 95), ("development", 95), ("loweheiser", 95), ("matrixpilot", 95), ("minimal", 95), ("paparazzi", 95), ("pythonarraytest", 95), ("standard", 95), ("storm32", 95), ("ualberta", 95), ("uavionix", 95)]),
  ("MAV_COMP_ID_USER72", [("all", 96), ("ardupilotmega", 96), ("asluav", 96), ("avssuas", 96), ("common", 96), ("cubepilot", 96), ("development", 96), ("loweheiser", 96), ("matrixpilot", 96), ("minimal", 96), ("paparazzi", 96), ("pythonarraytest", 96), ("standard", 96), ("storm32", 96), ("ualberta", 96), ("uavionix", 96)]),
  ("MAV_COMP_ID_USER73", [("all", 97), ("ardupilotmega", 97), ("asluav", 97), ("avssuas", 97), ("common", 97), ("cubepilot", 97), ("development", 97), ("loweheiser", 97), ("matrixpilot", 97), ("minimal", 97), ("paparazzi", 97), ("pythonarraytest", 97), ("standard", 97), ("storm32", 97), ("ualberta", 97), ("uavionix", 97)]),
  ("MAV_COMP_ID_USER74", [("all", 98), ("ardupilotmega", 98), ("asluav", 98), ("avssuas", 98), ("common", 98), ("cubepilot", 98), ("development", 98), ("loweheiser", 98), ("matrixpilot", 98), ("minimal", 98), ("paparazzi", 98), ("pythonarraytest", 98), ("standard", 98), ("storm32", 98), ("ualberta", 98), ("uavionix", 98)]),
  ("MAV_COMP_ID_USER75", [("all", 99), ("ardupilotmega", 99), ("asluav", 99), ("avssuas", 99), ("common", 99), ("cubepilot", 99), ("development", 99), ("loweheiser", 99), ("matrixpilot", 99), ("minimal", 99), ("paparazzi", 99), ("pythonarraytest", 99), ("standard", 99), ("storm32", 99), ("ualberta", 99), ("uavionix", 99)]),
  ("MAV_COMP_ID_USER8", [("all", 32), ("ardupilotmega", 32), ("asluav", 32), ("avssuas", 32), ("common", 32), ("cubepilot", 32), ("development", 32), ("loweheiser", 32), ("matrixpilot", 32), ("minimal", 32), ("paparazzi", 32), ("pythonarraytest", 32), ("standard", 32), ("storm32", 32), ("ualberta", 32), ("uavionix", 32)]),
  ("MAV_COMP_ID_USER9", [("all", 33), ("ardupilotmega", 33), ("asluav", 33), ("avssuas", 33), ("common", 33), ("cubepilot", 33), ("development", 33), ("loweheiser", 33), ("matrixpilot", 33), ("minimal", 33), ("paparazzi", 33), ("pythonarraytest", 33), ("standard", 33), ("storm32", 33), ("ualberta", 33), ("uavionix", 33)]),
  ("MAV_COMP_ID_VISUAL_INERTIAL_ODOMETRY", [("all", 197), ("ardupilotmega", 197), ("asluav", 197), ("avssuas", 197), ("common", 197), ("cubepilot", 197), ("development", 197), ("loweheiser", 197), ("matrixpilot", 197), ("minimal", 197), ("paparazzi", 197), ("pythonarraytest", 197), ("standard", 197), ("storm32", 197), ("ualberta", 197), ("uavionix", 197)]),
  ("MAV_COMP_ID_WINCH", [("all", 169), ("ardupilotmega", 169), ("asluav", 169), ("avssuas", 169), ("common", 169), ("cubepilot", 169), ("development", 169), ("loweheiser", 169), ("matrixpilot", 169), ("minimal", 169), ("paparazzi", 169), ("pythonarraytest", 169), ("standard", 169), ("storm32", 169), ("ualberta", 169), ("uavionix", 169)]),
  ("MAV_DATA_STREAM_ALL", [("all", 0), ("ardupilotmega", 0), ("asluav", 0), ("avssuas", 0), ("common", 0), ("cubepilot", 0), ("development", 0), ("matrixpilot", 0), ("paparazzi", 0), ("pythonarraytest", 0), ("storm32", 0), ("ualberta", 0), ("uavionix", 0)]),
  ("MAV_DATA_STREAM_EXTENDED_STATUS", [("all", 2), ("ardupilotmega", 2), ("asluav", 2), ("avssuas", 2), ("common", 2), ("cubepilot", 2), ("development", 2), ("matrixpilot", 2), ("paparazzi", 2), ("pythonarraytest", 2), ("storm32", 2), ("ualberta", 2), ("uavionix", 2)]),
  ("MAV_DATA_STREAM_EXTRA1", [("all", 10), ("ardupilotmega", 10), ("asluav", 10), ("avssuas", 10), ("common", 10), ("cubepilot", 10), ("development", 10), ("matrixpilot", 10), ("paparazzi", 10), ("pythonarraytest", 10), ("storm32", 10), ("ualberta", 10), ("uavionix", 10)]),
  ("MAV_DATA_STREAM_EXTRA2", [("all", 11), ("ardupilotmega", 11), ("asluav", 11), ("avssuas", 11), ("common", 11), ("cubepilot", 11), ("development", 11), ("matrixpilot", 11), ("paparazzi", 11), ("pythonarraytest", 11), ("storm32", 11), ("ualberta", 11), ("uavionix", 11)]),
  ("MAV_DATA_STREAM_EXTRA3", [("all", 12), ("ardupilotmega", 12), ("asluav", 12), ("avssuas", 12), ("common", 12), ("cubepilot", 12), ("development", 12), ("matrixpilot", 12), ("paparazzi", 12), ("pythonarraytest", 12), ("storm32", 12), ("ualberta", 12), ("uavionix", 12)]),
  ("MAV_DATA_STREAM_POSITION", [("all", 6), ("ardupilotmega", 6), ("asluav", 6), ("avssuas", 6), ("common", 6), ("cubepilot", 6), ("development", 6), ("matrixpilot", 6), ("paparazzi", 6), ("pythonarraytest", 6), ("storm32", 6), ("ualberta", 6), ("uavionix", 6)]),
  ("MAV_DATA_STREAM_RAW_CONTROLLER", [("all", 4), ("ardupilotmega", 4), ("asluav", 4), ("avssuas", 4), ("common", 4), ("cubepilot", 4), ("development", 4), ("matrixpilot", 4), ("paparazzi", 4), ("pythonarraytest", 4), ("storm32", 4), ("ualberta", 4), ("uavionix", 4)]),
  ("MAV_DATA_STREAM_RAW_SENSORS", [("all", 1), ("ardupilotmega", 1), ("asluav", 1), ("avssuas", 1), ("common", 1), ("cubepilot", 1), ("development", 1), ("matrixpilot", 1), ("paparazzi", 1), ("pythonarraytest", 1), ("storm32", 1), ("ualberta", 1), ("uavionix", 1)]),
  ("MAV_DATA_STREAM_RC_CHANNELS", [("all", 3), ("ardupilotmega", 3), ("asluav", 3), ("avssuas", 3), ("common", 3), ("cubepilot", 3), ("development", 3), ("matrixpilot", 3), ("paparazzi", 3), ("pythonarraytest", 3), ("storm32", 3), ("ualberta", 3), ("uavionix", 3)]),
  ("MAV_DISTANCE_SENSOR_INFRARED", [("all", 2), ("ardupilotmega", 2), ("asluav", 2), ("avssuas", 2), ("common", 2), ("cubepilot", 2), ("development", 2), ("matrixpilot", 2), ("paparazzi", 2), ("pythonarraytest", 2), ("storm32", 2), ("ualberta", 2), ("uavionix", 2)]),
  ("MAV_DISTANCE_SENSOR_LASER", [("all", 0), ("ardupilotmega", 0), ("asluav", 0), ("avssuas", 0), ("common", 0), ("cubepilot", 0), ("development", 0), ("matrixpilot", 0), ("paparazzi", 0), ("pythonarraytest", 0), ("storm32", 0), ("ualberta", 0), ("uavionix", 0)]),
  ("MAV_DISTANCE_SENSOR_RADAR", [("all", 3), ("ardupilotmega", 3), ("asluav", 3), ("avssuas", 3), ("common", 3), ("cubepilot", 3), ("development", 3), ("matrixpilot", 3), ("paparazzi", 3), ("pythonarraytest", 3), ("storm32", 3), ("ualberta", 3), ("uavionix", 3)]),
  ("MAV_DISTANCE_SENSOR_ULTRASOUND", [("all", 1), ("ardupilotmega", 1), ("asluav", 1), ("avssuas", 1), ("common", 1), ("cubepilot", 1), ("development", 1), ("matrixpilot", 1), ("paparazzi", 1), ("pythonarraytest", 1), ("storm32", 1), ("ualberta", 1), ("uavionix", 1)]),
  ("MAV_DISTANCE_SENSOR_UNKNOWN", [("all", 4), ("ardupilotmega", 4), ("asluav", 4), ("avssuas", 4), ("common", 4), ("cubepilot", 4), ("development", 4), ("matrixpilot", 4), ("paparazzi", 4), ("pythonarraytest", 4), ("storm32", 4), ("ualberta", 4), ("uavionix", 4)]),
  ("MAV_DO_REPOSITION_FLAGS_CHANGE_MODE", [("all", 1), ("ardupilotmega", 1), ("asluav", 1), ("avssuas", 1), ("common", 1), ("cubepilot", 1), ("development", 1), ("matrixpilot", 1), ("paparazzi", 1), ("pythonarraytest", 1), ("storm32", 1), ("ualberta", 1), ("uavionix", 1)]),
  ("MAV_ESTIMATOR_TYPE_AUTOPILOT", [("all", 8), ("ardupilotmega", 8), ("asluav", 8), ("avssuas", 8), ("common", 8), ("cubepilot", 8), ("development", 8), ("matrixpilot", 8), ("paparazzi", 8), ("pythonarraytest", 8), ("storm32", 8), ("ualberta", 8), ("uavionix", 8)]),
  ("MAV_ESTIMATOR_TYPE_GPS", [("all", 4), ("ardupilotmega", 4), ("asluav", 4), ("avssuas", 4), ("common", 4), ("cubepilot", 4), ("development", 4), ("matrixpilot", 4), ("paparazzi", 4), ("pythonarraytest", 4), ("storm32", 4), ("ualberta", 4), ("uavionix", 4)]),
  ("MAV_ESTIMATOR_TYPE_GPS_INS", [("all", 5), ("ardupilotmega", 5), ("asluav", 5), ("avssuas", 5), ("common", 5), ("cubepilot", 5), ("development", 5), ("matrixpilot", 5), ("paparazzi", 5), ("pythonarraytest", 5), ("storm32", 5), ("ualberta", 5), ("uavionix", 5)]),
  ("MAV_ESTIMATOR_TYPE_LIDAR", [("all", 7), ("ardupilotmega", 7), ("asluav", 7), ("avssuas", 7), ("common", 7), ("cubepilot", 7), ("development", 7), ("matrixpilot", 7), ("paparazzi", 7), ("pythonarraytest", 7), ("storm32", 7), ("ualberta", 7), ("uavionix", 7)]),
  ("MAV_ESTIMATOR_TYPE_MOCAP", [("all", 6), ("ardupilotmega", 6), ("asluav", 6), ("avssuas", 6), ("common", 6), ("cubepilot", 6), ("development", 6), ("matrixpilot", 6), ("paparazzi", 6), ("pythonarraytest", 6), ("storm32", 6), ("ualberta", 6), ("uavionix", 6)]),
  ("MAV_ESTIMATOR_TYPE_NAIVE", [("all", 1), ("ardupilotmega", 1), ("asluav", 1), ("avssuas", 1), ("common", 1), ("cubepilot", 1), ("development", 1), ("matrixpilot", 1), ("paparazzi", 1), ("pythonarraytest", 1), ("storm32", 1), ("ualberta", 1), ("uavionix", 1)]),
  ("MAV_ESTIMATOR_TYPE_UNKNOWN", [("all", 0), ("ardupilotmega", 0), ("asluav", 0), ("avssuas", 0), ("common", 0), ("cubepilot", 0), ("development", 0), ("matrixpilot", 0), ("paparazzi", 0), ("pythonarraytest", 0), ("storm32", 0), ("ualberta", 0), ("uavionix", 0)]),
  ("MAV_ESTIMATOR_TYPE_VIO", [("all", 3), ("ardupilotmega", 3), ("asluav", 3), ("avssuas", 3), ("common", 3), ("cubepilot", 3), ("development", 3), ("matrixpilot", 3), ("paparazzi", 3), ("pythonarraytest", 3), ("storm32", 3), ("ualberta", 3), ("uavionix", 3)]),
  ("MAV_ESTIMATOR_TYPE_VISION", [("all", 2), ("ardupilotmega", 2), ("asluav", 2), ("avssuas", 2), ("common", 2), ("cubepilot", 2), ("development", 2), ("matrixpilot", 2), ("paparazzi", 2), ("pythonarraytest", 2), ("storm32", 2), ("ualberta", 2), ("uavionix", 2)]),
  ("MAV_EVENT_CURRENT_SEQUENCE_FLAGS_RESET", [("all", 1), ("ardupilotmega", 1), ("asluav", 1), ("avssuas", 1), ("common", 1), ("cubepilot", 1), ("development", 1), ("matrixpilot", 1), ("paparazzi", 1), ("pythonarraytest", 1), ("storm32", 1), ("ualberta", 1), ("uavionix", 1)]),
  ("MAV_EVENT_ERROR_REASON_UNAVAILABLE", [("all", 0), ("ardupilotmega", 0), ("asluav", 0), ("avssuas", 0), ("common", 0), ("cubepilot", 0), ("development", 0), ("matrixpilot", 0), ("paparazzi", 0), ("pythonarraytest", 0), ("storm32", 0), ("ualberta", 0), ("uavionix", 0)]),
  ("MAV_FRAME_BODY_FRD", [("all", 12), ("ardupilotmega", 12), ("asluav", 12), ("avssuas", 12), ("common", 12), ("cubepilot", 12), ("development", 12), ("matrixpilot", 12), ("paparazzi", 12), ("pythonarraytest", 12), ("storm32", 12), ("ualberta", 12), ("uavionix", 12)]),
  ("MAV_FRAME_BODY_NED", [("all", 8), ("ardupilotmega", 8), ("asluav", 8), ("avssuas", 8), ("common", 8), ("cubepilot", 8), ("development", 8), ("matrixpilot", 8), ("paparazzi", 8), ("pythonarraytest", 8), ("storm32", 8), ("ualberta", 8), ("uavionix", 8)]),
  ("MAV_FRAME_BODY_OFFSET_NED", [("all", 9), ("ardupilotmega", 9), ("asluav", 9), ("avssuas", 9), ("common", 9), ("cubepilot", 9), ("development", 9), ("matrixpilot", 9), ("paparazzi", 9), ("pythonarraytest", 9), ("storm32", 9), ("ualberta", 9), ("uavionix", 9)]),
  ("MAV_FRAME_GLOBAL", [("all", 0), ("ardupilotmega", 0), ("asluav", 0), ("avssuas", 0), ("common", 0), ("cubepilot", 0), ("development", 0), ("matrixpilot", 0), ("paparazzi", 0), ("pythonarraytest", 0), ("storm32", 0), ("ualberta", 0), ("uavionix", 0)]),
  ("MAV_FRAME_GLOBAL_INT", [("all", 5), ("ardupilotmega", 5), ("asluav", 5), ("avssuas", 5), ("common", 5), ("cubepilot", 5), ("development", 5), ("matrixpilot", 5), ("paparazzi", 5), ("pythonarraytest", 5), ("storm32", 5), ("ualberta", 5), ("uavionix", 5)]),
  ("MAV_FRAME_GLOBAL_RELATIVE_ALT", [("all", 3), ("ardupilotmega", 3), ("asluav", 3), ("avssuas", 3), ("common", 3), ("cubepilot", 3), ("development", 3), ("matrixpilot", 3), ("paparazzi", 3), ("pythonarraytest", 3), ("storm32", 3), ("ualberta", 3), ("uavionix", 3)]),
  ("MAV_FRAME_GLOBAL_RELATIVE_ALT_INT", [("all", 6), ("ardupilotmega", 6), ("asluav", 6), ("avssuas", 6), ("common", 6), ("cubepilot", 6), ("development", 6), ("matrixpilot", 6), ("paparazzi", 6), ("pythonarraytest", 6), ("storm32", 6), ("ualberta", 6), ("uavionix", 6)]),
  ("MAV_FRAME_GLOBAL_TERRAIN_ALT", [("all", 10), ("ardupilotmega", 10), ("asluav", 10), ("avssuas", 10), ("common", 10), ("cubepilot", 10), ("development", 10), ("matrixpilot", 10), ("paparazzi", 10), ("pythonarraytest", 10), ("storm32", 10), ("ualberta", 10), ("uavionix", 10)]),
  ("MAV_FRAME_GLOBAL_TERRAIN_ALT_INT", [("all", 11), ("ardupilotmega", 11), ("asluav", 11), ("avssuas", 11), ("common", 11), ("cubepilot", 11), ("development", 11), ("matrixpilot", 11), ("paparazzi", 11), ("pythonarraytest", 11), ("storm32", 11), ("ualberta", 11), ("uavionix", 11)]),
  ("MAV_FRAME_LOCAL_ENU", [("all", 4), ("ardupilotmega", 4), ("asluav", 4), ("avssuas", 4), ("common", 4), ("cubepilot", 4), ("development", 4), ("matrixpilot", 4), ("paparazzi", 4), ("pythonarraytest", 4), ("storm32", 4), ("ualberta", 4), ("uavionix", 4)]),
  ("MAV_FRAME_LOCAL_FLU", [("all", 21), ("ardupilotmega", 21), ("asluav", 21), ("avssuas", 21), ("common", 21), ("cubepilot", 21), ("development", 21), ("matrixpilot", 21), ("paparazzi", 21), ("pythonarraytest", 21), ("storm32", 21), ("ualberta", 21), ("uavionix", 21)]),
  ("MAV_FRAME_LOCAL_FRD", [("all", 20), ("ardupilotmega", 20), ("asluav", 20), ("avssuas", 20), ("common", 20), ("cubepilot", 20), ("development", 20), ("matrixpilot", 20), ("paparazzi", 20), ("pythonarraytest", 20), ("storm32", 20), ("ualberta", 20), ("uavionix", 20)]),
  ("MAV_FRAME_LOCAL_NED", [("all", 1), ("ardupilotmega", 1), ("asluav", 1), ("avssuas", 1), ("common", 1), ("cubepilot", 1), ("development", 1), ("matrixpilot", 1), ("paparazzi", 1), ("pythonarraytest", 1), ("storm32", 1), ("ualberta", 1), ("uavionix", 1)]),
  ("MAV_FRAME_LOCAL_OFFSET_NED", [("all", 7), ("ardupilotmega", 7), ("asluav", 7), ("avssuas", 7), ("common", 7), ("cubepilot", 7), ("development", 7), ("matrixpilot", 7), ("paparazzi", 7), ("pythonarraytest", 7), ("storm32", 7), ("ualberta", 7), ("uavionix", 7)]),
  ("MAV_FRAME_MISSION", [("all", 2), ("ardupilotmega", 2), ("asluav", 2), ("avssuas", 2), ("common", 2), ("cubepilot", 2), ("development", 2), ("matrixpilot", 2), ("paparazzi", 2), ("pythonarraytest", 2), ("storm32", 2), ("ualberta", 2), ("uavionix", 2)]),
  ("MAV_FRAME_RESERVED_13", [("all", 13), ("ardupilotmega", 13), ("asluav", 13), ("avssuas", 13), ("common", 13), ("cubepilot", 13), ("development", 13), ("matrixpilot", 13), ("paparazzi", 13), ("pythonarraytest", 13), ("storm32", 13), ("ualberta", 13), ("uavionix", 13)]),
  ("MAV_FRAME_RESERVED_14", [("all", 14), ("ardupilotmega", 14), ("asluav", 14), ("avssuas", 14), ("common", 14), ("cubepilot", 14), ("development", 14), ("matrixpilot", 14), ("paparazzi", 14), ("pythonarraytest", 14), ("storm32", 14), ("ualberta", 14), ("uavionix", 14)]),
  ("MAV_FRAME_RESERVED_15", [("all", 15), ("ardupilotmega", 15), ("asluav", 15), ("avssuas", 15), ("common", 15), ("cubepilot", 15), ("development", 15), ("matrixpilot", 15), ("paparazzi", 15), ("pythonarraytest", 15), ("storm32", 15), ("ualberta", 15), ("uavionix", 15)]),
  ("MAV_FRAME_RESERVED_16", [("all", 16), ("ardupilotmega", 16), ("asluav", 16), ("avssuas", 16), ("common", 16), ("cubepilot", 16), ("development", 16), ("matrixpilot", 16), ("paparazzi", 16), ("pythonarraytest", 16), ("storm32", 16), ("ualberta", 16), ("uavionix", 16)]),
  ("MAV_FRAME_RESERVED_17", [("all", 17), ("ardupilotmega", 17), ("asluav", 17), ("avssuas", 17), ("common", 17), ("cubepilot", 17), ("development", 17), ("matrixpilot", 17), ("paparazzi", 17), ("pythonarraytest", 17), ("storm32", 17), ("ualberta", 17), ("uavionix", 17)])]
def constGroups_21 : List (String × List (String × Nat)) := [
  ("MAV_FRAME_RESERVED_18", [("all", 18), ("ardupilotmega", 18), ("asluav", 18), ("avssuas", 18), ("common", 18), ("cubepilot", 18), ("development", 18), ("matrixpilot", 18), ("paparazzi", 18), ("pythonarraytest", 18), ("storm32", 18), ("ualberta", 18), ("uavionix", 18)]),
  ("MAV_FRAME_RESERVED_19", [("all", 19), ("ardupilotmega", 19), ("asluav", 19), ("avssuas", 19), ("common", 19), ("cubepilot", 19), ("development", 19), ("matrixpilot", 19), ("paparazzi", 19), ("pythonarraytest", 19), ("storm32", 19), ("ualberta", 19), ("uavionix", 19)]),
  ("MAV_FTP_ERR_EOF", [("all", 6), ("ardupilotmega", 6), ("asluav", 6), ("avssuas", 6), ("common", 6), ("cubepilot", 6), ("development", 6), ("matrixpilot", 6), ("paparazzi", 6), ("pythonarraytest", 6), ("storm32", 6), ("ualberta", 6), ("uavionix", 6)]),
  ("MAV_FTP_ERR_FAIL", [("all", 1), ("ardupilotmega", 1), ("asluav", 1), ("avssuas", 1), ("common", 1), ("cubepilot", 1), ("development", 1), ("matrixpilot", 1), ("paparazzi", 1), ("pythonarraytest", 1), ("storm32", 1), ("ualberta", 1), ("uavionix", 1)]),
  ("MAV_FTP_ERR_FAILERRNO", [("all", 2), ("ardupilotmega", 2), ("asluav", 2), ("avssuas", 2), ("common", 2), ("cubepilot", 2), ("development", 2), ("matrixpilot", 2), ("paparazzi", 2), ("pythonarraytest", 2), ("storm32", 2), ("ualberta", 2), ("uavionix", 2)]),
  ("MAV_FTP_ERR_FILEEXISTS", [("all", 8), ("ardupilotmega", 8), ("asluav", 8), ("avssuas", 8), ("common", 8), ("cubepilot", 8), ("development", 8), ("matrixpilot", 8), ("paparazzi", 8), ("pythonarraytest", 8), ("storm32", 8), ("ualberta", 8), ("uavionix", 8)]),
  ("MAV_FTP_ERR_FILENOTFOUND", [("all", 10), ("ardupilotmega", 10), ("asluav", 10), ("avssuas", 10), ("common", 10), ("cubepilot", 10), ("development", 10), ("matrixpilot", 10), ("paparazzi", 10), ("pythonarraytest", 10), ("storm32", 10), ("ualberta", 10), ("uavionix", 10)]),
  ("MAV_FTP_ERR_FILEPROTECTED", [("all", 9), ("ardupilotmega", 9), ("asluav", 9), ("avssuas", 9), ("common", 9), ("cubepilot", 9), ("development", 9), ("matrixpilot", 9), ("paparazzi", 9), ("pythonarraytest", 9), ("storm32", 9), ("ualberta", 9), ("uavionix", 9)]),
  ("MAV_FTP_ERR_INVALIDDATASIZE", [("all", 3), ("ardupilotmega", 3), ("asluav", 3), ("avssuas", 3), ("common", 3), ("cubepilot", 3), ("development", 3), ("matrixpilot", 3), ("paparazzi", 3), ("pythonarraytest", 3), ("storm32", 3), ("ualberta", 3), ("uavionix", 3)]),
  ("MAV_FTP_ERR_INVALIDSESSION", [("all", 4), ("ardupilotmega", 4), ("asluav", 4), ("avssuas", 4), ("common", 4), ("cubepilot", 4), ("development", 4), ("matrixpilot", 4), ("paparazzi", 4), ("pythonarraytest", 4), ("storm32", 4), ("ualberta", 4), ("uavionix", 4)]),
  ("MAV_FTP_ERR_NONE", [("all", 0), ("ardupilotmega", 0), ("asluav", 0), ("avssuas", 0), ("common", 0), ("cubepilot", 0), ("development", 0), ("matrixpilot", 0), ("paparazzi", 0), ("pythonarraytest", 0), ("storm32", 0), ("ualberta", 0), ("uavionix", 0)]),
  ("MAV_FTP_ERR_NOSESSIONSAVAILABLE", [("all", 5), ("ardupilotmega", 5), ("asluav", 5), ("avssuas", 5), ("common", 5), ("cubepilot", 5), ("development", 5), ("matrixpilot", 5), ("paparazzi", 5), ("pythonarraytest", 5), ("storm32", 5), ("ualberta", 5), ("uavionix", 5)]),
  ("MAV_FTP_ERR_UNKNOWNCOMMAND", [("all", 7), ("ardupilotmega", 7), ("asluav", 7), ("avssuas", 7), ("common", 7), ("cubepilot", 7), ("development", 7), ("matrixpilot", 7), ("paparazzi", 7), ("pythonarraytest", 7), ("storm32", 7), ("ualberta", 7), ("uavionix", 7)]),
  ("MAV_FTP_OPCODE_ACK", [("all", 128), ("ardupilotmega", 128), ("asluav", 128), ("avssuas", 128), ("common", 128), ("cubepilot", 128), ("development", 128), ("matrixpilot", 128), ("paparazzi", 128), ("pythonarraytest", 128), ("storm32", 128), ("ualberta", 128), ("uavionix", 128)]),
  ("MAV_FTP_OPCODE_BURSTREADFILE", [("all", 15), ("ardupilotmega", 15), ("asluav", 15), ("avssuas", 15), ("common", 15), ("cubepilot", 15), ("development", 15), ("matrixpilot", 15), ("paparazzi", 15), ("pythonarraytest", 15), ("storm32", 15), ("ualberta", 15), ("uavionix", 15)]),
  ("MAV_FTP_OPCODE_CALCFILECRC", [("all", 14), ("ardupilotmega", 14), ("asluav", 14), ("avssuas", 14), ("common", 14), ("cubepilot", 14), ("development", 14), ("matrixpilot", 14), ("paparazzi", 14), ("pythonarraytest", 14), ("storm32", 14), ("ualberta", 14), ("uavionix", 14)]),
  ("MAV_FTP_OPCODE_CREATEDIRECTORY", [("all", 9), ("ardupilotmega", 9), ("asluav", 9), ("avssuas", 9), ("common", 9), ("cubepilot", 9), ("development", 9), ("matrixpilot", 9), ("paparazzi", 9), ("pythonarraytest", 9), ("storm32", 9), ("ualberta", 9), ("uavionix", 9)]),
  ("MAV_FTP_OPCODE_CREATEFILE", [("all", 6), ("ardupilotmega", 6), ("asluav", 6), ("avssuas", 6), ("common", 6), ("cubepilot", 6), ("development", 6), ("matrixpilot", 6), ("paparazzi", 6), ("pythonarraytest", 6), ("storm32", 6), ("ualberta", 6), ("uavionix", 6)]),
  ("MAV_FTP_OPCODE_LISTDIRECTORY", [("all", 3), ("ardupilotmega", 3), ("asluav", 3), ("avssuas", 3), ("common", 3), ("cubepilot", 3), ("development", 3), ("matrixpilot", 3), ("paparazzi", 3), ("pythonarraytest", 3), ("storm32", 3), ("ualberta", 3), ("uavionix", 3)]),
  ("MAV_FTP_OPCODE_NAK", [("all", 129), ("ardupilotmega", 129), ("asluav", 129), ("avssuas", 129), ("common", 129), ("cubepilot", 129), ("development", 129), ("matrixpilot", 129), ("paparazzi", 129), ("pythonarraytest", 129), ("storm32", 129), ("ualberta", 129), ("uavionix", 129)]),
  ("MAV_FTP_OPCODE_NONE", [("all", 0), ("ardupilotmega", 0), ("asluav", 0), ("avssuas", 0), ("common", 0), ("cubepilot", 0), ("development", 0), ("matrixpilot", 0), ("paparazzi", 0), ("pythonarraytest", 0), ("storm32", 0), ("ualberta", 0), ("uavionix", 0)]),
  ("MAV_FTP_OPCODE_OPENFILERO", [("all", 4), ("ardupilotmega", 4), ("asluav", 4), ("avssuas", 4), ("common", 4), ("cubepilot", 4), ("development", 4), ("matrixpilot", 4), ("paparazzi", 4), ("pythonarraytest", 4), ("storm32", 4), ("ualberta", 4), ("uavionix", 4)]),
  ("MAV_FTP_OPCODE_OPENFILEWO", [("all", 11), ("ardupilotmega", 11), ("asluav", 11), ("avssuas", 11), ("common", 11), ("cubepilot", 11), ("development", 11), ("matrixpilot", 11), ("paparazzi", 11), ("pythonarraytest", 11), ("storm32", 11), ("ualberta", 11), ("uavionix", 11)]),
  ("MAV_FTP_OPCODE_READFILE", [("all", 5), ("ardupilotmega", 5), ("asluav", 5), ("avssuas", 5), ("common", 5), ("cubepilot", 5), ("development", 5), ("matrixpilot", 5), ("paparazzi", 5), ("pythonarraytest", 5), ("storm32", 5), ("ualberta", 5), ("uavionix", 5)]),
  ("MAV_FTP_OPCODE_REMOVEDIRECTORY", [("all", 10), ("ardupilotmega", 10), ("asluav", 10), ("avssuas", 10), ("common", 10), ("cubepilot", 10), ("development", 10), ("matrixpilot", 10), ("paparazzi", 10), ("pythonarraytest", 10), ("storm32", 10), ("ualberta", 10), ("uavionix", 10)]),
  ("MAV_FTP_OPCODE_REMOVEFILE", [("all", 8), ("ardupilotmega", 8), ("asluav", 8), ("avssuas", 8), ("common", 8), ("cubepilot", 8), ("development", 8), ("matrixpilot", 8), ("paparazzi", 8), ("pythonarraytest", 8), ("storm32", 8), ("ualberta", 8), ("uavionix", 8)]),
  ("MAV_FTP_OPCODE_RENAME", [("all", 13), ("ardupilotmega", 13), ("asluav", 13), ("avssuas", 13), ("common", 13), ("cubepilot", 13), ("development", 13), ("matrixpilot", 13), ("paparazzi", 13), ("pythonarraytest", 13), ("storm32", 13), ("ualberta", 13), ("uavionix", 13)]),
  ("MAV_FTP_OPCODE_RESETSESSION", [("all", 2), ("ardupilotmega", 2), ("asluav", 2), ("avssuas", 2), ("common", 2), ("cubepilot", 2), ("development", 2), ("matrixpilot", 2), ("paparazzi", 2), ("pythonarraytest", 2), ("storm32", 2), ("ualberta", 2), ("uavionix", 2)]),
  ("MAV_FTP_OPCODE_TERMINATESESSION", [("all", 1), ("ardupilotmega", 1), ("asluav", 1), ("avssuas", 1), ("common", 1), ("cubepilot", 1), ("development", 1), ("matrixpilot", 1), ("paparazzi", 1), ("pythonarraytest", 1), ("storm32", 1), ("ualberta", 1), ("uavionix", 1)]),
  ("MAV_FTP_OPCODE_TRUNCATEFILE", [("all", 12), ("ardupilotmega", 12), ("asluav", 12), ("avssuas", 12), ("common", 12), ("cubepilot", 12), ("development", 12), ("matrixpilot", 12), ("paparazzi", 12), ("pythonarraytest", 12), ("storm32", 12), ("ualberta", 12), ("uavionix", 12)]),
  ("MAV_FTP_OPCODE_WRITEFILE", [("all", 7), ("ardupilotmega", 7), ("asluav", 7), ("avssuas", 7), ("common", 7), ("cubepilot", 7), ("development", 7), ("matrixpilot", 7), ("paparazzi", 7), ("pythonarraytest", 7), ("storm32", 7), ("ualberta", 7), ("uavionix", 7)]),
  ("MAV_FUEL_TYPE_GAS", [("all", 2), ("ardupilotmega", 2), ("asluav", 2), ("avssuas", 2), ("common", 2), ("cubepilot", 2), ("development", 2), ("matrixpilot", 2), ("paparazzi", 2), ("pythonarraytest", 2), ("storm32", 2), ("ualberta", 2), ("uavionix", 2)]),
  ("MAV_FUEL_TYPE_LIQUID", [("all", 1), ("ardupilotmega", 1), ("asluav", 1), ("avssuas", 1), ("common", 1), ("cubepilot", 1), ("development", 1), ("matrixpilot", 1), ("paparazzi", 1), ("pythonarraytest", 1), ("storm32", 1), ("ualberta", 1), ("uavionix", 1)]),
  ("MAV_FUEL_TYPE_UNKNOWN", [("all", 0), ("ardupilotmega", 0), ("asluav", 0), ("avssuas", 0), ("common", 0), ("cubepilot", 0), ("development", 0), ("matrixpilot", 0), ("paparazzi", 0), ("pythonarraytest", 0), ("storm32", 0), ("ualberta", 0), ("uavionix", 0)]),
  ("MAV_GENERATOR_STATUS_FLAG_BATTERY_OVERCHARGE_CURRENT_FAULT", [("all", 65536), ("ardupilotmega", 65536), ("asluav", 65536), ("avssuas", 65536), ("common", 65536), ("cubepilot", 65536), ("development", 65536), ("matrixpilot", 65536), ("paparazzi", 65536), ("pythonarraytest", 65536), ("storm32", 65536), ("ualberta", 65536), ("uavionix", 65536)]),
  ("MAV_GENERATOR_STATUS_FLAG_BATTERY_UNDERVOLT_FAULT", [("all", 262144), ("ardupilotmega", 262144), ("asluav", 262144), ("avssuas", 262144), ("common", 262144), ("cubepilot", 262144), ("development", 262144), ("matrixpilot", 262144), ("paparazzi", 262144), ("pythonarraytest", 262144), ("storm32", 262144), ("ualberta", 262144), ("uavionix", 262144)]),
  ("MAV_GENERATOR_STATUS_FLAG_CHARGING", [("all", 8), ("ardupilotmega", 8), ("asluav", 8), ("avssuas", 8), ("common", 8), ("cubepilot", 8), ("development", 8), ("matrixpilot", 8), ("paparazzi", 8), ("pythonarraytest", 8), ("storm32", 8), ("ualberta", 8), ("uavionix", 8)]),
  ("MAV_GENERATOR_STATUS_FLAG_COMMUNICATION_WARNING", [("all", 4096), ("ardupilotmega", 4096), ("asluav", 4096), ("avssuas", 4096), ("common", 4096), ("cubepilot", 4096), ("development", 4096), ("matrixpilot", 4096), ("paparazzi", 4096), ("pythonarraytest", 4096), ("storm32", 4096), ("ualberta", 4096), ("uavionix", 4096)]),
  ("MAV_GENERATOR_STATUS_FLAG_COOLING_WARNING", [("all", 8192), ("ardupilotmega", 8192), ("asluav", 8192), ("avssuas", 8192), ("common", 8192), ("cubepilot", 8192), ("development", 8192), ("matrixpilot", 8192), ("paparazzi", 8192), ("pythonarraytest", 8192), ("storm32", 8192), ("ualberta", 8192), ("uavionix", 8192)]),
  ("MAV_GENERATOR_STATUS_FLAG_ELECTRONICS_FAULT", [("all", 1024), ("ardupilotmega", 1024), ("asluav", 1024), ("avssuas", 1024), ("common", 1024), ("cubepilot", 1024), ("development", 1024), ("matrixpilot", 1024), ("paparazzi", 1024), ("pythonarraytest", 1024), ("storm32", 1024), ("ualberta", 1024), ("uavionix", 1024)]),
  ("MAV_GENERATOR_STATUS_FLAG_ELECTRONICS_OVERTEMP_FAULT", [("all", 512), ("ardupilotmega", 512), ("asluav", 512), ("avssuas", 512), ("common", 512), ("cubepilot", 512), ("development", 512), ("matrixpilot", 512), ("paparazzi", 512), ("pythonarraytest", 512), ("storm32", 512), ("ualberta", 512), ("uavionix", 512)]),
  ("MAV_GENERATOR_STATUS_FLAG_ELECTRONICS_OVERTEMP_WARNING", [("all", 256), ("ardupilotmega", 256), ("asluav", 256), ("avssuas", 256), ("common", 256), ("cubepilot", 256), ("development", 256), ("matrixpilot", 256), ("paparazzi", 256), ("pythonarraytest", 256), ("storm32", 256), ("ualberta", 256), ("uavionix", 256)]),
  ("MAV_GENERATOR_STATUS_FLAG_GENERATING", [("all", 4), ("ardupilotmega", 4), ("asluav", 4), ("avssuas", 4), ("common", 4), ("cubepilot", 4), ("development", 4), ("matrixpilot", 4), ("paparazzi", 4), ("pythonarraytest", 4), ("storm32", 4), ("ualberta", 4), ("uavionix", 4)]),
  ("MAV_GENERATOR_STATUS_FLAG_IDLE", [("all", 4194304), ("ardupilotmega", 4194304), ("asluav", 4194304), ("avssuas", 4194304), ("common", 4194304), ("cubepilot", 4194304), ("development", 4194304), ("matrixpilot", 4194304), ("paparazzi", 4194304), ("pythonarraytest", 4194304), ("storm32", 4194304), ("ualberta", 4194304), ("uavionix", 4194304)]),
  ("MAV_GENERATOR_STATUS_FLAG_MAINTENANCE_REQUIRED", [("all", 1048576), ("ardupilotmega", 1048576), ("asluav", 1048576), ("avssuas", 1048576), ("common", 1048576), ("cubepilot", 1048576), ("development", 1048576), ("matrixpilot", 1048576), ("paparazzi", 1048576), ("pythonarraytest", 1048576), ("storm32", 1048576), ("ualberta", 1048576), ("uavionix", 1048576)]),
  ("MAV_GENERATOR_STATUS_FLAG_MAXPOWER", [("all", 32), ("ardupilotmega", 32), ("asluav", 32), ("avssuas", 32), ("common", 32), ("cubepilot", 32), ("development", 32), ("matrixpilot", 32), ("paparazzi", 32), ("pythonarraytest", 32), ("storm32", 32), ("ualberta", 32), ("uavionix", 32)]),
  ("MAV_GENERATOR_STATUS_FLAG_OFF", [("all", 1), ("ardupilotmega", 1), ("asluav", 1), ("avssuas", 1), ("common", 1), ("cubepilot", 1), ("development", 1), ("matrixpilot", 1), ("paparazzi", 1), ("pythonarraytest", 1), ("storm32", 1), ("ualberta", 1), ("uavionix", 1)]),
  ("MAV_GENERATOR_STATUS_FLAG_OVERCURRENT_FAULT", [("all", 32768), ("ardupilotmega", 32768), ("asluav", 32768), ("avssuas", 32768), ("common", 32768), ("cubepilot", 32768), ("development", 32768), ("matrixpilot", 32768), ("paparazzi", 32768), ("pythonarraytest", 32768), ("storm32", 32768), ("ualberta", 32768), ("uavionix", 32768)]),
  ("MAV_GENERATOR_STATUS_FLAG_OVERTEMP_FAULT", [("all", 128), ("ardupilotmega", 128), ("asluav", 128), ("avssuas", 128), ("common", 128), ("cubepilot", 128), ("development", 128), ("matrixpilot", 128), ("paparazzi", 128), ("pythonarraytest", 128), ("storm32", 128), ("ualberta", 128), ("uavionix", 128)]),
  ("MAV_GENERATOR_STATUS_FLAG_OVERTEMP_WARNING", [("all", 64), ("ardupilotmega", 64), ("asluav", 64), ("avssuas", 64), ("common", 64), ("cubepilot", 64), ("development", 64), ("matrixpilot", 64), ("paparazzi", 64), ("pythonarraytest", 64), ("storm32", 64), ("ualberta", 64), ("uavionix", 64)]),
  ("MAV_GENERATOR_STATUS_FLAG_OVERVOLTAGE_FAULT", [("all", 131072), ("ardupilotmega", 131072), ("asluav", 131072), ("avssuas", 131072), ("common", 131072), ("cubepilot", 131072), ("development", 131072), ("matrixpilot", 131072), ("paparazzi", 131072), ("pythonarraytest", 131072), ("storm32", 131072), ("ualberta", 131072), ("uavionix", 131072)]),
  ("MAV_GENERATOR_STATUS_FLAG_POWERSOURCE_FAULT", [("all", 2048), ("ardupilotmega", 2048), ("asluav", 2048), ("avssuas", 2048), ("common", 2048), ("cubepilot", 2048), ("development", 2048), ("matrixpilot", 2048), ("paparazzi", 2048), ("pythonarraytest", 2048), ("storm32", 2048), ("ualberta", 2048), ("uavionix", 2048)]),
  ("MAV_GENERATOR_STATUS_FLAG_POWER_RAIL_FAULT", [("all", 16384), ("ardupilotmega", 16384), ("asluav", 16384), ("avssuas", 16384), ("common", 16384), ("cubepilot", 16384), ("development", 16384), ("matrixpilot", 16384), ("paparazzi", 16384), ("pythonarraytest", 16384), ("storm32", 16384), ("ualberta", 16384), ("uavionix", 16384)]),
  ("MAV_GENERATOR_STATUS_FLAG_READY", [("all", 2), ("ardupilotmega", 2), ("asluav", 2), ("avssuas", 2), ("common", 2), ("cubepilot", 2), ("development", 2), ("matrixpilot", 2), ("paparazzi", 2), ("pythonarraytest", 2), ("storm32", 2), ("ualberta", 2), ("uavionix", 2)]),
  ("MAV_GENERATOR_STATUS_FLAG_REDUCED_POWER", [("all", 16), ("ardupilotmega", 16), ("asluav", 16), ("avssuas", 16), ("common", 16), ("cubepilot", 16), ("development", 16), ("matrixpilot", 16), ("paparazzi", 16), ("pythonarraytest", 16), ("storm32", 16), ("ualberta", 16), ("uavionix", 16)]),
  ("MAV_GENERATOR_STATUS_FLAG_START_INHIBITED", [("all", 524288), ("ardupilotmega", 524288), ("asluav", 524288), ("avssuas", 524288), ("common", 524288), ("cubepilot", 524288), ("development", 524288), ("matrixpilot", 524288), ("paparazzi", 524288), ("pythonarraytest", 524288), ("storm32", 524288), ("ualberta", 524288), ("uavionix", 524288)]),
  ("MAV_GENERATOR_STATUS_FLAG_WARMING_UP", [("all", 2097152), ("ardupilotmega", 2097152), ("asluav", 2097152), ("avssuas", 2097152), ("common", 2097152), ("cubepilot", 2097152), ("development", 2097152), ("matrixpilot", 2097152), ("paparazzi", 2097152), ("pythonarraytest", 2097152), ("storm32", 2097152), ("ualberta", 2097152), ("uavionix", 2097152)]),
  ("MAV_GOTO_DO_CONTINUE", [("all", 1), ("ardupilotmega", 1), ("asluav", 1), ("avssuas", 1), ("common", 1), ("cubepilot", 1), ("development", 1), ("matrixpilot", 1), ("paparazzi", 1), ("pythonarraytest", 1), ("storm32", 1), ("ualberta", 1), ("uavionix", 1)]),
  ("MAV_GOTO_DO_HOLD", [("all", 0), ("ardupilotmega", 0), ("asluav", 0), ("avssuas", 0), ("common", 0), ("cubepilot", 0), ("development", 0), ("matrixpilot", 0), ("paparazzi", 0), ("pythonarraytest", 0), ("storm32", 0), ("ualberta", 0), ("uavionix", 0)]),
  ("MAV_GOTO_HOLD_AT_CURRENT_POSITION", [("all", 2), ("ardupilotmega", 2), ("asluav", 2), ("avssuas", 2), ("common", 2), ("cubepilot", 2), ("development", 2), ("matrixpilot", 2), ("paparazzi", 2), ("pythonarraytest", 2), ("storm32", 2), ("ualberta", 2), ("uavionix", 2)])]
def constGroups_22 : List (String × List (String × Nat)) := [
  ("MAV_GOTO_HOLD_AT_SPECIFIED_POSITION", [("all", 3), ("ardupilotmega", 3), ("asluav", 3), ("avssuas", 3), ("common", 3), ("cubepilot", 3), ("development", 3), ("matrixpilot", 3), ("paparazzi", 3), ("pythonarraytest", 3), ("storm32", 3), ("ualberta", 3), ("uavionix", 3)]),
  ("MAV_LANDED_STATE_IN_AIR", [("all", 2), ("ardupilotmega", 2), ("asluav", 2), ("avssuas", 2), ("common", 2), ("cubepilot", 2), ("development", 2), ("matrixpilot", 2), ("paparazzi", 2), ("pythonarraytest", 2), ("storm32", 2), ("ualberta", 2), ("uavionix", 2)]),
  ("MAV_LANDED_STATE_LANDING", [("all", 4), ("ardupilotmega", 4), ("asluav", 4), ("avssuas", 4), ("common", 4), ("cubepilot", 4), ("development", 4), ("matrixpilot", 4), ("paparazzi", 4), ("pythonarraytest", 4), ("storm32", 4), ("ualberta", 4), ("uavionix", 4)]),
  ("MAV_LANDED_STATE_ON_GROUND", [("all", 1), ("ardupilotmega", 1), ("asluav", 1), ("avssuas", 1), ("common", 1), ("cubepilot", 1), ("development", 1), ("matrixpilot", 1), ("paparazzi", 1), ("pythonarraytest", 1), ("storm32", 1), ("ualberta", 1), ("uavionix", 1)]),
  ("MAV_LANDED_STATE_TAKEOFF", [("all", 3), ("ardupilotmega", 3), ("asluav", 3), ("avssuas", 3), ("common", 3), ("cubepilot", 3), ("development", 3), ("matrixpilot", 3), ("paparazzi", 3), ("pythonarraytest", 3), ("storm32", 3), ("ualberta", 3), ("uavionix", 3)]),
  ("MAV_LANDED_STATE_UNDEFINED", [("all", 0), ("ardupilotmega", 0), ("asluav", 0), ("avssuas", 0), ("common", 0), ("cubepilot", 0), ("development", 0), ("matrixpilot", 0), ("paparazzi", 0), ("pythonarraytest", 0), ("storm32", 0), ("ualberta", 0), ("uavionix", 0)]),
  ("MAV_MISSION_ACCEPTED", [("all", 0), ("ardupilotmega", 0), ("asluav", 0), ("avssuas", 0), ("common", 0), ("cubepilot", 0), ("development", 0), ("matrixpilot", 0), ("paparazzi", 0), ("pythonarraytest", 0), ("storm32", 0), ("ualberta", 0), ("uavionix", 0)]),
  ("MAV_MISSION_DENIED", [("all", 14), ("ardupilotmega", 14), ("asluav", 14), ("avssuas", 14), ("common", 14), ("cubepilot", 14), ("development", 14), ("matrixpilot", 14), ("paparazzi", 14), ("pythonarraytest", 14), ("storm32", 14), ("ualberta", 14), ("uavionix", 14)]),
  ("MAV_MISSION_ERROR", [("all", 1), ("ardupilotmega", 1), ("asluav", 1), ("avssuas", 1), ("common", 1), ("cubepilot", 1), ("development", 1), ("matrixpilot", 1), ("paparazzi", 1), ("pythonarraytest", 1), ("storm32", 1), ("ualberta", 1), ("uavionix", 1)]),
  ("MAV_MISSION_INVALID", [("all", 5), ("ardupilotmega", 5), ("asluav", 5), ("avssuas", 5), ("common", 5), ("cubepilot", 5), ("development", 5), ("matrixpilot", 5), ("paparazzi", 5), ("pythonarraytest", 5), ("storm32", 5), ("ualberta", 5), ("uavionix", 5)]),
  ("MAV_MISSION_INVALID_PARAM1", [("all", 6), ("ardupilotmega", 6), ("asluav", 6), ("avssuas", 6), ("common", 6), ("cubepilot", 6), ("development", 6), ("matrixpilot", 6), ("paparazzi", 6), ("pythonarraytest", 6), ("storm32", 6), ("ualberta", 6), ("uavionix", 6)]),
  ("MAV_MISSION_INVALID_PARAM2", [("all", 7), ("ardupilotmega", 7), ("asluav", 7), ("avssuas", 7), ("common", 7), ("cubepilot", 7), ("development", 7), ("matrixpilot", 7), ("paparazzi", 7), ("pythonarraytest", 7), ("storm32", 7), ("ualberta", 7), ("uavionix", 7)]),
  ("MAV_MISSION_INVALID_PARAM3", [("all", 8), ("ardupilotmega", 8), ("asluav", 8), ("avssuas", 8), ("common", 8), ("cubepilot", 8), ("development", 8), ("matrixpilot", 8), ("paparazzi", 8), ("pythonarraytest", 8), ("storm32", 8), ("ualberta", 8), ("uavionix", 8)]),
  ("MAV_MISSION_INVALID_PARAM4", [("all", 9), ("ardupilotmega", 9), ("asluav", 9), ("avssuas", 9), ("common", 9), ("cubepilot", 9), ("development", 9), ("matrixpilot", 9), ("paparazzi", 9), ("pythonarraytest", 9), ("storm32", 9), ("ualberta", 9), ("uavionix", 9)]),
  ("MAV_MISSION_INVALID_PARAM5_X", [("all", 10), ("ardupilotmega", 10), ("asluav", 10), ("avssuas", 10), ("common", 10), ("cubepilot", 10), ("development", 10), ("matrixpilot", 10), ("paparazzi", 10), ("pythonarraytest", 10), ("storm32", 10), ("ualberta", 10), ("uavionix", 10)]),
  ("MAV_MISSION_INVALID_PARAM6_Y", [("all", 11), ("ardupilotmega", 11), ("asluav", 11), ("avssuas", 11), ("common", 11), ("cubepilot", 11), ("development", 11), ("matrixpilot", 11), ("paparazzi", 11), ("pythonarraytest", 11), ("storm32", 11), ("ualberta", 11), ("uavionix", 11)]),
  ("MAV_MISSION_INVALID_PARAM7", [("all", 12), ("ardupilotmega", 12), ("asluav", 12), ("avssuas", 12), ("common", 12), ("cubepilot", 12), ("development", 12), ("matrixpilot", 12), ("paparazzi", 12), ("pythonarraytest", 12), ("storm32", 12), ("ualberta", 12), ("uavionix", 12)]),
  ("MAV_MISSION_INVALID_SEQUENCE", [("all", 13), ("ardupilotmega", 13), ("asluav", 13), ("avssuas", 13), ("common", 13), ("cubepilot", 13), ("development", 13), ("matrixpilot", 13), ("paparazzi", 13), ("pythonarraytest", 13), ("storm32", 13), ("ualberta", 13), ("uavionix", 13)]),
  ("MAV_MISSION_NO_SPACE", [("all", 4), ("ardupilotmega", 4), ("asluav", 4), ("avssuas", 4), ("common", 4), ("cubepilot", 4), ("development", 4), ("matrixpilot", 4), ("paparazzi", 4), ("pythonarraytest", 4), ("storm32", 4), ("ualberta", 4), ("uavionix", 4)]),
  ("MAV_MISSION_OPERATION_CANCELLED", [("all", 15), ("ardupilotmega", 15), ("asluav", 15), ("avssuas", 15), ("common", 15), ("cubepilot", 15), ("development", 15), ("matrixpilot", 15), ("paparazzi", 15), ("pythonarraytest", 15), ("storm32", 15), ("ualberta", 15), ("uavionix", 15)]),
  ("MAV_MISSION_TYPE_ALL", [("all", 255), ("ardupilotmega", 255), ("asluav", 255), ("avssuas", 255), ("common", 255), ("cubepilot", 255), ("development", 255), ("matrixpilot", 255), ("paparazzi", 255), ("pythonarraytest", 255), ("storm32", 255), ("ualberta", 255), ("uavionix", 255)]),
  ("MAV_MISSION_TYPE_FENCE", [("all", 1), ("ardupilotmega", 1), ("asluav", 1), ("avssuas", 1), ("common", 1), ("cubepilot", 1), ("development", 1), ("matrixpilot", 1), ("paparazzi", 1), ("pythonarraytest", 1), ("storm32", 1), ("ualberta", 1), ("uavionix", 1)]),
  ("MAV_MISSION_TYPE_MISSION", [("all", 0), ("ardupilotmega", 0), ("asluav", 0), ("avssuas", 0), ("common", 0), ("cubepilot", 0), ("development", 0), ("matrixpilot", 0), ("paparazzi", 0), ("pythonarraytest", 0), ("storm32", 0), ("ualberta", 0), ("uavionix", 0)]),
  ("MAV_MISSION_TYPE_RALLY", [("all", 2), ("ardupilotmega", 2), ("asluav", 2), ("avssuas", 2), ("common", 2), ("cubepilot", 2), ("development", 2), ("matrixpilot", 2), ("paparazzi", 2), ("pythonarraytest", 2), ("storm32", 2), ("ualberta", 2), ("uavionix", 2)]),
  ("MAV_MISSION_UNSUPPORTED", [("all", 3), ("ardupilotmega", 3), ("asluav", 3), ("avssuas", 3), ("common", 3), ("cubepilot", 3), ("development", 3), ("matrixpilot", 3), ("paparazzi", 3), ("pythonarraytest", 3), ("storm32", 3), ("ualberta", 3), ("uavionix", 3)]),
  ("MAV_MISSION_UNSUPPORTED_FRAME", [("all", 2), ("ardupilotmega", 2), ("asluav", 2), ("avssuas", 2), ("common", 2), ("cubepilot", 2), ("development", 2), ("matrixpilot", 2), ("paparazzi", 2), ("pythonarraytest", 2), ("storm32", 2), ("ualberta", 2), ("uavionix", 2)]),
  ("MAV_MODE_AUTO_ARMED", [("all", 220), ("ardupilotmega", 220), ("asluav", 220), ("avssuas", 220), ("common", 220), ("cubepilot", 220), ("development", 220), ("matrixpilot", 220), ("paparazzi", 220), ("pythonarraytest", 220), ("storm32", 220), ("ualberta", 220), ("uavionix", 220)]),
  ("MAV_MODE_AUTO_DISARMED", [("all", 92), ("ardupilotmega", 92), ("asluav", 92), ("avssuas", 92), ("common", 92), ("cubepilot", 92), ("development", 92), ("matrixpilot", 92), ("paparazzi", 92), ("pythonarraytest", 92), ("storm32", 92), ("ualberta", 92), ("uavionix", 92)]),
  ("MAV_MODE_FLAG_AUTO_ENABLED", [("all", 4), ("ardupilotmega", 4), ("asluav", 4), ("avssuas", 4), ("common", 4), ("cubepilot", 4), ("development", 4), ("loweheiser", 4), ("matrixpilot", 4), ("minimal", 4), ("paparazzi", 4), ("pythonarraytest", 4), ("standard", 4), ("storm32", 4), ("ualberta", 4), ("uavionix", 4)]),
  ("MAV_MODE_FLAG_CUSTOM_MODE_ENABLED", [("all", 1), ("ardupilotmega", 1), ("asluav", 1), ("avssuas", 1), ("common", 1), ("cubepilot", 1), ("development", 1), ("loweheiser", 1), ("matrixpilot", 1), ("minimal", 1), ("paparazzi", 1), ("pythonarraytest", 1), ("standard", 1), ("storm32", 1), ("ualberta", 1), ("uavionix", 1)]),
  ("MAV_MODE_FLAG_DECODE_POSITION_AUTO", [("all", 4), ("ardupilotmega", 4), ("asluav", 4), ("avssuas", 4), ("common", 4), ("cubepilot", 4), ("development", 4), ("loweheiser", 4), ("matrixpilot", 4), ("minimal", 4), ("paparazzi", 4), ("pythonarraytest", 4), ("standard", 4), ("storm32", 4), ("ualberta", 4), ("uavionix", 4)]),
  ("MAV_MODE_FLAG_DECODE_POSITION_CUSTOM_MODE", [("all", 1), ("ardupilotmega", 1), ("asluav", 1), ("avssuas", 1), ("common", 1), ("cubepilot", 1), ("development", 1), ("loweheiser", 1), ("matrixpilot", 1), ("minimal", 1), ("paparazzi", 1), ("pythonarraytest", 1), ("standard", 1), ("storm32", 1), ("ualberta", 1), ("uavionix", 1)]),
  ("MAV_MODE_FLAG_DECODE_POSITION_GUIDED", [("all", 8), ("ardupilotmega", 8), ("asluav", 8), ("avssuas", 8), ("common", 8), ("cubepilot", 8), ("development", 8), ("loweheiser", 8), ("matrixpilot", 8), ("minimal", 8), ("paparazzi", 8), ("pythonarraytest", 8), ("standard", 8), ("storm32", 8), ("ualberta", 8), ("uavionix", 8)]),
  ("MAV_MODE_FLAG_DECODE_POSITION_HIL", [("all", 32), ("ardupilotmega", 32), ("asluav", 32), ("avssuas", 32), ("common", 32), ("cubepilot", 32), ("development", 32), ("loweheiser", 32), ("matrixpilot", 32), ("minimal", 32), ("paparazzi", 32), ("pythonarraytest", 32), ("standard", 32), ("storm32", 32), ("ualberta", 32), ("uavionix", 32)]),
  ("MAV_MODE_FLAG_DECODE_POSITION_MANUAL", [("all", 64), ("ardupilotmega", 64), ("asluav", 64), ("avssuas", 64), ("common", 64), ("cubepilot", 64), ("development", 64), ("loweheiser", 64), ("matrixpilot", 64), ("minimal", 64), ("paparazzi", 64), ("pythonarraytest", 64), ("standard", 64), ("storm32", 64), ("ualberta", 64), ("uavionix", 64)]),
  ("MAV_MODE_FLAG_DECODE_POSITION_SAFETY", [("all", 128), ("ardupilotmega", 128), ("asluav", 128), ("avssuas", 128), ("common", 128), ("cubepilot", 128), ("development", 128), ("loweheiser", 128), ("matrixpilot", 128), ("minimal", 128), ("paparazzi", 128), ("pythonarraytest", 128), ("standard", 128), ("storm32", 128), ("ualberta", 128), ("uavionix", 128)]),
  ("MAV_MODE_FLAG_DECODE_POSITION_STABILIZE", [("all", 16), ("ardupilotmega", 16), ("asluav", 16), ("avssuas", 16), ("common", 16), ("cubepilot", 16), ("development", 16), ("loweheiser", 16), ("matrixpilot", 16), ("minimal", 16), ("paparazzi", 16), ("pythonarraytest", 16), ("standard", 16), ("storm32", 16), ("ualberta", 16), ("uavionix", 16)]),
  ("MAV_MODE_FLAG_DECODE_POSITION_TEST", [("all", 2), ("ardupilotmega", 2), ("asluav", 2), ("avssuas", 2), ("common", 2), ("cubepilot", 2), ("development", 2), ("loweheiser", 2), ("matrixpilot", 2), ("minimal", 2), ("paparazzi", 2), ("pythonarraytest", 2), ("standard", 2), ("storm32", 2), ("ualberta", 2), ("uavionix", 2)]),
  ("MAV_MODE_FLAG_GUIDED_ENABLED", [("all", 8), ("ardupilotmega", 8), ("asluav", 8), ("avssuas", 8), ("common", 8), ("cubepilot", 8), ("development", 8), ("loweheiser", 8), ("matrixpilot", 8), ("minimal", 8), ("paparazzi", 8), ("pythonarraytest", 8), ("standard", 8), ("storm32", 8), ("ualberta", 8), ("uavionix", 8)]),
  ("MAV_MODE_FLAG_HIL_ENABLED", [("all", 32), ("ardupilotmega", 32), ("asluav", 32), ("avssuas", 32), ("common", 32), ("cubepilot", 32), ("development", 32), ("loweheiser", 32), ("matrixpilot", 32), ("minimal", 32), ("paparazzi", 32), ("pythonarraytest", 32), ("standard", 32), ("storm32", 32), ("ualberta", 32), ("uavionix", 32)]),
  ("MAV_MODE_FLAG_MANUAL_INPUT_ENABLED", [("all", 64), ("ardupilotmega", 64), ("asluav", 64), ("avssuas", 64), ("common", 64), ("cubepilot", 64), ("development", 64), ("loweheiser", 64), ("matrixpilot", 64), ("minimal", 64), ("paparazzi", 64), ("pythonarraytest", 64), ("standard", 64), ("storm32", 64), ("ualberta", 64), ("uavionix", 64)]),
  ("MAV_MODE_FLAG_SAFETY_ARMED", [("all", 128), ("ardupilotmega", 128), ("asluav", 128), ("avssuas", 128), ("common", 128), ("cubepilot", 128), ("development", 128), ("loweheiser", 128), ("matrixpilot", 128), ("minimal", 128), ("paparazzi", 128), ("pythonarraytest", 128), ("standard", 128), ("storm32", 128), ("ualberta", 128), ("uavionix", 128)]),
  ("MAV_MODE_FLAG_STABILIZE_ENABLED", [("all", 16), ("ardupilotmega", 16), ("asluav", 16), ("avssuas", 16), ("common", 16), ("cubepilot", 16), ("development", 16), ("loweheiser", 16), ("matrixpilot", 16), ("minimal", 16), ("paparazzi", 16), ("pythonarraytest", 16), ("standard", 16), ("storm32", 16), ("ualberta", 16), ("uavionix", 16)]),
  ("MAV_MODE_FLAG_TEST_ENABLED", [("all", 2), ("ardupilotmega", 2), ("asluav", 2), ("avssuas", 2), ("common", 2), ("cubepilot", 2), ("development", 2), ("loweheiser", 2), ("matrixpilot", 2), ("minimal", 2), ("paparazzi", 2), ("pythonarraytest", 2), ("standard", 2), ("storm32", 2), ("ualberta", 2), ("uavionix", 2)]),
  ("MAV_MODE_GIMBAL_ACTIVE", [("all", 5), ("ardupilotmega", 5), ("storm32", 5)]),
  ("MAV_MODE_GIMBAL_CALIBRATING_PITCH", [("all", 1), ("ardupilotmega", 1), ("storm32", 1)]),
  ("MAV_MODE_GIMBAL_CALIBRATING_ROLL", [("all", 2), ("ardupilotmega", 2), ("storm32", 2)]),
  ("MAV_MODE_GIMBAL_CALIBRATING_YAW", [("all", 3), ("ardupilotmega", 3), ("storm32", 3)]),
  ("MAV_MODE_GIMBAL_INITIALIZED", [("all", 4), ("ardupilotmega", 4), ("storm32", 4)]),
  ("MAV_MODE_GIMBAL_RATE_CMD_TIMEOUT", [("all", 6), ("ardupilotmega", 6), ("storm32", 6)]),
  ("MAV_MODE_GIMBAL_UNINITIALIZED", [("all", 0), ("ardupilotmega", 0), ("storm32", 0)]),
  ("MAV_MODE_GUIDED_ARMED", [("all", 216), ("ardupilotmega", 216), ("asluav", 216), ("avssuas", 216), ("common", 216), ("cubepilot", 216), ("development", 216), ("matrixpilot", 216), ("paparazzi", 216), ("pythonarraytest", 216), ("storm32", 216), ("ualberta", 216), ("uavionix", 216)]),
  ("MAV_MODE_GUIDED_DISARMED", [("all", 88), ("ardupilotmega", 88), ("asluav", 88), ("avssuas", 88), ("common", 88), ("cubepilot", 88), ("development", 88), ("matrixpilot", 88), ("paparazzi", 88), ("pythonarraytest", 88), ("storm32", 88), ("ualberta", 88), ("uavionix", 88)]),
  ("MAV_MODE_MANUAL_ARMED", [("all", 192), ("ardupilotmega", 192), ("asluav", 192), ("avssuas", 192), ("common", 192), ("cubepilot", 192), ("development", 192), ("matrixpilot", 192), ("paparazzi", 192), ("pythonarraytest", 192), ("storm32", 192), ("ualberta", 192), ("uavionix", 192)]),
  ("MAV_MODE_MANUAL_DISARMED", [("all", 64), ("ardupilotmega", 64), ("asluav", 64), ("avssuas", 64), ("common", 64), ("cubepilot", 64), ("development", 64), ("matrixpilot", 64), ("paparazzi", 64), ("pythonarraytest", 64), ("storm32", 64), ("ualberta", 64), ("uavionix", 64)]),
  ("MAV_MODE_PREFLIGHT", [("all", 0), ("ardupilotmega", 0), ("asluav", 0), ("avssuas", 0), ("common", 0), ("cubepilot", 0), ("development", 0), ("matrixpilot", 0), ("paparazzi", 0), ("pythonarraytest", 0), ("storm32", 0), ("ualberta", 0), ("uavionix", 0)]),
  ("MAV_MODE_PROPERTY_ADVANCED", [("all", 1), ("ardupilotmega", 1), ("asluav", 1), ("avssuas", 1), ("common", 1), ("cubepilot", 1), ("development", 1), ("matrixpilot", 1), ("paparazzi", 1), ("pythonarraytest", 1), ("storm32", 1), ("ualberta", 1), ("uavionix", 1)]),
  ("MAV_MODE_PROPERTY_AUTO_MODE", [("all", 4), ("ardupilotmega", 4), ("asluav", 4), ("avssuas", 4), ("common", 4), ("cubepilot", 4), ("development", 4), ("matrixpilot", 4), ("paparazzi", 4), ("pythonarraytest", 4), ("storm32", 4), ("ualberta", 4), ("uavionix", 4)]),
  ("MAV_MODE_PROPERTY_NOT_USER_SELECTABLE", [("all", 2), ("ardupilotmega", 2), ("asluav", 2), ("avssuas", 2), ("common", 2), ("cubepilot", 2), ("development", 2), ("matrixpilot", 2), ("paparazzi", 2), ("pythonarraytest", 2), ("storm32", 2), ("ualberta", 2), ("uavionix", 2)]),
  ("MAV_MODE_STABILIZE_ARMED", [("all", 208), ("ardupilotmega", 208), ("asluav", 208), ("avssuas", 208), ("common", 208), ("cubepilot", 208), ("development", 208), ("matrixpilot", 208), ("paparazzi", 208), ("pythonarraytest", 208), ("storm32", 208), ("ualberta", 208), ("uavionix", 208)])]
def constGroups_23 : List (String × List (String × Nat)) := [
  ("MAV_MODE_STABILIZE_DISARMED", [("all", 80), ("ardupilotmega", 80), ("asluav", 80), ("avssuas", 80), ("common", 80), ("cubepilot", 80), ("development", 80), ("matrixpilot", 80), ("paparazzi", 80), ("pythonarraytest", 80), ("storm32", 80), ("ualberta", 80), ("uavionix", 80)]),
  ("MAV_MODE_TEST_ARMED", [("all", 194), ("ardupilotmega", 194), ("asluav", 194), ("avssuas", 194), ("common", 194), ("cubepilot", 194), ("development", 194), ("matrixpilot", 194), ("paparazzi", 194), ("pythonarraytest", 194), ("storm32", 194), ("ualberta", 194), ("uavionix", 194)]),
  ("MAV_MODE_TEST_DISARMED", [("all", 66), ("ardupilotmega", 66), ("asluav", 66), ("avssuas", 66), ("common", 66), ("cubepilot", 66), ("development", 66), ("matrixpilot", 66), ("paparazzi", 66), ("pythonarraytest", 66), ("storm32", 66), ("ualberta", 66), ("uavionix", 66)]),
  ("MAV_MOUNT_MODE_GPS_POINT", [("all", 4), ("ardupilotmega", 4), ("asluav", 4), ("avssuas", 4), ("common", 4), ("cubepilot", 4), ("development", 4), ("matrixpilot", 4), ("paparazzi", 4), ("pythonarraytest", 4), ("storm32", 4), ("ualberta", 4), ("uavionix", 4)]),
  ("MAV_MOUNT_MODE_HOME_LOCATION", [("all", 6), ("ardupilotmega", 6), ("asluav", 6), ("avssuas", 6), ("common", 6), ("cubepilot", 6), ("development", 6), ("matrixpilot", 6), ("paparazzi", 6), ("pythonarraytest", 6), ("storm32", 6), ("ualberta", 6), ("uavionix", 6)]),
  ("MAV_MOUNT_MODE_MAVLINK_TARGETING", [("all", 2), ("ardupilotmega", 2), ("asluav", 2), ("avssuas", 2), ("common", 2), ("cubepilot", 2), ("development", 2), ("matrixpilot", 2), ("paparazzi", 2), ("pythonarraytest", 2), ("storm32", 2), ("ualberta", 2), ("uavionix", 2)]),
  ("MAV_MOUNT_MODE_NEUTRAL", [("all", 1), ("ardupilotmega", 1), ("asluav", 1), ("avssuas", 1), ("common", 1), ("cubepilot", 1), ("development", 1), ("matrixpilot", 1), ("paparazzi", 1), ("pythonarraytest", 1), ("storm32", 1), ("ualberta", 1), ("uavionix", 1)]),
  ("MAV_MOUNT_MODE_RC_TARGETING", [("all", 3), ("ardupilotmega", 3), ("asluav", 3), ("avssuas", 3), ("common", 3), ("cubepilot", 3), ("development", 3), ("matrixpilot", 3), ("paparazzi", 3), ("pythonarraytest", 3), ("storm32", 3), ("ualberta", 3), ("uavionix", 3)]),
  ("MAV_MOUNT_MODE_RETRACT", [("all", 0), ("ardupilotmega", 0), ("asluav", 0), ("avssuas", 0), ("common", 0), ("cubepilot", 0), ("development", 0), ("matrixpilot", 0), ("paparazzi", 0), ("pythonarraytest", 0), ("storm32", 0), ("ualberta", 0), ("uavionix", 0)]),
  ("MAV_MOUNT_MODE_SYSID_TARGET", [("all", 5), ("ardupilotmega", 5), ("asluav", 5), ("avssuas", 5), ("common", 5), ("cubepilot", 5), ("development", 5), ("matrixpilot", 5), ("paparazzi", 5), ("pythonarraytest", 5), ("storm32", 5), ("ualberta", 5), ("uavionix", 5)]),
  ("MAV_ODID_ARM_STATUS_GOOD_TO_ARM", [("all", 0), ("ardupilotmega", 0), ("asluav", 0), ("avssuas", 0), ("common", 0), ("cubepilot", 0), ("development", 0), ("matrixpilot", 0), ("paparazzi", 0), ("pythonarraytest", 0), ("storm32", 0), ("ualberta", 0), ("uavionix", 0)]),
  ("MAV_ODID_ARM_STATUS_PRE_ARM_FAIL_GENERIC", [("all", 1), ("ardupilotmega", 1), ("asluav", 1), ("avssuas", 1), ("common", 1), ("cubepilot", 1), ("development", 1), ("matrixpilot", 1), ("paparazzi", 1), ("pythonarraytest", 1), ("storm32", 1), ("ualberta", 1), ("uavionix", 1)]),
  ("MAV_ODID_AUTH_TYPE_MESSAGE_SET_SIGNATURE", [("all", 3), ("ardupilotmega", 3), ("asluav", 3), ("avssuas", 3), ("common", 3), ("cubepilot", 3), ("development", 3), ("matrixpilot", 3), ("paparazzi", 3), ("pythonarraytest", 3), ("storm32", 3), ("ualberta", 3), ("uavionix", 3)]),
  ("MAV_ODID_AUTH_TYPE_NETWORK_REMOTE_ID", [("all", 4), ("ardupilotmega", 4), ("asluav", 4), ("avssuas", 4), ("common", 4), ("cubepilot", 4), ("development", 4), ("matrixpilot", 4), ("paparazzi", 4), ("pythonarraytest", 4), ("storm32", 4), ("ualberta", 4), ("uavionix", 4)]),
  ("MAV_ODID_AUTH_TYPE_NONE", [("all", 0), ("ardupilotmega", 0), ("asluav", 0), ("avssuas", 0), ("common", 0), ("cubepilot", 0), ("development", 0), ("matrixpilot", 0), ("paparazzi", 0), ("pythonarraytest", 0), ("storm32", 0), ("ualberta", 0), ("uavionix", 0)]),
  ("MAV_ODID_AUTH_TYPE_OPERATOR_ID_SIGNATURE", [("all", 2), ("ardupilotmega", 2), ("asluav", 2), ("avssuas", 2), ("common", 2), ("cubepilot", 2), ("development", 2), ("matrixpilot", 2), ("paparazzi", 2), ("pythonarraytest", 2), ("storm32", 2), ("ualberta", 2), ("uavionix", 2)]),
  ("MAV_ODID_AUTH_TYPE_SPECIFIC_AUTHENTICATION", [("all", 5), ("ardupilotmega", 5), ("asluav", 5), ("avssuas", 5), ("common", 5), ("cubepilot", 5), ("development", 5), ("matrixpilot", 5), ("paparazzi", 5), ("pythonarraytest", 5), ("storm32", 5), ("ualberta", 5), ("uavionix", 5)]),
  ("MAV_ODID_AUTH_TYPE_UAS_ID_SIGNATURE", [("all", 1), ("ardupilotmega", 1), ("asluav", 1), ("avssuas", 1), ("common", 1), ("cubepilot", 1), ("development", 1), ("matrixpilot", 1), ("paparazzi", 1), ("pythonarraytest", 1), ("storm32", 1), ("ualberta", 1), ("uavionix", 1)]),
  ("MAV_ODID_CATEGORY_EU_CERTIFIED", [("all", 3), ("ardupilotmega", 3), ("asluav", 3), ("avssuas", 3), ("common", 3), ("cubepilot", 3), ("development", 3), ("matrixpilot", 3), ("paparazzi", 3), ("pythonarraytest", 3), ("storm32", 3), ("ualberta", 3), ("uavionix", 3)]),
  ("MAV_ODID_CATEGORY_EU_OPEN", [("all", 1), ("ardupilotmega", 1), ("asluav", 1), ("avssuas", 1), ("common", 1), ("cubepilot", 1), ("development", 1), ("matrixpilot", 1), ("paparazzi", 1), ("pythonarraytest", 1), ("storm32", 1), ("ualberta", 1), ("uavionix", 1)]),
  ("MAV_ODID_CATEGORY_EU_SPECIFIC", [("all", 2), ("ardupilotmega", 2), ("asluav", 2), ("avssuas", 2), ("common", 2), ("cubepilot", 2), ("development", 2), ("matrixpilot", 2), ("paparazzi", 2), ("pythonarraytest", 2), ("storm32", 2), ("ualberta", 2), ("uavionix", 2)]),
  ("MAV_ODID_CATEGORY_EU_UNDECLARED", [("all", 0), ("ardupilotmega", 0), ("asluav", 0), ("avssuas", 0), ("common", 0), ("cubepilot", 0), ("development", 0), ("matrixpilot", 0), ("paparazzi", 0), ("pythonarraytest", 0), ("storm32", 0), ("ualberta", 0), ("uavionix", 0)]),
  ("MAV_ODID_CLASSIFICATION_TYPE_EU", [("all", 1), ("ardupilotmega", 1), ("asluav", 1), ("avssuas", 1), ("common", 1), ("cubepilot", 1), ("development", 1), ("matrixpilot", 1), ("paparazzi", 1), ("pythonarraytest", 1), ("storm32", 1), ("ualberta", 1), ("uavionix", 1)]),
  ("MAV_ODID_CLASSIFICATION_TYPE_UNDECLARED", [("all", 0), ("ardupilotmega", 0), ("asluav", 0), ("avssuas", 0), ("common", 0), ("cubepilot", 0), ("development", 0), ("matrixpilot", 0), ("paparazzi", 0), ("pythonarraytest", 0), ("storm32", 0), ("ualberta", 0), ("uavionix", 0)]),
  ("MAV_ODID_CLASS_EU_CLASS_0", [("all", 1), ("ardupilotmega", 1), ("asluav", 1), ("avssuas", 1), ("common", 1), ("cubepilot", 1), ("development", 1), ("matrixpilot", 1), ("paparazzi", 1), ("pythonarraytest", 1), ("storm32", 1), ("ualberta", 1), ("uavionix", 1)]),
  ("MAV_ODID_CLASS_EU_CLASS_1", [("all", 2), ("ardupilotmega", 2), ("asluav", 2), ("avssuas", 2), ("common", 2), ("cubepilot", 2), ("development", 2), ("matrixpilot", 2), ("paparazzi", 2), ("pythonarraytest", 2), ("storm32", 2), ("ualberta", 2), ("uavionix", 2)]),
  ("MAV_ODID_CLASS_EU_CLASS_2", [("all", 3), ("ardupilotmega", 3), ("asluav", 3), ("avssuas", 3), ("common", 3), ("cubepilot", 3), ("development", 3), ("matrixpilot", 3), ("paparazzi", 3), ("pythonarraytest", 3), ("storm32", 3), ("ualberta", 3), ("uavionix", 3)]),
  ("MAV_ODID_CLASS_EU_CLASS_3", [("all", 4), ("ardupilotmega", 4), ("asluav", 4), ("avssuas", 4), ("common", 4), ("cubepilot", 4), ("development", 4), ("matrixpilot", 4), ("paparazzi", 4), ("pythonarraytest", 4), ("storm32", 4), ("ualberta", 4), ("uavionix", 4)]),
  ("MAV_ODID_CLASS_EU_CLASS_4", [("all", 5), ("ardupilotmega", 5), ("asluav", 5), ("avssuas", 5), ("common", 5), ("cubepilot", 5), ("development", 5), ("matrixpilot", 5), ("paparazzi", 5), ("pythonarraytest", 5), ("storm32", 5), ("ualberta", 5), ("uavionix", 5)]),
  ("MAV_ODID_CLASS_EU_CLASS_5", [("all", 6), ("ardupilotmega", 6), ("asluav", 6), ("avssuas", 6), ("common", 6), ("cubepilot", 6), ("development", 6), ("matrixpilot", 6), ("paparazzi", 6), ("pythonarraytest", 6), ("storm32", 6), ("ualberta", 6), ("uavionix", 6)]),
  ("MAV_ODID_CLASS_EU_CLASS_6", [("all", 7), ("ardupilotmega", 7), ("asluav", 7), ("avssuas", 7), ("common", 7), ("cubepilot", 7), ("development", 7), ("matrixpilot", 7), ("paparazzi", 7), ("pythonarraytest", 7), ("storm32", 7), ("ualberta", 7), ("uavionix", 7)]),
  ("MAV_ODID_CLASS_EU_UNDECLARED", [("all", 0), ("ardupilotmega", 0), ("asluav", 0), ("avssuas", 0), ("common", 0), ("cubepilot", 0), ("development", 0), ("matrixpilot", 0), ("paparazzi", 0), ("pythonarraytest", 0), ("storm32", 0), ("ualberta", 0), ("uavionix", 0)]),
  ("MAV_ODID_DESC_TYPE_EMERGENCY", [("all", 1), ("ardupilotmega", 1), ("asluav", 1), ("avssuas", 1), ("common", 1), ("cubepilot", 1), ("development", 1), ("matrixpilot", 1), ("paparazzi", 1), ("pythonarraytest", 1), ("storm32", 1), ("ualberta", 1), ("uavionix", 1)]),
  ("MAV_ODID_DESC_TYPE_EXTENDED_STATUS", [("all", 2), ("ardupilotmega", 2), ("asluav", 2), ("avssuas", 2), ("common", 2), ("cubepilot", 2), ("development", 2), ("matrixpilot", 2), ("paparazzi", 2), ("pythonarraytest", 2), ("storm32", 2), ("ualberta", 2), ("uavionix", 2)]),
  ("MAV_ODID_DESC_TYPE_TEXT", [("all", 0), ("ardupilotmega", 0), ("asluav", 0), ("avssuas", 0), ("common", 0), ("cubepilot", 0), ("development", 0), ("matrixpilot", 0), ("paparazzi", 0), ("pythonarraytest", 0), ("storm32", 0), ("ualberta", 0), ("uavionix", 0)]),
  ("MAV_ODID_HEIGHT_REF_OVER_GROUND", [("all", 1), ("ardupilotmega", 1), ("asluav", 1), ("avssuas", 1), ("common", 1), ("cubepilot", 1), ("development", 1), ("matrixpilot", 1), ("paparazzi", 1), ("pythonarraytest", 1), ("storm32", 1), ("ualberta", 1), ("uavionix", 1)]),
  ("MAV_ODID_HEIGHT_REF_OVER_TAKEOFF", [("all", 0), ("ardupilotmega", 0), ("asluav", 0), ("avssuas", 0), ("common", 0), ("cubepilot", 0), ("development", 0), ("matrixpilot", 0), ("paparazzi", 0), ("pythonarraytest", 0), ("storm32", 0), ("ualberta", 0), ("uavionix", 0)]),
  ("MAV_ODID_HOR_ACC_0_05NM", [("all", 8), ("ardupilotmega", 8), ("asluav", 8), ("avssuas", 8), ("common", 8), ("cubepilot", 8), ("development", 8), ("matrixpilot", 8), ("paparazzi", 8), ("pythonarraytest", 8), ("storm32", 8), ("ualberta", 8), ("uavionix", 8)]),
  ("MAV_ODID_HOR_ACC_0_1NM", [("all", 7), ("ardupilotmega", 7), ("asluav", 7), ("avssuas", 7), ("common", 7), ("cubepilot", 7), ("development", 7), ("matrixpilot", 7), ("paparazzi", 7), ("pythonarraytest", 7), ("storm32", 7), ("ualberta", 7), ("uavionix", 7)]),
  ("MAV_ODID_HOR_ACC_0_3NM", [("all", 6), ("ardupilotmega", 6), ("asluav", 6), ("avssuas", 6), ("common", 6), ("cubepilot", 6), ("development", 6), ("matrixpilot", 6), ("paparazzi", 6), ("pythonarraytest", 6), ("storm32", 6), ("ualberta", 6), ("uavionix", 6)]),
  ("MAV_ODID_HOR_ACC_0_5NM", [("all", 5), ("ardupilotmega", 5), ("asluav", 5), ("avssuas", 5), ("common", 5), ("cubepilot", 5), ("development", 5), ("matrixpilot", 5), ("paparazzi", 5), ("pythonarraytest", 5), ("storm32", 5), ("ualberta", 5), ("uavionix", 5)]),
  ("MAV_ODID_HOR_ACC_10NM", [("all", 1), ("ardupilotmega", 1), ("asluav", 1), ("avssuas", 1), ("common", 1), ("cubepilot", 1), ("development", 1), ("matrixpilot", 1), ("paparazzi", 1), ("pythonarraytest", 1), ("storm32", 1), ("ualberta", 1), ("uavionix", 1)]),
  ("MAV_ODID_HOR_ACC_10_METER", [("all", 10), ("ardupilotmega", 10), ("asluav", 10), ("avssuas", 10), ("common", 10), ("cubepilot", 10), ("development", 10), ("matrixpilot", 10), ("paparazzi", 10), ("pythonarraytest", 10), ("storm32", 10), ("ualberta", 10), ("uavionix", 10)]),
  ("MAV_ODID_HOR_ACC_1NM", [("all", 4), ("ardupilotmega", 4), ("asluav", 4), ("avssuas", 4), ("common", 4), ("cubepilot", 4), ("development", 4), ("matrixpilot", 4), ("paparazzi", 4), ("pythonarraytest", 4), ("storm32", 4), ("ualberta", 4), ("uavionix", 4)]),
  ("MAV_ODID_HOR_ACC_1_METER", [("all", 12), ("ardupilotmega", 12), ("asluav", 12), ("avssuas", 12), ("common", 12), ("cubepilot", 12), ("development", 12), ("matrixpilot", 12), ("paparazzi", 12), ("pythonarraytest", 12), ("storm32", 12), ("ualberta", 12), ("uavionix", 12)]),
  ("MAV_ODID_HOR_ACC_2NM", [("all", 3), ("ardupilotmega", 3), ("asluav", 3), ("avssuas", 3), ("common", 3), ("cubepilot", 3), ("development", 3), ("matrixpilot", 3), ("paparazzi", 3), ("pythonarraytest", 3), ("storm32", 3), ("ualberta", 3), ("uavionix", 3)]),
  ("MAV_ODID_HOR_ACC_30_METER", [("all", 9), ("ardupilotmega", 9), ("asluav", 9), ("avssuas", 9), ("common", 9), ("cubepilot", 9), ("development", 9), ("matrixpilot", 9), ("paparazzi", 9), ("pythonarraytest", 9), ("storm32", 9), ("ualberta", 9), ("uavionix", 9)]),
  ("MAV_ODID_HOR_ACC_3_METER", [("all", 11), ("ardupilotmega", 11), ("asluav", 11), ("avssuas", 11), ("common", 11), ("cubepilot", 11), ("development", 11), ("matrixpilot", 11), ("paparazzi", 11), ("pythonarraytest", 11), ("storm32", 11), ("ualberta", 11), ("uavionix", 11)]),
  ("MAV_ODID_HOR_ACC_4NM", [("all", 2), ("ardupilotmega", 2), ("asluav", 2), ("avssuas", 2), ("common", 2), ("cubepilot", 2), ("development", 2), ("matrixpilot", 2), ("paparazzi", 2), ("pythonarraytest", 2), ("storm32", 2), ("ualberta", 2), ("uavionix", 2)]),
  ("MAV_ODID_HOR_ACC_UNKNOWN", [("all", 0), ("ardupilotmega", 0), ("asluav", 0), ("avssuas", 0), ("common", 0), ("cubepilot", 0), ("development", 0), ("matrixpilot", 0), ("paparazzi", 0), ("pythonarraytest", 0), ("storm32", 0), ("ualberta", 0), ("uavionix", 0)]),
  ("MAV_ODID_ID_TYPE_CAA_REGISTRATION_ID", [("all", 2), ("ardupilotmega", 2), ("asluav", 2), ("avssuas", 2), ("common", 2), ("cubepilot", 2), ("development", 2), ("matrixpilot", 2), ("paparazzi", 2), ("pythonarraytest", 2), ("storm32", 2), ("ualberta", 2), ("uavionix", 2)]),
  ("MAV_ODID_ID_TYPE_NONE", [("all", 0), ("ardupilotmega", 0), ("asluav", 0), ("avssuas", 0), ("common", 0), ("cubepilot", 0), ("development", 0), ("matrixpilot", 0), ("paparazzi", 0), ("pythonarraytest", 0), ("storm32", 0), ("ualberta", 0), ("uavionix", 0)]),
  ("MAV_ODID_ID_TYPE_SERIAL_NUMBER", [("all", 1), ("ardupilotmega", 1), ("asluav", 1), ("avssuas", 1), ("common", 1), ("cubepilot", 1), ("development", 1), ("matrixpilot", 1), ("paparazzi", 1), ("pythonarraytest", 1), ("storm32", 1), ("ualberta", 1), ("uavionix", 1)]),
  ("MAV_ODID_ID_TYPE_SPECIFIC_SESSION_ID", [("all", 4), ("ardupilotmega", 4), ("asluav", 4), ("avssuas", 4), ("common", 4), ("cubepilot", 4), ("development", 4), ("matrixpilot", 4), ("paparazzi", 4), ("pythonarraytest", 4), ("storm32", 4), ("ualberta", 4), ("uavionix", 4)]),
  ("MAV_ODID_ID_TYPE_UTM_ASSIGNED_UUID", [("all", 3), ("ardupilotmega", 3), ("asluav", 3), ("avssuas", 3), ("common", 3), ("cubepilot", 3), ("development", 3), ("matrixpilot", 3), ("paparazzi", 3), ("pythonarraytest", 3), ("storm32", 3), ("ualberta", 3), ("uavionix", 3)]),
  ("MAV_ODID_OPERATOR_ID_TYPE_CAA", [("all", 0), ("ardupilotmega", 0), ("asluav", 0), ("avssuas", 0), ("common", 0), ("cubepilot", 0), ("development", 0), ("matrixpilot", 0), ("paparazzi", 0), ("pythonarraytest", 0), ("storm32", 0), ("ualberta", 0), ("uavionix", 0)]),
  ("MAV_ODID_OPERATOR_LOCATION_TYPE_FIXED", [("all", 2), ("ardupilotmega", 2), ("asluav", 2), ("avssuas", 2), ("common", 2), ("cubepilot", 2), ("development", 2), ("matrixpilot", 2), ("paparazzi", 2), ("pythonarraytest", 2), ("storm32", 2), ("ualberta", 2), ("uavionix", 2)]),
  ("MAV_ODID_OPERATOR_LOCATION_TYPE_LIVE_GNSS", [("all", 1), ("ardupilotmega", 1), ("asluav", 1), ("avssuas", 1), ("common", 1), ("cubepilot", 1), ("development", 1), ("matrixpilot", 1), ("paparazzi", 1), ("pythonarraytest", 1), ("storm32", 1), ("ualberta", 1), ("uavionix", 1)]),
  ("MAV_ODID_OPERATOR_LOCATION_TYPE_TAKEOFF", [("all", 0), ("ardupilotmega", 0), ("asluav", 0), ("avssuas", 0), ("common", 0), ("cubepilot", 0), ("development", 0), ("matrixpilot", 0), ("paparazzi", 0), ("pythonarraytest", 0), ("storm32", 0), ("ualberta", 0), ("uavionix", 0)]),
  ("MAV_ODID_SPEED_ACC_0_3_METERS_PER_SECOND", [("all", 4), ("ardupilotmega", 4), ("asluav", 4), ("avssuas", 4), ("common", 4), ("cubepilot", 4), ("development", 4), ("matrixpilot", 4), ("paparazzi", 4), ("pythonarraytest", 4), ("storm32", 4), ("ualberta", 4), ("uavionix", 4)])]
def constGroups_24 : List (String × List (String × Nat)) := [
  ("MAV_ODID_SPEED_ACC_10_METERS_PER_SECOND", [("all", 1), ("ardupilotmega", 1), ("asluav", 1), ("avssuas", 1), ("common", 1), ("cubepilot", 1), ("development", 1), ("matrixpilot", 1), ("paparazzi", 1), ("pythonarraytest", 1), ("storm32", 1), ("ualberta", 1), ("uavionix", 1)]),
  ("MAV_ODID_SPEED_ACC_1_METERS_PER_SECOND", [("all", 3), ("ardupilotmega", 3), ("asluav", 3), ("avssuas", 3), ("common", 3), ("cubepilot", 3), ("development", 3), ("matrixpilot", 3), ("paparazzi", 3), ("pythonarraytest", 3), ("storm32", 3), ("ualberta", 3), ("uavionix", 3)]),
  ("MAV_ODID_SPEED_ACC_3_METERS_PER_SECOND", [("all", 2), ("ardupilotmega", 2), ("asluav", 2), ("avssuas", 2), ("common", 2), ("cubepilot", 2), ("development", 2), ("matrixpilot", 2), ("paparazzi", 2), ("pythonarraytest", 2), ("storm32", 2), ("ualberta", 2), ("uavionix", 2)]),
  ("MAV_ODID_SPEED_ACC_UNKNOWN", [("all", 0), ("ardupilotmega", 0), ("asluav", 0), ("avssuas", 0), ("common", 0), ("cubepilot", 0), ("development", 0), ("matrixpilot", 0), ("paparazzi", 0), ("pythonarraytest", 0), ("storm32", 0), ("ualberta", 0), ("uavionix", 0)]),
  ("MAV_ODID_STATUS_AIRBORNE", [("all", 2), ("ardupilotmega", 2), ("asluav", 2), ("avssuas", 2), ("common", 2), ("cubepilot", 2), ("development", 2), ("matrixpilot", 2), ("paparazzi", 2), ("pythonarraytest", 2), ("storm32", 2), ("ualberta", 2), ("uavionix", 2)]),
  ("MAV_ODID_STATUS_EMERGENCY", [("all", 3), ("ardupilotmega", 3), ("asluav", 3), ("avssuas", 3), ("common", 3), ("cubepilot", 3), ("development", 3), ("matrixpilot", 3), ("paparazzi", 3), ("pythonarraytest", 3), ("storm32", 3), ("ualberta", 3), ("uavionix", 3)]),
  ("MAV_ODID_STATUS_GROUND", [("all", 1), ("ardupilotmega", 1), ("asluav", 1), ("avssuas", 1), ("common", 1), ("cubepilot", 1), ("development", 1), ("matrixpilot", 1), ("paparazzi", 1), ("pythonarraytest", 1), ("storm32", 1), ("ualberta", 1), ("uavionix", 1)]),
  ("MAV_ODID_STATUS_REMOTE_ID_SYSTEM_FAILURE", [("all", 4), ("ardupilotmega", 4), ("asluav", 4), ("avssuas", 4), ("common", 4), ("cubepilot", 4), ("development", 4), ("matrixpilot", 4), ("paparazzi", 4), ("pythonarraytest", 4), ("storm32", 4), ("ualberta", 4), ("uavionix", 4)]),
  ("MAV_ODID_STATUS_UNDECLARED", [("all", 0), ("ardupilotmega", 0), ("asluav", 0), ("avssuas", 0), ("common", 0), ("cubepilot", 0), ("development", 0), ("matrixpilot", 0), ("paparazzi", 0), ("pythonarraytest", 0), ("storm32", 0), ("ualberta", 0), ("uavionix", 0)]),
  ("MAV_ODID_TIME_ACC_0_1_SECOND", [("all", 1), ("ardupilotmega", 1), ("asluav", 1), ("avssuas", 1), ("common", 1), ("cubepilot", 1), ("development", 1), ("matrixpilot", 1), ("paparazzi", 1), ("pythonarraytest", 1), ("storm32", 1), ("ualberta", 1), ("uavionix", 1)]),
  ("MAV_ODID_TIME_ACC_0_2_SECOND", [("all", 2), ("ardupilotmega", 2), ("asluav", 2), ("avssuas", 2), ("common", 2), ("cubepilot", 2), ("development", 2), ("matrixpilot", 2), ("paparazzi", 2), ("pythonarraytest", 2), ("storm32", 2), ("ualberta", 2), ("uavionix", 2)]),
  ("MAV_ODID_TIME_ACC_0_3_SECOND", [("all", 3), ("ardupilotmega", 3), ("asluav", 3), ("avssuas", 3), ("common", 3), ("cubepilot", 3), ("development", 3), ("matrixpilot", 3), ("paparazzi", 3), ("pythonarraytest", 3), ("storm32", 3), ("ualberta", 3), ("uavionix", 3)]),
  ("MAV_ODID_TIME_ACC_0_4_SECOND", [("all", 4), ("ardupilotmega", 4), ("asluav", 4), ("avssuas", 4), ("common", 4), ("cubepilot", 4), ("development", 4), ("matrixpilot", 4), ("paparazzi", 4), ("pythonarraytest", 4), ("storm32", 4), ("ualberta", 4), ("uavionix", 4)]),
  ("MAV_ODID_TIME_ACC_0_5_SECOND", [("all", 5), ("ardupilotmega", 5), ("asluav", 5), ("avssuas", 5), ("common", 5), ("cubepilot", 5), ("development", 5), ("matrixpilot", 5), ("paparazzi", 5), ("pythonarraytest", 5), ("storm32", 5), ("ualberta", 5), ("uavionix", 5)]),
  ("MAV_ODID_TIME_ACC_0_6_SECOND", [("all", 6), ("ardupilotmega", 6), ("asluav", 6), ("avssuas", 6), ("common", 6), ("cubepilot", 6), ("development", 6), ("matrixpilot", 6), ("paparazzi", 6), ("pythonarraytest", 6), ("storm32", 6), ("ualberta", 6), ("uavionix", 6)]),
  ("MAV_ODID_TIME_ACC_0_7_SECOND", [("all", 7), ("ardupilotmega", 7), ("asluav", 7), ("avssuas", 7), ("common", 7), ("cubepilot", 7), ("development", 7), ("matrixpilot", 7), ("paparazzi", 7), ("pythonarraytest", 7), ("storm32", 7), ("ualberta", 7), ("uavionix", 7)]),
  ("MAV_ODID_TIME_ACC_0_8_SECOND", [("all", 8), ("ardupilotmega", 8), ("asluav", 8), ("avssuas", 8), ("common", 8), ("cubepilot", 8), ("development", 8), ("matrixpilot", 8), ("paparazzi", 8), ("pythonarraytest", 8), ("storm32", 8), ("ualberta", 8), ("uavionix", 8)]),
  ("MAV_ODID_TIME_ACC_0_9_SECOND", [("all", 9), ("ardupilotmega", 9), ("asluav", 9), ("avssuas", 9), ("common", 9), ("cubepilot", 9), ("development", 9), ("matrixpilot", 9), ("paparazzi", 9), ("pythonarraytest", 9), ("storm32", 9), ("ualberta", 9), ("uavionix", 9)]),
  ("MAV_ODID_TIME_ACC_1_0_SECOND", [("all", 10), ("ardupilotmega", 10), ("asluav", 10), ("avssuas", 10), ("common", 10), ("cubepilot", 10), ("development", 10), ("matrixpilot", 10), ("paparazzi", 10), ("pythonarraytest", 10), ("storm32", 10), ("ualberta", 10), ("uavionix", 10)]),
  ("MAV_ODID_TIME_ACC_1_1_SECOND", [("all", 11), ("ardupilotmega", 11), ("asluav", 11), ("avssuas", 11), ("common", 11), ("cubepilot", 11), ("development", 11), ("matrixpilot", 11), ("paparazzi", 11), ("pythonarraytest", 11), ("storm32", 11), ("ualberta", 11), ("uavionix", 11)]),
  ("MAV_ODID_TIME_ACC_1_2_SECOND", [("all", 12), ("ardupilotmega", 12), ("asluav", 12), ("avssuas", 12), ("common", 12), ("cubepilot", 12), ("development", 12), ("matrixpilot", 12), ("paparazzi", 12), ("pythonarraytest", 12), ("storm32", 12), ("ualberta", 12), ("uavionix", 12)]),
  ("MAV_ODID_TIME_ACC_1_3_SECOND", [("all", 13), ("ardupilotmega", 13), ("asluav", 13), ("avssuas", 13), ("common", 13), ("cubepilot", 13), ("development", 13), ("matrixpilot", 13), ("paparazzi", 13), ("pythonarraytest", 13), ("storm32", 13), ("ualberta", 13), ("uavionix", 13)]),
  ("MAV_ODID_TIME_ACC_1_4_SECOND", [("all", 14), ("ardupilotmega", 14), ("asluav", 14), ("avssuas", 14), ("common", 14), ("cubepilot", 14), ("development", 14), ("matrixpilot", 14), ("paparazzi", 14), ("pythonarraytest", 14), ("storm32", 14), ("ualberta", 14), ("uavionix", 14)]),
  ("MAV_ODID_TIME_ACC_1_5_SECOND", [("all", 15), ("ardupilotmega", 15), ("asluav", 15), ("avssuas", 15), ("common", 15), ("cubepilot", 15), ("development", 15), ("matrixpilot", 15), ("paparazzi", 15), ("pythonarraytest", 15), ("storm32", 15), ("ualberta", 15), ("uavionix", 15)]),
  ("MAV_ODID_TIME_ACC_UNKNOWN", [("all", 0), ("ardupilotmega", 0), ("asluav", 0), ("avssuas", 0), ("common", 0), ("cubepilot", 0), ("development", 0), ("matrixpilot", 0), ("paparazzi", 0), ("pythonarraytest", 0), ("storm32", 0), ("ualberta", 0), ("uavionix", 0)]),
  ("MAV_ODID_UA_TYPE_AEROPLANE", [("all", 1), ("ardupilotmega", 1), ("asluav", 1), ("avssuas", 1), ("common", 1), ("cubepilot", 1), ("development", 1), ("matrixpilot", 1), ("paparazzi", 1), ("pythonarraytest", 1), ("storm32", 1), ("ualberta", 1), ("uavionix", 1)]),
  ("MAV_ODID_UA_TYPE_AIRSHIP", [("all", 10), ("ardupilotmega", 10), ("asluav", 10), ("avssuas", 10), ("common", 10), ("cubepilot", 10), ("development", 10), ("matrixpilot", 10), ("paparazzi", 10), ("pythonarraytest", 10), ("storm32", 10), ("ualberta", 10), ("uavionix", 10)]),
  ("MAV_ODID_UA_TYPE_CAPTIVE_BALLOON", [("all", 9), ("ardupilotmega", 9), ("asluav", 9), ("avssuas", 9), ("common", 9), ("cubepilot", 9), ("development", 9), ("matrixpilot", 9), ("paparazzi", 9), ("pythonarraytest", 9), ("storm32", 9), ("ualberta", 9), ("uavionix", 9)]),
  ("MAV_ODID_UA_TYPE_FREE_BALLOON", [("all", 8), ("ardupilotmega", 8), ("asluav", 8), ("avssuas", 8), ("common", 8), ("cubepilot", 8), ("development", 8), ("matrixpilot", 8), ("paparazzi", 8), ("pythonarraytest", 8), ("storm32", 8), ("ualberta", 8), ("uavionix", 8)]),
  ("MAV_ODID_UA_TYPE_FREE_FALL_PARACHUTE", [("all", 11), ("ardupilotmega", 11), ("asluav", 11), ("avssuas", 11), ("common", 11), ("cubepilot", 11), ("development", 11), ("matrixpilot", 11), ("paparazzi", 11), ("pythonarraytest", 11), ("storm32", 11), ("ualberta", 11), ("uavionix", 11)]),
  ("MAV_ODID_UA_TYPE_GLIDER", [("all", 6), ("ardupilotmega", 6), ("asluav", 6), ("avssuas", 6), ("common", 6), ("cubepilot", 6), ("development", 6), ("matrixpilot", 6), ("paparazzi", 6), ("pythonarraytest", 6), ("storm32", 6), ("ualberta", 6), ("uavionix", 6)]),
  ("MAV_ODID_UA_TYPE_GROUND_OBSTACLE", [("all", 14), ("ardupilotmega", 14), ("asluav", 14), ("avssuas", 14), ("common", 14), ("cubepilot", 14), ("development", 14), ("matrixpilot", 14), ("paparazzi", 14), ("pythonarraytest", 14), ("storm32", 14), ("ualberta", 14), ("uavionix", 14)]),
  ("MAV_ODID_UA_TYPE_GYROPLANE", [("all", 3), ("ardupilotmega", 3), ("asluav", 3), ("avssuas", 3), ("common", 3), ("cubepilot", 3), ("development", 3), ("matrixpilot", 3), ("paparazzi", 3), ("pythonarraytest", 3), ("storm32", 3), ("ualberta", 3), ("uavionix", 3)]),
  ("MAV_ODID_UA_TYPE_HELICOPTER_OR_MULTIROTOR", [("all", 2), ("ardupilotmega", 2), ("asluav", 2), ("avssuas", 2), ("common", 2), ("cubepilot", 2), ("development", 2), ("matrixpilot", 2), ("paparazzi", 2), ("pythonarraytest", 2), ("storm32", 2), ("ualberta", 2), ("uavionix", 2)]),
  ("MAV_ODID_UA_TYPE_HYBRID_LIFT", [("all", 4), ("ardupilotmega", 4), ("asluav", 4), ("avssuas", 4), ("common", 4), ("cubepilot", 4), ("development", 4), ("matrixpilot", 4), ("paparazzi", 4), ("pythonarraytest", 4), ("storm32", 4), ("ualberta", 4), ("uavionix", 4)]),
  ("MAV_ODID_UA_TYPE_KITE", [("all", 7), ("ardupilotmega", 7), ("asluav", 7), ("avssuas", 7), ("common", 7), ("cubepilot", 7), ("development", 7), ("matrixpilot", 7), ("paparazzi", 7), ("pythonarraytest", 7), ("storm32", 7), ("ualberta", 7), ("uavionix", 7)]),
  ("MAV_ODID_UA_TYPE_NONE", [("all", 0), ("ardupilotmega", 0), ("asluav", 0), ("avssuas", 0), ("common", 0), ("cubepilot", 0), ("development", 0), ("matrixpilot", 0), ("paparazzi", 0), ("pythonarraytest", 0), ("storm32", 0), ("ualberta", 0), ("uavionix", 0)]),
  ("MAV_ODID_UA_TYPE_ORNITHOPTER", [("all", 5), ("ardupilotmega", 5), ("asluav", 5), ("avssuas", 5), ("common", 5), ("cubepilot", 5), ("development", 5), ("matrixpilot", 5), ("paparazzi", 5), ("pythonarraytest", 5), ("storm32", 5), ("ualberta", 5), ("uavionix", 5)]),
  ("MAV_ODID_UA_TYPE_OTHER", [("all", 15), ("ardupilotmega", 15), ("asluav", 15), ("avssuas", 15), ("common", 15), ("cubepilot", 15), ("development", 15), ("matrixpilot", 15), ("paparazzi", 15), ("pythonarraytest", 15), ("storm32", 15), ("ualberta", 15), ("uavionix", 15)]),
  ("MAV_ODID_UA_TYPE_ROCKET", [("all", 12), ("ardupilotmega", 12), ("asluav", 12), ("avssuas", 12), ("common", 12), ("cubepilot", 12), ("development", 12), ("matrixpilot", 12), ("paparazzi", 12), ("pythonarraytest", 12), ("storm32", 12), ("ualberta", 12), ("uavionix", 12)]),
  ("MAV_ODID_UA_TYPE_TETHERED_POWERED_AIRCRAFT", [("all", 13), ("ardupilotmega", 13), ("asluav", 13), ("avssuas", 13), ("common", 13), ("cubepilot", 13), ("development", 13), ("matrixpilot", 13), ("paparazzi", 13), ("pythonarraytest", 13), ("storm32", 13), ("ualberta", 13), ("uavionix", 13)]),
  ("MAV_ODID_VER_ACC_10_METER", [("all", 4), ("ardupilotmega", 4), ("asluav", 4), ("avssuas", 4), ("common", 4), ("cubepilot", 4), ("development", 4), ("matrixpilot", 4), ("paparazzi", 4), ("pythonarraytest", 4), ("storm32", 4), ("ualberta", 4), ("uavionix", 4)]),
  ("MAV_ODID_VER_ACC_150_METER", [("all", 1), ("ardupilotmega", 1), ("asluav", 1), ("avssuas", 1), ("common", 1), ("cubepilot", 1), ("development", 1), ("matrixpilot", 1), ("paparazzi", 1), ("pythonarraytest", 1), ("storm32", 1), ("ualberta", 1), ("uavionix", 1)]),
  ("MAV_ODID_VER_ACC_1_METER", [("all", 6), ("ardupilotmega", 6), ("asluav", 6), ("avssuas", 6), ("common", 6), ("cubepilot", 6), ("development", 6), ("matrixpilot", 6), ("paparazzi", 6), ("pythonarraytest", 6), ("storm32", 6), ("ualberta", 6), ("uavionix", 6)]),
  ("MAV_ODID_VER_ACC_25_METER", [("all", 3), ("ardupilotmega", 3), ("asluav", 3), ("avssuas", 3), ("common", 3), ("cubepilot", 3), ("development", 3), ("matrixpilot", 3), ("paparazzi", 3), ("pythonarraytest", 3), ("storm32", 3), ("ualberta", 3), ("uavionix", 3)]),
  ("MAV_ODID_VER_ACC_3_METER", [("all", 5), ("ardupilotmega", 5), ("asluav", 5), ("avssuas", 5), ("common", 5), ("cubepilot", 5), ("development", 5), ("matrixpilot", 5), ("paparazzi", 5), ("pythonarraytest", 5), ("storm32", 5), ("ualberta", 5), ("uavionix", 5)]),
  ("MAV_ODID_VER_ACC_45_METER", [("all", 2), ("ardupilotmega", 2), ("asluav", 2), ("avssuas", 2), ("common", 2), ("cubepilot", 2), ("development", 2), ("matrixpilot", 2), ("paparazzi", 2), ("pythonarraytest", 2), ("storm32", 2), ("ualberta", 2), ("uavionix", 2)]),
  ("MAV_ODID_VER_ACC_UNKNOWN", [("all", 0), ("ardupilotmega", 0), ("asluav", 0), ("avssuas", 0), ("common", 0), ("cubepilot", 0), ("development", 0), ("matrixpilot", 0), ("paparazzi", 0), ("pythonarraytest", 0), ("storm32", 0), ("ualberta", 0), ("uavionix", 0)]),
  ("MAV_PARAM_EXT_TYPE_CUSTOM", [("all", 11), ("ardupilotmega", 11), ("asluav", 11), ("avssuas", 11), ("common", 11), ("cubepilot", 11), ("development", 11), ("matrixpilot", 11), ("paparazzi", 11), ("pythonarraytest", 11), ("storm32", 11), ("ualberta", 11), ("uavionix", 11)]),
  ("MAV_PARAM_EXT_TYPE_INT16", [("all", 4), ("ardupilotmega", 4), ("asluav", 4), ("avssuas", 4), ("common", 4), ("cubepilot", 4), ("development", 4), ("matrixpilot", 4), ("paparazzi", 4), ("pythonarraytest", 4), ("storm32", 4), ("ualberta", 4), ("uavionix", 4)]),
  ("MAV_PARAM_EXT_TYPE_INT32", [("all", 6), ("ardupilotmega", 6), ("asluav", 6), ("avssuas", 6), ("common", 6), ("cubepilot", 6), ("development", 6), ("matrixpilot", 6), ("paparazzi", 6), ("pythonarraytest", 6), ("storm32", 6), ("ualberta", 6), ("uavionix", 6)]),
  ("MAV_PARAM_EXT_TYPE_INT64", [("all", 8), ("ardupilotmega", 8), ("asluav", 8), ("avssuas", 8), ("common", 8), ("cubepilot", 8), ("development", 8), ("matrixpilot", 8), ("paparazzi", 8), ("pythonarraytest", 8), ("storm32", 8), ("ualberta", 8), ("uavionix", 8)]),
  ("MAV_PARAM_EXT_TYPE_INT8", [("all", 2), ("ardupilotmega", 2), ("asluav", 2), ("avssuas", 2), ("common", 2), ("cubepilot", 2), ("development", 2), ("matrixpilot", 2), ("paparazzi", 2), ("pythonarraytest", 2), ("storm32", 2), ("ualberta", 2), ("uavionix", 2)]),
  ("MAV_PARAM_EXT_TYPE_REAL32", [("all", 9), ("ardupilotmega", 9), ("asluav", 9), ("avssuas", 9), ("common", 9), ("cubepilot", 9), ("development", 9), ("matrixpilot", 9), ("paparazzi", 9), ("pythonarraytest", 9), ("storm32", 9), ("ualberta", 9), ("uavionix", 9)]),
  ("MAV_PARAM_EXT_TYPE_REAL64", [("all", 10), ("ardupilotmega", 10), ("asluav", 10), ("avssuas", 10), ("common", 10), ("cubepilot", 10), ("development", 10), ("matrixpilot", 10), ("paparazzi", 10), ("pythonarraytest", 10), ("storm32", 10), ("ualberta", 10), ("uavionix", 10)]),
  ("MAV_PARAM_EXT_TYPE_UINT16", [("all", 3), ("ardupilotmega", 3), ("asluav", 3), ("avssuas", 3), ("common", 3), ("cubepilot", 3), ("development", 3), ("matrixpilot", 3), ("paparazzi", 3), ("pythonarraytest", 3), ("storm32", 3), ("ualberta", 3), ("uavionix", 3)]),
  ("MAV_PARAM_EXT_TYPE_UINT32", [("all", 5), ("ardupilotmega", 5), ("asluav", 5), ("avssuas", 5), ("common", 5), ("cubepilot", 5), ("development", 5), ("matrixpilot", 5), ("paparazzi", 5), ("pythonarraytest", 5), ("storm32", 5), ("ualberta", 5), ("uavionix", 5)]),
  ("MAV_PARAM_EXT_TYPE_UINT64", [("all", 7), ("ardupilotmega", 7), ("asluav", 7), ("avssuas", 7), ("common", 7), ("cubepilot", 7), ("development", 7), ("matrixpilot", 7), ("paparazzi", 7), ("pythonarraytest", 7), ("storm32", 7), ("ualberta", 7), ("uavionix", 7)]),
  ("MAV_PARAM_EXT_TYPE_UINT8", [("all", 1), ("ardupilotmega", 1), ("asluav", 1), ("avssuas", 1), ("common", 1), ("cubepilot", 1), ("development", 1), ("matrixpilot", 1), ("paparazzi", 1), ("pythonarraytest", 1), ("storm32", 1), ("ualberta", 1), ("uavionix", 1)]),
  ("MAV_PARAM_TYPE_INT16", [("all", 4), ("ardupilotmega", 4), ("asluav", 4), ("avssuas", 4), ("common", 4), ("cubepilot", 4), ("development", 4), ("matrixpilot", 4), ("paparazzi", 4), ("pythonarraytest", 4), ("storm32", 4), ("ualberta", 4), ("uavionix", 4)])]
def constGroups_25 : List (String × List (String × Nat)) := [
  ("MAV_PARAM_TYPE_INT32", [("all", 6), ("ardupilotmega", 6), ("asluav", 6), ("avssuas", 6), ("common", 6), ("cubepilot", 6), ("development", 6), ("matrixpilot", 6), ("paparazzi", 6), ("pythonarraytest", 6), ("storm32", 6), ("ualberta", 6), ("uavionix", 6)]),
  ("MAV_PARAM_TYPE_INT64", [("all", 8), ("ardupilotmega", 8), ("asluav", 8), ("avssuas", 8), ("common", 8), ("cubepilot", 8), ("development", 8), ("matrixpilot", 8), ("paparazzi", 8), ("pythonarraytest", 8), ("storm32", 8), ("ualberta", 8), ("uavionix", 8)]),
  ("MAV_PARAM_TYPE_INT8", [("all", 2), ("ardupilotmega", 2), ("asluav", 2), ("avssuas", 2), ("common", 2), ("cubepilot", 2), ("development", 2), ("matrixpilot", 2), ("paparazzi", 2), ("pythonarraytest", 2), ("storm32", 2), ("ualberta", 2), ("uavionix", 2)]),
  ("MAV_PARAM_TYPE_REAL32", [("all", 9), ("ardupilotmega", 9), ("asluav", 9), ("avssuas", 9), ("common", 9), ("cubepilot", 9), ("development", 9), ("matrixpilot", 9), ("paparazzi", 9), ("pythonarraytest", 9), ("storm32", 9), ("ualberta", 9), ("uavionix", 9)]),
  ("MAV_PARAM_TYPE_REAL64", [("all", 10), ("ardupilotmega", 10), ("asluav", 10), ("avssuas", 10), ("common", 10), ("cubepilot", 10), ("development", 10), ("matrixpilot", 10), ("paparazzi", 10), ("pythonarraytest", 10), ("storm32", 10), ("ualberta", 10), ("uavionix", 10)]),
  ("MAV_PARAM_TYPE_UINT16", [("all", 3), ("ardupilotmega", 3), ("asluav", 3), ("avssuas", 3), ("common", 3), ("cubepilot", 3), ("development", 3), ("matrixpilot", 3), ("paparazzi", 3), ("pythonarraytest", 3), ("storm32", 3), ("ualberta", 3), ("uavionix", 3)]),
  ("MAV_PARAM_TYPE_UINT32", [("all", 5), ("ardupilotmega", 5), ("asluav", 5), ("avssuas", 5), ("common", 5), ("cubepilot", 5), ("development", 5), ("matrixpilot", 5), ("paparazzi", 5), ("pythonarraytest", 5), ("storm32", 5), ("ualberta", 5), ("uavionix", 5)]),
  ("MAV_PARAM_TYPE_UINT64", [("all", 7), ("ardupilotmega", 7), ("asluav", 7), ("avssuas", 7), ("common", 7), ("cubepilot", 7), ("development", 7), ("matrixpilot", 7), ("paparazzi", 7), ("pythonarraytest", 7), ("storm32", 7), ("ualberta", 7), ("uavionix", 7)]),
  ("MAV_PARAM_TYPE_UINT8", [("all", 1), ("ardupilotmega", 1), ("asluav", 1), ("avssuas", 1), ("common", 1), ("cubepilot", 1), ("development", 1), ("matrixpilot", 1), ("paparazzi", 1), ("pythonarraytest", 1), ("storm32", 1), ("ualberta", 1), ("uavionix", 1)]),
  ("MAV_PFS_CMD_CLEAR_ALL", [("matrixpilot", 2)]),
  ("MAV_PFS_CMD_CLEAR_SPECIFIC", [("matrixpilot", 5)]),
  ("MAV_PFS_CMD_DO_NOTHING", [("matrixpilot", 6)]),
  ("MAV_PFS_CMD_READ_ALL", [("matrixpilot", 0)]),
  ("MAV_PFS_CMD_READ_SPECIFIC", [("matrixpilot", 3)]),
  ("MAV_PFS_CMD_WRITE_ALL", [("matrixpilot", 1)]),
  ("MAV_PFS_CMD_WRITE_SPECIFIC", [("matrixpilot", 4)]),
  ("MAV_POWER_STATUS_BRICK_VALID", [("all", 1), ("ardupilotmega", 1), ("asluav", 1), ("avssuas", 1), ("common", 1), ("cubepilot", 1), ("development", 1), ("matrixpilot", 1), ("paparazzi", 1), ("pythonarraytest", 1), ("storm32", 1), ("ualberta", 1), ("uavionix", 1)]),
  ("MAV_POWER_STATUS_CHANGED", [("all", 32), ("ardupilotmega", 32), ("asluav", 32), ("avssuas", 32), ("common", 32), ("cubepilot", 32), ("development", 32), ("matrixpilot", 32), ("paparazzi", 32), ("pythonarraytest", 32), ("storm32", 32), ("ualberta", 32), ("uavionix", 32)]),
  ("MAV_POWER_STATUS_PERIPH_HIPOWER_OVERCURRENT", [("all", 16), ("ardupilotmega", 16), ("asluav", 16), ("avssuas", 16), ("common", 16), ("cubepilot", 16), ("development", 16), ("matrixpilot", 16), ("paparazzi", 16), ("pythonarraytest", 16), ("storm32", 16), ("ualberta", 16), ("uavionix", 16)]),
  ("MAV_POWER_STATUS_PERIPH_OVERCURRENT", [("all", 8), ("ardupilotmega", 8), ("asluav", 8), ("avssuas", 8), ("common", 8), ("cubepilot", 8), ("development", 8), ("matrixpilot", 8), ("paparazzi", 8), ("pythonarraytest", 8), ("storm32", 8), ("ualberta", 8), ("uavionix", 8)]),
  ("MAV_POWER_STATUS_SERVO_VALID", [("all", 2), ("ardupilotmega", 2), ("asluav", 2), ("avssuas", 2), ("common", 2), ("cubepilot", 2), ("development", 2), ("matrixpilot", 2), ("paparazzi", 2), ("pythonarraytest", 2), ("storm32", 2), ("ualberta", 2), ("uavionix", 2)]),
  ("MAV_POWER_STATUS_USB_CONNECTED", [("all", 4), ("ardupilotmega", 4), ("asluav", 4), ("avssuas", 4), ("common", 4), ("cubepilot", 4), ("development", 4), ("matrixpilot", 4), ("paparazzi", 4), ("pythonarraytest", 4), ("storm32", 4), ("ualberta", 4), ("uavionix", 4)]),
  ("MAV_PROTOCOL_CAPABILITY_COMMAND_INT", [("all", 8), ("ardupilotmega", 8), ("asluav", 8), ("avssuas", 8), ("common", 8), ("cubepilot", 8), ("development", 8), ("matrixpilot", 8), ("paparazzi", 8), ("pythonarraytest", 8), ("storm32", 8), ("ualberta", 8), ("uavionix", 8)]),
  ("MAV_PROTOCOL_CAPABILITY_COMPASS_CALIBRATION", [("all", 4096), ("ardupilotmega", 4096), ("asluav", 4096), ("avssuas", 4096), ("common", 4096), ("cubepilot", 4096), ("development", 4096), ("matrixpilot", 4096), ("paparazzi", 4096), ("pythonarraytest", 4096), ("storm32", 4096), ("ualberta", 4096), ("uavionix", 4096)]),
  ("MAV_PROTOCOL_CAPABILITY_COMPONENT_ACCEPTS_GCS_CONTROL", [("all", 524288), ("ardupilotmega", 524288), ("asluav", 524288), ("avssuas", 524288), ("common", 524288), ("cubepilot", 524288), ("development", 524288), ("matrixpilot", 524288), ("paparazzi", 524288), ("pythonarraytest", 524288), ("storm32", 524288), ("ualberta", 524288), ("uavionix", 524288)]),
  ("MAV_PROTOCOL_CAPABILITY_COMPONENT_IMPLEMENTS_GIMBAL_MANAGER", [("all", 262144), ("ardupilotmega", 262144), ("asluav", 262144), ("avssuas", 262144), ("common", 262144), ("cubepilot", 262144), ("development", 262144), ("matrixpilot", 262144), ("paparazzi", 262144), ("pythonarraytest", 262144), ("storm32", 262144), ("ualberta", 262144), ("uavionix", 262144)]),
  ("MAV_PROTOCOL_CAPABILITY_FLIGHT_TERMINATION", [("all", 2048), ("ardupilotmega", 2048), ("asluav", 2048), ("avssuas", 2048), ("common", 2048), ("cubepilot", 2048), ("development", 2048), ("matrixpilot", 2048), ("paparazzi", 2048), ("pythonarraytest", 2048), ("storm32", 2048), ("ualberta", 2048), ("uavionix", 2048)]),
  ("MAV_PROTOCOL_CAPABILITY_FTP", [("all", 32), ("ardupilotmega", 32), ("asluav", 32), ("avssuas", 32), ("common", 32), ("cubepilot", 32), ("development", 32), ("matrixpilot", 32), ("paparazzi", 32), ("pythonarraytest", 32), ("storm32", 32), ("ualberta", 32), ("uavionix", 32)]),
  ("MAV_PROTOCOL_CAPABILITY_MAVLINK2", [("all", 8192), ("ardupilotmega", 8192), ("asluav", 8192), ("avssuas", 8192), ("common", 8192), ("cubepilot", 8192), ("development", 8192), ("matrixpilot", 8192), ("paparazzi", 8192), ("pythonarraytest", 8192), ("storm32", 8192), ("ualberta", 8192), ("uavionix", 8192)]),
  ("MAV_PROTOCOL_CAPABILITY_MISSION_FENCE", [("all", 16384), ("ardupilotmega", 16384), ("asluav", 16384), ("avssuas", 16384), ("common", 16384), ("cubepilot", 16384), ("development", 16384), ("matrixpilot", 16384), ("paparazzi", 16384), ("pythonarraytest", 16384), ("storm32", 16384), ("ualberta", 16384), ("uavionix", 16384)]),
  ("MAV_PROTOCOL_CAPABILITY_MISSION_FLOAT", [("all", 1), ("ardupilotmega", 1), ("asluav", 1), ("avssuas", 1), ("common", 1), ("cubepilot", 1), ("development", 1), ("matrixpilot", 1), ("paparazzi", 1), ("pythonarraytest", 1), ("storm32", 1), ("ualberta", 1), ("uavionix", 1)]),
  ("MAV_PROTOCOL_CAPABILITY_MISSION_INT", [("all", 4), ("ardupilotmega", 4), ("asluav", 4), ("avssuas", 4), ("common", 4), ("cubepilot", 4), ("development", 4), ("matrixpilot", 4), ("paparazzi", 4), ("pythonarraytest", 4), ("storm32", 4), ("ualberta", 4), ("uavionix", 4)]),
  ("MAV_PROTOCOL_CAPABILITY_MISSION_RALLY", [("all", 32768), ("ardupilotmega", 32768), ("asluav", 32768), ("avssuas", 32768), ("common", 32768), ("cubepilot", 32768), ("development", 32768), ("matrixpilot", 32768), ("paparazzi", 32768), ("pythonarraytest", 32768), ("storm32", 32768), ("ualberta", 32768), ("uavionix", 32768)]),
  ("MAV_PROTOCOL_CAPABILITY_PARAM_ENCODE_BYTEWISE", [("all", 16), ("ardupilotmega", 16), ("asluav", 16), ("avssuas", 16), ("common", 16), ("cubepilot", 16), ("development", 16), ("matrixpilot", 16), ("paparazzi", 16), ("pythonarraytest", 16), ("storm32", 16), ("ualberta", 16), ("uavionix", 16)]),
  ("MAV_PROTOCOL_CAPABILITY_PARAM_ENCODE_C_CAST", [("all", 131072), ("ardupilotmega", 131072), ("asluav", 131072), ("avssuas", 131072), ("common", 131072), ("cubepilot", 131072), ("development", 131072), ("matrixpilot", 131072), ("paparazzi", 131072), ("pythonarraytest", 131072), ("storm32", 131072), ("ualberta", 131072), ("uavionix", 131072)]),
  ("MAV_PROTOCOL_CAPABILITY_PARAM_FLOAT", [("all", 2), ("ardupilotmega", 2), ("asluav", 2), ("avssuas", 2), ("common", 2), ("cubepilot", 2), ("development", 2), ("matrixpilot", 2), ("paparazzi", 2), ("pythonarraytest", 2), ("storm32", 2), ("ualberta", 2), ("uavionix", 2)]),
  ("MAV_PROTOCOL_CAPABILITY_RESERVED2", [("all", 65536), ("ardupilotmega", 65536), ("asluav", 65536), ("avssuas", 65536), ("common", 65536), ("cubepilot", 65536), ("development", 65536), ("matrixpilot", 65536), ("paparazzi", 65536), ("pythonarraytest", 65536), ("storm32", 65536), ("ualberta", 65536), ("uavionix", 65536)]),
  ("MAV_PROTOCOL_CAPABILITY_RESERVED3", [("all", 1024), ("ardupilotmega", 1024), ("asluav", 1024), ("avssuas", 1024), ("common", 1024), ("cubepilot", 1024), ("development", 1024), ("matrixpilot", 1024), ("paparazzi", 1024), ("pythonarraytest", 1024), ("storm32", 1024), ("ualberta", 1024), ("uavionix", 1024)]),
  ("MAV_PROTOCOL_CAPABILITY_SET_ATTITUDE_TARGET", [("all", 64), ("ardupilotmega", 64), ("asluav", 64), ("avssuas", 64), ("common", 64), ("cubepilot", 64), ("development", 64), ("matrixpilot", 64), ("paparazzi", 64), ("pythonarraytest", 64), ("storm32", 64), ("ualberta", 64), ("uavionix", 64)]),
  ("MAV_PROTOCOL_CAPABILITY_SET_POSITION_TARGET_GLOBAL_INT", [("all", 256), ("ardupilotmega", 256), ("asluav", 256), ("avssuas", 256), ("common", 256), ("cubepilot", 256), ("development", 256), ("matrixpilot", 256), ("paparazzi", 256), ("pythonarraytest", 256), ("storm32", 256), ("ualberta", 256), ("uavionix", 256)]),
  ("MAV_PROTOCOL_CAPABILITY_SET_POSITION_TARGET_LOCAL_NED", [("all", 128), ("ardupilotmega", 128), ("asluav", 128), ("avssuas", 128), ("common", 128), ("cubepilot", 128), ("development", 128), ("matrixpilot", 128), ("paparazzi", 128), ("pythonarraytest", 128), ("storm32", 128), ("ualberta", 128), ("uavionix", 128)]),
  ("MAV_PROTOCOL_CAPABILITY_TERRAIN", [("all", 512), ("ardupilotmega", 512), ("asluav", 512), ("avssuas", 512), ("common", 512), ("cubepilot", 512), ("development", 512), ("matrixpilot", 512), ("paparazzi", 512), ("pythonarraytest", 512), ("storm32", 512), ("ualberta", 512), ("uavionix", 512)]),
  ("MAV_QSHOT_MODE_CABLECAM_2POINT", [("all", 8), ("storm32", 8)]),
  ("MAV_QSHOT_MODE_DEFAULT", [("all", 1), ("storm32", 1)]),
  ("MAV_QSHOT_MODE_GIMBAL_MISSION", [("all", 4), ("storm32", 4)]),
  ("MAV_QSHOT_MODE_GIMBAL_NEUTRAL", [("all", 3), ("storm32", 3)]),
  ("MAV_QSHOT_MODE_GIMBAL_RC_CONTROL", [("all", 5), ("storm32", 5)]),
  ("MAV_QSHOT_MODE_GIMBAL_RETRACT", [("all", 2), ("storm32", 2)]),
  ("MAV_QSHOT_MODE_HOME_TARGETING", [("all", 9), ("storm32", 9)]),
  ("MAV_QSHOT_MODE_POI_TARGETING", [("all", 6), ("storm32", 6)]),
  ("MAV_QSHOT_MODE_SYSID_TARGETING", [("all", 7), ("storm32", 7)]),
  ("MAV_QSHOT_MODE_UNDEFINED", [("all", 0), ("storm32", 0)]),
  ("MAV_REMOTE_LOG_DATA_BLOCK_ACK", [("all", 1), ("ardupilotmega", 1), ("storm32", 1)]),
  ("MAV_REMOTE_LOG_DATA_BLOCK_NACK", [("all", 0), ("ardupilotmega", 0), ("storm32", 0)]),
  ("MAV_REMOTE_LOG_DATA_BLOCK_START", [("all", 2147483646), ("ardupilotmega", 2147483646), ("storm32", 2147483646)]),
  ("MAV_REMOTE_LOG_DATA_BLOCK_STOP", [("all", 2147483645), ("ardupilotmega", 2147483645), ("storm32", 2147483645)]),
  ("MAV_RESULT_ACCEPTED", [("all", 0), ("ardupilotmega", 0), ("asluav", 0), ("avssuas", 0), ("common", 0), ("cubepilot", 0), ("development", 0), ("matrixpilot", 0), ("paparazzi", 0), ("pythonarraytest", 0), ("storm32", 0), ("ualberta", 0), ("uavionix", 0)]),
  ("MAV_RESULT_CANCELLED", [("all", 6), ("ardupilotmega", 6), ("asluav", 6), ("avssuas", 6), ("common", 6), ("cubepilot", 6), ("development", 6), ("matrixpilot", 6), ("paparazzi", 6), ("pythonarraytest", 6), ("storm32", 6), ("ualberta", 6), ("uavionix", 6)]),
  ("MAV_RESULT_COMMAND_INT_ONLY", [("all", 8), ("ardupilotmega", 8), ("asluav", 8), ("avssuas", 8), ("common", 8), ("cubepilot", 8), ("development", 8), ("matrixpilot", 8), ("paparazzi", 8), ("pythonarraytest", 8), ("storm32", 8), ("ualberta", 8), ("uavionix", 8)]),
  ("MAV_RESULT_COMMAND_LONG_ONLY", [("all", 7), ("ardupilotmega", 7), ("asluav", 7), ("avssuas", 7), ("common", 7), ("cubepilot", 7), ("development", 7), ("matrixpilot", 7), ("paparazzi", 7), ("pythonarraytest", 7), ("storm32", 7), ("ualberta", 7), ("uavionix", 7)])]
def constGroups_26 : List (String × List (String × Nat)) := [
  ("MAV_RESULT_COMMAND_UNSUPPORTED_MAV_FRAME", [("all", 9), ("ardupilotmega", 9), ("asluav", 9), ("avssuas", 9), ("common", 9), ("cubepilot", 9), ("development", 9), ("matrixpilot", 9), ("paparazzi", 9), ("pythonarraytest", 9), ("storm32", 9), ("ualberta", 9), ("uavionix", 9)]),
  ("MAV_RESULT_DENIED", [("all", 2), ("ardupilotmega", 2), ("asluav", 2), ("avssuas", 2), ("common", 2), ("cubepilot", 2), ("development", 2), ("matrixpilot", 2), ("paparazzi", 2), ("pythonarraytest", 2), ("storm32", 2), ("ualberta", 2), ("uavionix", 2)]),
  ("MAV_RESULT_FAILED", [("all", 4), ("ardupilotmega", 4), ("asluav", 4), ("avssuas", 4), ("common", 4), ("cubepilot", 4), ("development", 4), ("matrixpilot", 4), ("paparazzi", 4), ("pythonarraytest", 4), ("storm32", 4), ("ualberta", 4), ("uavionix", 4)]),
  ("MAV_RESULT_IN_PROGRESS", [("all", 5), ("ardupilotmega", 5), ("asluav", 5), ("avssuas", 5), ("common", 5), ("cubepilot", 5), ("development", 5), ("matrixpilot", 5), ("paparazzi", 5), ("pythonarraytest", 5), ("storm32", 5), ("ualberta", 5), ("uavionix", 5)]),
  ("MAV_RESULT_TEMPORARILY_REJECTED", [("all", 1), ("ardupilotmega", 1), ("asluav", 1), ("avssuas", 1), ("common", 1), ("cubepilot", 1), ("development", 1), ("matrixpilot", 1), ("paparazzi", 1), ("pythonarraytest", 1), ("storm32", 1), ("ualberta", 1), ("uavionix", 1)]),
  ("MAV_RESULT_UNSUPPORTED", [("all", 3), ("ardupilotmega", 3), ("asluav", 3), ("avssuas", 3), ("common", 3), ("cubepilot", 3), ("development", 3), ("matrixpilot", 3), ("paparazzi", 3), ("pythonarraytest", 3), ("storm32", 3), ("ualberta", 3), ("uavionix", 3)]),
  ("MAV_ROI_LOCATION", [("all", 3), ("ardupilotmega", 3), ("asluav", 3), ("avssuas", 3), ("common", 3), ("cubepilot", 3), ("development", 3), ("matrixpilot", 3), ("paparazzi", 3), ("pythonarraytest", 3), ("storm32", 3), ("ualberta", 3), ("uavionix", 3)]),
  ("MAV_ROI_NONE", [("all", 0), ("ardupilotmega", 0), ("asluav", 0), ("avssuas", 0), ("common", 0), ("cubepilot", 0), ("development", 0), ("matrixpilot", 0), ("paparazzi", 0), ("pythonarraytest", 0), ("storm32", 0), ("ualberta", 0), ("uavionix", 0)]),
  ("MAV_ROI_TARGET", [("all", 4), ("ardupilotmega", 4), ("asluav", 4), ("avssuas", 4), ("common", 4), ("cubepilot", 4), ("development", 4), ("matrixpilot", 4), ("paparazzi", 4), ("pythonarraytest", 4), ("storm32", 4), ("ualberta", 4), ("uavionix", 4)]),
  ("MAV_ROI_WPINDEX", [("all", 2), ("ardupilotmega", 2), ("asluav", 2), ("avssuas", 2), ("common", 2), ("cubepilot", 2), ("development", 2), ("matrixpilot", 2), ("paparazzi", 2), ("pythonarraytest", 2), ("storm32", 2), ("ualberta", 2), ("uavionix", 2)]),
  ("MAV_ROI_WPNEXT", [("all", 1), ("ardupilotmega", 1), ("asluav", 1), ("avssuas", 1), ("common", 1), ("cubepilot", 1), ("development", 1), ("matrixpilot", 1), ("paparazzi", 1), ("pythonarraytest", 1), ("storm32", 1), ("ualberta", 1), ("uavionix", 1)]),
  ("MAV_SENSOR_ROTATION_CUSTOM", [("all", 100), ("ardupilotmega", 100), ("asluav", 100), ("avssuas", 100), ("common", 100), ("cubepilot", 100), ("development", 100), ("matrixpilot", 100), ("paparazzi", 100), ("pythonarraytest", 100), ("storm32", 100), ("ualberta", 100), ("uavionix", 100)]),
  ("MAV_SENSOR_ROTATION_NONE", [("all", 0), ("ardupilotmega", 0), ("asluav", 0), ("avssuas", 0), ("common", 0), ("cubepilot", 0), ("development", 0), ("matrixpilot", 0), ("paparazzi", 0), ("pythonarraytest", 0), ("storm32", 0), ("ualberta", 0), ("uavionix", 0)]),
  ("MAV_SENSOR_ROTATION_PITCH_180", [("all", 12), ("ardupilotmega", 12), ("asluav", 12), ("avssuas", 12), ("common", 12), ("cubepilot", 12), ("development", 12), ("matrixpilot", 12), ("paparazzi", 12), ("pythonarraytest", 12), ("storm32", 12), ("ualberta", 12), ("uavionix", 12)]),
  ("MAV_SENSOR_ROTATION_PITCH_180_YAW_270", [("all", 27), ("ardupilotmega", 27), ("asluav", 27), ("avssuas", 27), ("common", 27), ("cubepilot", 27), ("development", 27), ("matrixpilot", 27), ("paparazzi", 27), ("pythonarraytest", 27), ("storm32", 27), ("ualberta", 27), ("uavionix", 27)]),
  ("MAV_SENSOR_ROTATION_PITCH_180_YAW_90", [("all", 26), ("ardupilotmega", 26), ("asluav", 26), ("avssuas", 26), ("common", 26), ("cubepilot", 26), ("development", 26), ("matrixpilot", 26), ("paparazzi", 26), ("pythonarraytest", 26), ("storm32", 26), ("ualberta", 26), ("uavionix", 26)]),
  ("MAV_SENSOR_ROTATION_PITCH_270", [("all", 25), ("ardupilotmega", 25), ("asluav", 25), ("avssuas", 25), ("common", 25), ("cubepilot", 25), ("development", 25), ("matrixpilot", 25), ("paparazzi", 25), ("pythonarraytest", 25), ("storm32", 25), ("ualberta", 25), ("uavionix", 25)]),
  ("MAV_SENSOR_ROTATION_PITCH_315", [("all", 39), ("ardupilotmega", 39), ("asluav", 39), ("avssuas", 39), ("common", 39), ("cubepilot", 39), ("development", 39), ("matrixpilot", 39), ("paparazzi", 39), ("pythonarraytest", 39), ("storm32", 39), ("ualberta", 39), ("uavionix", 39)]),
  ("MAV_SENSOR_ROTATION_PITCH_90", [("all", 24), ("ardupilotmega", 24), ("asluav", 24), ("avssuas", 24), ("common", 24), ("cubepilot", 24), ("development", 24), ("matrixpilot", 24), ("paparazzi", 24), ("pythonarraytest", 24), ("storm32", 24), ("ualberta", 24), ("uavionix", 24)]),
  ("MAV_SENSOR_ROTATION_ROLL_180", [("all", 8), ("ardupilotmega", 8), ("asluav", 8), ("avssuas", 8), ("common", 8), ("cubepilot", 8), ("development", 8), ("matrixpilot", 8), ("paparazzi", 8), ("pythonarraytest", 8), ("storm32", 8), ("ualberta", 8), ("uavionix", 8)]),
  ("MAV_SENSOR_ROTATION_ROLL_180_PITCH_270", [("all", 34), ("ardupilotmega", 34), ("asluav", 34), ("avssuas", 34), ("common", 34), ("cubepilot", 34), ("development", 34), ("matrixpilot", 34), ("paparazzi", 34), ("pythonarraytest", 34), ("storm32", 34), ("ualberta", 34), ("uavionix", 34)]),
  ("MAV_SENSOR_ROTATION_ROLL_180_PITCH_90", [("all", 29), ("ardupilotmega", 29), ("asluav", 29), ("avssuas", 29), ("common", 29), ("cubepilot", 29), ("development", 29), ("matrixpilot", 29), ("paparazzi", 29), ("pythonarraytest", 29), ("storm32", 29), ("ualberta", 29), ("uavionix", 29)]),
  ("MAV_SENSOR_ROTATION_ROLL_180_YAW_135", [("all", 11), ("ardupilotmega", 11), ("asluav", 11), ("avssuas", 11), ("common", 11), ("cubepilot", 11), ("development", 11), ("matrixpilot", 11), ("paparazzi", 11), ("pythonarraytest", 11), ("storm32", 11), ("ualberta", 11), ("uavionix", 11)]),
  ("MAV_SENSOR_ROTATION_ROLL_180_YAW_225", [("all", 13), ("ardupilotmega", 13), ("asluav", 13), ("avssuas", 13), ("common", 13), ("cubepilot", 13), ("development", 13), ("matrixpilot", 13), ("paparazzi", 13), ("pythonarraytest", 13), ("storm32", 13), ("ualberta", 13), ("uavionix", 13)]),
  ("MAV_SENSOR_ROTATION_ROLL_180_YAW_270", [("all", 14), ("ardupilotmega", 14), ("asluav", 14), ("avssuas", 14), ("common", 14), ("cubepilot", 14), ("development", 14), ("matrixpilot", 14), ("paparazzi", 14), ("pythonarraytest", 14), ("storm32", 14), ("ualberta", 14), ("uavionix", 14)]),
  ("MAV_SENSOR_ROTATION_ROLL_180_YAW_315", [("all", 15), ("ardupilotmega", 15), ("asluav", 15), ("avssuas", 15), ("common", 15), ("cubepilot", 15), ("development", 15), ("matrixpilot", 15), ("paparazzi", 15), ("pythonarraytest", 15), ("storm32", 15), ("ualberta", 15), ("uavionix", 15)]),
  ("MAV_SENSOR_ROTATION_ROLL_180_YAW_45", [("all", 9), ("ardupilotmega", 9), ("asluav", 9), ("avssuas", 9), ("common", 9), ("cubepilot", 9), ("development", 9), ("matrixpilot", 9), ("paparazzi", 9), ("pythonarraytest", 9), ("storm32", 9), ("ualberta", 9), ("uavionix", 9)]),
  ("MAV_SENSOR_ROTATION_ROLL_180_YAW_90", [("all", 10), ("ardupilotmega", 10), ("asluav", 10), ("avssuas", 10), ("common", 10), ("cubepilot", 10), ("development", 10), ("matrixpilot", 10), ("paparazzi", 10), ("pythonarraytest", 10), ("storm32", 10), ("ualberta", 10), ("uavionix", 10)]),
  ("MAV_SENSOR_ROTATION_ROLL_270", [("all", 20), ("ardupilotmega", 20), ("asluav", 20), ("avssuas", 20), ("common", 20), ("cubepilot", 20), ("development", 20), ("matrixpilot", 20), ("paparazzi", 20), ("pythonarraytest", 20), ("storm32", 20), ("ualberta", 20), ("uavionix", 20)]),
  ("MAV_SENSOR_ROTATION_ROLL_270_PITCH_180", [("all", 32), ("ardupilotmega", 32), ("asluav", 32), ("avssuas", 32), ("common", 32), ("cubepilot", 32), ("development", 32), ("matrixpilot", 32), ("paparazzi", 32), ("pythonarraytest", 32), ("storm32", 32), ("ualberta", 32), ("uavionix", 32)]),
  ("MAV_SENSOR_ROTATION_ROLL_270_PITCH_270", [("all", 35), ("ardupilotmega", 35), ("asluav", 35), ("avssuas", 35), ("common", 35), ("cubepilot", 35), ("development", 35), ("matrixpilot", 35), ("paparazzi", 35), ("pythonarraytest", 35), ("storm32", 35), ("ualberta", 35), ("uavionix", 35)]),
  ("MAV_SENSOR_ROTATION_ROLL_270_PITCH_90", [("all", 30), ("ardupilotmega", 30), ("asluav", 30), ("avssuas", 30), ("common", 30), ("cubepilot", 30), ("development", 30), ("matrixpilot", 30), ("paparazzi", 30), ("pythonarraytest", 30), ("storm32", 30), ("ualberta", 30), ("uavionix", 30)]),
  ("MAV_SENSOR_ROTATION_ROLL_270_YAW_135", [("all", 23), ("ardupilotmega", 23), ("asluav", 23), ("avssuas", 23), ("common", 23), ("cubepilot", 23), ("development", 23), ("matrixpilot", 23), ("paparazzi", 23), ("pythonarraytest", 23), ("storm32", 23), ("ualberta", 23), ("uavionix", 23)]),
  ("MAV_SENSOR_ROTATION_ROLL_270_YAW_45", [("all", 21), ("ardupilotmega", 21), ("asluav", 21), ("avssuas", 21), ("common", 21), ("cubepilot", 21), ("development", 21), ("matrixpilot", 21), ("paparazzi", 21), ("pythonarraytest", 21), ("storm32", 21), ("ualberta", 21), ("uavionix", 21)]),
  ("MAV_SENSOR_ROTATION_ROLL_270_YAW_90", [("all", 22), ("ardupilotmega", 22), ("asluav", 22), ("avssuas", 22), ("common", 22), ("cubepilot", 22), ("development", 22), ("matrixpilot", 22), ("paparazzi", 22), ("pythonarraytest", 22), ("storm32", 22), ("ualberta", 22), ("uavionix", 22)]),
  ("MAV_SENSOR_ROTATION_ROLL_90", [("all", 16), ("ardupilotmega", 16), ("asluav", 16), ("avssuas", 16), ("common", 16), ("cubepilot", 16), ("development", 16), ("matrixpilot", 16), ("paparazzi", 16), ("pythonarraytest", 16), ("storm32", 16), ("ualberta", 16), ("uavionix", 16)]),
  ("MAV_SENSOR_ROTATION_ROLL_90_PITCH_180", [("all", 31), ("ardupilotmega", 31), ("asluav", 31), ("avssuas", 31), ("common", 31), ("cubepilot", 31), ("development", 31), ("matrixpilot", 31), ("paparazzi", 31), ("pythonarraytest", 31), ("storm32", 31), ("ualberta", 31), ("uavionix", 31)]),
  ("MAV_SENSOR_ROTATION_ROLL_90_PITCH_180_YAW_90", [("all", 36), ("ardupilotmega", 36), ("asluav", 36), ("avssuas", 36), ("common", 36), ("cubepilot", 36), ("development", 36), ("matrixpilot", 36), ("paparazzi", 36), ("pythonarraytest", 36), ("storm32", 36), ("ualberta", 36), ("uavionix", 36)]),
  ("MAV_SENSOR_ROTATION_ROLL_90_PITCH_270", [("all", 33), ("ardupilotmega", 33), ("asluav", 33), ("avssuas", 33), ("common", 33), ("cubepilot", 33), ("development", 33), ("matrixpilot", 33), ("paparazzi", 33), ("pythonarraytest", 33), ("storm32", 33), ("ualberta", 33), ("uavionix", 33)]),
  ("MAV_SENSOR_ROTATION_ROLL_90_PITCH_315", [("all", 40), ("ardupilotmega", 40), ("asluav", 40), ("avssuas", 40), ("common", 40), ("cubepilot", 40), ("development", 40), ("matrixpilot", 40), ("paparazzi", 40), ("pythonarraytest", 40), ("storm32", 40), ("ualberta", 40), ("uavionix", 40)]),
  ("MAV_SENSOR_ROTATION_ROLL_90_PITCH_68_YAW_293", [("all", 38), ("ardupilotmega", 38), ("asluav", 38), ("avssuas", 38), ("common", 38), ("cubepilot", 38), ("development", 38), ("matrixpilot", 38), ("paparazzi", 38), ("pythonarraytest", 38), ("storm32", 38), ("ualberta", 38), ("uavionix", 38)]),
  ("MAV_SENSOR_ROTATION_ROLL_90_PITCH_90", [("all", 28), ("ardupilotmega", 28), ("asluav", 28), ("avssuas", 28), ("common", 28), ("cubepilot", 28), ("development", 28), ("matrixpilot", 28), ("paparazzi", 28), ("pythonarraytest", 28), ("storm32", 28), ("ualberta", 28), ("uavionix", 28)]),
  ("MAV_SENSOR_ROTATION_ROLL_90_YAW_135", [("all", 19), ("ardupilotmega", 19), ("asluav", 19), ("avssuas", 19), ("common", 19), ("cubepilot", 19), ("development", 19), ("matrixpilot", 19), ("paparazzi", 19), ("pythonarraytest", 19), ("storm32", 19), ("ualberta", 19), ("uavionix", 19)]),
  ("MAV_SENSOR_ROTATION_ROLL_90_YAW_270", [("all", 37), ("ardupilotmega", 37), ("asluav", 37), ("avssuas", 37), ("common", 37), ("cubepilot", 37), ("development", 37), ("matrixpilot", 37), ("paparazzi", 37), ("pythonarraytest", 37), ("storm32", 37), ("ualberta", 37), ("uavionix", 37)]),
  ("MAV_SENSOR_ROTATION_ROLL_90_YAW_45", [("all", 17), ("ardupilotmega", 17), ("asluav", 17), ("avssuas", 17), ("common", 17), ("cubepilot", 17), ("development", 17), ("matrixpilot", 17), ("paparazzi", 17), ("pythonarraytest", 17), ("storm32", 17), ("ualberta", 17), ("uavionix", 17)]),
  ("MAV_SENSOR_ROTATION_ROLL_90_YAW_90", [("all", 18), ("ardupilotmega", 18), ("asluav", 18), ("avssuas", 18), ("common", 18), ("cubepilot", 18), ("development", 18), ("matrixpilot", 18), ("paparazzi", 18), ("pythonarraytest", 18), ("storm32", 18), ("ualberta", 18), ("uavionix", 18)]),
  ("MAV_SENSOR_ROTATION_YAW_135", [("all", 3), ("ardupilotmega", 3), ("asluav", 3), ("avssuas", 3), ("common", 3), ("cubepilot", 3), ("development", 3), ("matrixpilot", 3), ("paparazzi", 3), ("pythonarraytest", 3), ("storm32", 3), ("ualberta", 3), ("uavionix", 3)]),
  ("MAV_SENSOR_ROTATION_YAW_180", [("all", 4), ("ardupilotmega", 4), ("asluav", 4), ("avssuas", 4), ("common", 4), ("cubepilot", 4), ("development", 4), ("matrixpilot", 4), ("paparazzi", 4), ("pythonarraytest", 4), ("storm32", 4), ("ualberta", 4), ("uavionix", 4)]),
  ("MAV_SENSOR_ROTATION_YAW_225", [("all", 5), ("ardupilotmega", 5), ("asluav", 5), ("avssuas", 5), ("common", 5), ("cubepilot", 5), ("development", 5), ("matrixpilot", 5), ("paparazzi", 5), ("pythonarraytest", 5), ("storm32", 5), ("ualberta", 5), ("uavionix", 5)]),
  ("MAV_SENSOR_ROTATION_YAW_270", [("all", 6), ("ardupilotmega", 6), ("asluav", 6), ("avssuas", 6), ("common", 6), ("cubepilot", 6), ("development", 6), ("matrixpilot", 6), ("paparazzi", 6), ("pythonarraytest", 6), ("storm32", 6), ("ualberta", 6), ("uavionix", 6)]),
  ("MAV_SENSOR_ROTATION_YAW_315", [("all", 7), ("ardupilotmega", 7), ("asluav", 7), ("avssuas", 7), ("common", 7), ("cubepilot", 7), ("development", 7), ("matrixpilot", 7), ("paparazzi", 7), ("pythonarraytest", 7), ("storm32", 7), ("ualberta", 7), ("uavionix", 7)]),
  ("MAV_SENSOR_ROTATION_YAW_45", [("all", 1), ("ardupilotmega", 1), ("asluav", 1), ("avssuas", 1), ("common", 1), ("cubepilot", 1), ("development", 1), ("matrixpilot", 1), ("paparazzi", 1), ("pythonarraytest", 1), ("storm32", 1), ("ualberta", 1), ("uavionix", 1)]),
  ("MAV_SENSOR_ROTATION_YAW_90", [("all", 2), ("ardupilotmega", 2), ("asluav", 2), ("avssuas", 2), ("common", 2), ("cubepilot", 2), ("development", 2), ("matrixpilot", 2), ("paparazzi", 2), ("pythonarraytest", 2), ("storm32", 2), ("ualberta", 2), ("uavionix", 2)]),
  ("MAV_SEVERITY_ALERT", [("all", 1), ("ardupilotmega", 1), ("asluav", 1), ("avssuas", 1), ("common", 1), ("cubepilot", 1), ("development", 1), ("matrixpilot", 1), ("paparazzi", 1), ("pythonarraytest", 1), ("storm32", 1), ("ualberta", 1), ("uavionix", 1)]),
  ("MAV_SEVERITY_CRITICAL", [("all", 2), ("ardupilotmega", 2), ("asluav", 2), ("avssuas", 2), ("common", 2), ("cubepilot", 2), ("development", 2), ("matrixpilot", 2), ("paparazzi", 2), ("pythonarraytest", 2), ("storm32", 2), ("ualberta", 2), ("uavionix", 2)]),
  ("MAV_SEVERITY_DEBUG", [("all", 7), ("ardupilotmega", 7), ("asluav", 7), ("avssuas", 7), ("common", 7), ("cubepilot", 7), ("development", 7), ("matrixpilot", 7), ("paparazzi", 7), ("pythonarraytest", 7), ("storm32", 7), ("ualberta", 7), ("uavionix", 7)]),
  ("MAV_SEVERITY_EMERGENCY", [("all", 0), ("ardupilotmega", 0), ("asluav", 0), ("avssuas", 0), ("common", 0), ("cubepilot", 0), ("development", 0), ("matrixpilot", 0), ("paparazzi", 0), ("pythonarraytest", 0), ("storm32", 0), ("ualberta", 0), ("uavionix", 0)]),
  ("MAV_SEVERITY_ERROR", [("all", 3), ("ardupilotmega", 3), ("asluav", 3), ("avssuas", 3), ("common", 3), ("cubepilot", 3), ("development", 3), ("matrixpilot", 3), ("paparazzi", 3), ("pythonarraytest", 3), ("storm32", 3), ("ualberta", 3), ("uavionix", 3)]),
  ("MAV_SEVERITY_INFO", [("all", 6), ("ardupilotmega", 6), ("asluav", 6), ("avssuas", 6), ("common", 6), ("cubepilot", 6), ("development", 6), ("matrixpilot", 6), ("paparazzi", 6), ("pythonarraytest", 6), ("storm32", 6), ("ualberta", 6), ("uavionix", 6)]),
  ("MAV_SEVERITY_NOTICE", [("all", 5), ("ardupilotmega", 5), ("asluav", 5), ("avssuas", 5), ("common", 5), ("cubepilot", 5), ("development", 5), ("matrixpilot", 5), ("paparazzi", 5), ("pythonarraytest", 5), ("storm32", 5), ("ualberta", 5), ("uavionix", 5)])]
def constGroups_27 : List (String × List (String × Nat)) := [
  ("MAV_SEVERITY_WARNING", [("all", 4), ("ardupilotmega", 4), ("asluav", 4), ("avssuas", 4), ("common", 4), ("cubepilot", 4), ("development", 4), ("matrixpilot", 4), ("paparazzi", 4), ("pythonarraytest", 4), ("storm32", 4), ("ualberta", 4), ("uavionix", 4)]),
  ("MAV_STANDARD_MODE_ALTITUDE_HOLD", [("all", 4), ("ardupilotmega", 4), ("asluav", 4), ("avssuas", 4), ("common", 4), ("cubepilot", 4), ("development", 4), ("matrixpilot", 4), ("paparazzi", 4), ("pythonarraytest", 4), ("storm32", 4), ("ualberta", 4), ("uavionix", 4)]),
  ("MAV_STANDARD_MODE_CRUISE", [("all", 3), ("ardupilotmega", 3), ("asluav", 3), ("avssuas", 3), ("common", 3), ("cubepilot", 3), ("development", 3), ("matrixpilot", 3), ("paparazzi", 3), ("pythonarraytest", 3), ("storm32", 3), ("ualberta", 3), ("uavionix", 3)]),
  ("MAV_STANDARD_MODE_LAND", [("all", 7), ("ardupilotmega", 7), ("asluav", 7), ("avssuas", 7), ("common", 7), ("cubepilot", 7), ("development", 7), ("matrixpilot", 7), ("paparazzi", 7), ("pythonarraytest", 7), ("storm32", 7), ("ualberta", 7), ("uavionix", 7)]),
  ("MAV_STANDARD_MODE_MISSION", [("all", 6), ("ardupilotmega", 6), ("asluav", 6), ("avssuas", 6), ("common", 6), ("cubepilot", 6), ("development", 6), ("matrixpilot", 6), ("paparazzi", 6), ("pythonarraytest", 6), ("storm32", 6), ("ualberta", 6), ("uavionix", 6)]),
  ("MAV_STANDARD_MODE_NON_STANDARD", [("all", 0), ("ardupilotmega", 0), ("asluav", 0), ("avssuas", 0), ("common", 0), ("cubepilot", 0), ("development", 0), ("matrixpilot", 0), ("paparazzi", 0), ("pythonarraytest", 0), ("storm32", 0), ("ualberta", 0), ("uavionix", 0)]),
  ("MAV_STANDARD_MODE_ORBIT", [("all", 2), ("ardupilotmega", 2), ("asluav", 2), ("avssuas", 2), ("common", 2), ("cubepilot", 2), ("development", 2), ("matrixpilot", 2), ("paparazzi", 2), ("pythonarraytest", 2), ("storm32", 2), ("ualberta", 2), ("uavionix", 2)]),
  ("MAV_STANDARD_MODE_POSITION_HOLD", [("all", 1), ("ardupilotmega", 1), ("asluav", 1), ("avssuas", 1), ("common", 1), ("cubepilot", 1), ("development", 1), ("matrixpilot", 1), ("paparazzi", 1), ("pythonarraytest", 1), ("storm32", 1), ("ualberta", 1), ("uavionix", 1)]),
  ("MAV_STANDARD_MODE_SAFE_RECOVERY", [("all", 5), ("ardupilotmega", 5), ("asluav", 5), ("avssuas", 5), ("common", 5), ("cubepilot", 5), ("development", 5), ("matrixpilot", 5), ("paparazzi", 5), ("pythonarraytest", 5), ("storm32", 5), ("ualberta", 5), ("uavionix", 5)]),
  ("MAV_STANDARD_MODE_TAKEOFF", [("all", 8), ("ardupilotmega", 8), ("asluav", 8), ("avssuas", 8), ("common", 8), ("cubepilot", 8), ("development", 8), ("matrixpilot", 8), ("paparazzi", 8), ("pythonarraytest", 8), ("storm32", 8), ("ualberta", 8), ("uavionix", 8)]),
  ("MAV_STATE_ACTIVE", [("all", 4), ("ardupilotmega", 4), ("asluav", 4), ("avssuas", 4), ("common", 4), ("cubepilot", 4), ("development", 4), ("loweheiser", 4), ("matrixpilot", 4), ("minimal", 4), ("paparazzi", 4), ("pythonarraytest", 4), ("standard", 4), ("storm32", 4), ("ualberta", 4), ("uavionix", 4)]),
  ("MAV_STATE_BOOT", [("all", 1), ("ardupilotmega", 1), ("asluav", 1), ("avssuas", 1), ("common", 1), ("cubepilot", 1), ("development", 1), ("loweheiser", 1), ("matrixpilot", 1), ("minimal", 1), ("paparazzi", 1), ("pythonarraytest", 1), ("standard", 1), ("storm32", 1), ("ualberta", 1), ("uavionix", 1)]),
  ("MAV_STATE_CALIBRATING", [("all", 2), ("ardupilotmega", 2), ("asluav", 2), ("avssuas", 2), ("common", 2), ("cubepilot", 2), ("development", 2), ("loweheiser", 2), ("matrixpilot", 2), ("minimal", 2), ("paparazzi", 2), ("pythonarraytest", 2), ("standard", 2), ("storm32", 2), ("ualberta", 2), ("uavionix", 2)]),
  ("MAV_STATE_CRITICAL", [("all", 5), ("ardupilotmega", 5), ("asluav", 5), ("avssuas", 5), ("common", 5), ("cubepilot", 5), ("development", 5), ("loweheiser", 5), ("matrixpilot", 5), ("minimal", 5), ("paparazzi", 5), ("pythonarraytest", 5), ("standard", 5), ("storm32", 5), ("ualberta", 5), ("uavionix", 5)]),
  ("MAV_STATE_EMERGENCY", [("all", 6), ("ardupilotmega", 6), ("asluav", 6), ("avssuas", 6), ("common", 6), ("cubepilot", 6), ("development", 6), ("loweheiser", 6), ("matrixpilot", 6), ("minimal", 6), ("paparazzi", 6), ("pythonarraytest", 6), ("standard", 6), ("storm32", 6), ("ualberta", 6), ("uavionix", 6)]),
  ("MAV_STATE_FLIGHT_TERMINATION", [("all", 8), ("ardupilotmega", 8), ("asluav", 8), ("avssuas", 8), ("common", 8), ("cubepilot", 8), ("development", 8), ("loweheiser", 8), ("matrixpilot", 8), ("minimal", 8), ("paparazzi", 8), ("pythonarraytest", 8), ("standard", 8), ("storm32", 8), ("ualberta", 8), ("uavionix", 8)]),
  ("MAV_STATE_POWEROFF", [("all", 7), ("ardupilotmega", 7), ("asluav", 7), ("avssuas", 7), ("common", 7), ("cubepilot", 7), ("development", 7), ("loweheiser", 7), ("matrixpilot", 7), ("minimal", 7), ("paparazzi", 7), ("pythonarraytest", 7), ("standard", 7), ("storm32", 7), ("ualberta", 7), ("uavionix", 7)]),
  ("MAV_STATE_STANDBY", [("all", 3), ("ardupilotmega", 3), ("asluav", 3), ("avssuas", 3), ("common", 3), ("cubepilot", 3), ("development", 3), ("loweheiser", 3), ("matrixpilot", 3), ("minimal", 3), ("paparazzi", 3), ("pythonarraytest", 3), ("standard", 3), ("storm32", 3), ("ualberta", 3), ("uavionix", 3)]),
  ("MAV_STATE_UNINIT", [("all", 0), ("ardupilotmega", 0), ("asluav", 0), ("avssuas", 0), ("common", 0), ("cubepilot", 0), ("development", 0), ("loweheiser", 0), ("matrixpilot", 0), ("minimal", 0), ("paparazzi", 0), ("pythonarraytest", 0), ("standard", 0), ("storm32", 0), ("ualberta", 0), ("uavionix", 0)]),
  ("MAV_STORM32_CAMERA_PREARM_FLAGS_CONNECTED", [("all", 1), ("storm32", 1)]),
  ("MAV_STORM32_GIMBAL_MANAGER_CAP_FLAGS_HAS_PROFILES", [("all", 1), ("storm32", 1)]),
  ("MAV_STORM32_GIMBAL_MANAGER_CLIENT_AUTOPILOT", [("all", 2), ("storm32", 2)]),
  ("MAV_STORM32_GIMBAL_MANAGER_CLIENT_CAMERA", [("all", 4), ("storm32", 4)]),
  ("MAV_STORM32_GIMBAL_MANAGER_CLIENT_CAMERA2", [("all", 6), ("storm32", 6)]),
  ("MAV_STORM32_GIMBAL_MANAGER_CLIENT_CUSTOM", [("all", 7), ("storm32", 7)]),
  ("MAV_STORM32_GIMBAL_MANAGER_CLIENT_CUSTOM2", [("all", 8), ("storm32", 8)]),
  ("MAV_STORM32_GIMBAL_MANAGER_CLIENT_GCS", [("all", 3), ("storm32", 3)]),
  ("MAV_STORM32_GIMBAL_MANAGER_CLIENT_GCS2", [("all", 5), ("storm32", 5)]),
  ("MAV_STORM32_GIMBAL_MANAGER_CLIENT_NONE", [("all", 0), ("storm32", 0)]),
  ("MAV_STORM32_GIMBAL_MANAGER_CLIENT_ONBOARD", [("all", 1), ("storm32", 1)]),
  ("MAV_STORM32_GIMBAL_MANAGER_FLAGS_CLIENT_AUTOPILOT_ACTIVE", [("all", 4), ("storm32", 4)]),
  ("MAV_STORM32_GIMBAL_MANAGER_FLAGS_CLIENT_CAMERA2_ACTIVE", [("all", 64), ("storm32", 64)]),
  ("MAV_STORM32_GIMBAL_MANAGER_FLAGS_CLIENT_CAMERA_ACTIVE", [("all", 16), ("storm32", 16)]),
  ("MAV_STORM32_GIMBAL_MANAGER_FLAGS_CLIENT_CUSTOM2_ACTIVE", [("all", 256), ("storm32", 256)]),
  ("MAV_STORM32_GIMBAL_MANAGER_FLAGS_CLIENT_CUSTOM_ACTIVE", [("all", 128), ("storm32", 128)]),
  ("MAV_STORM32_GIMBAL_MANAGER_FLAGS_CLIENT_GCS2_ACTIVE", [("all", 32), ("storm32", 32)]),
  ("MAV_STORM32_GIMBAL_MANAGER_FLAGS_CLIENT_GCS_ACTIVE", [("all", 8), ("storm32", 8)]),
  ("MAV_STORM32_GIMBAL_MANAGER_FLAGS_CLIENT_ONBOARD_ACTIVE", [("all", 2), ("storm32", 2)]),
  ("MAV_STORM32_GIMBAL_MANAGER_FLAGS_NONE", [("all", 0), ("storm32", 0)]),
  ("MAV_STORM32_GIMBAL_MANAGER_FLAGS_RC_ACTIVE", [("all", 1), ("storm32", 1)]),
  ("MAV_STORM32_GIMBAL_MANAGER_FLAGS_SET_RELEASE", [("all", 1024), ("storm32", 1024)]),
  ("MAV_STORM32_GIMBAL_MANAGER_FLAGS_SET_SUPERVISON", [("all", 512), ("storm32", 512)]),
  ("MAV_STORM32_GIMBAL_MANAGER_PROFILE_COOPERATIVE", [("all", 2), ("storm32", 2)]),
  ("MAV_STORM32_GIMBAL_MANAGER_PROFILE_CUSTOM", [("all", 1), ("storm32", 1)]),
  ("MAV_STORM32_GIMBAL_MANAGER_PROFILE_DEFAULT", [("all", 0), ("storm32", 0)]),
  ("MAV_STORM32_GIMBAL_MANAGER_PROFILE_EXCLUSIVE", [("all", 3), ("storm32", 3)]),
  ("MAV_STORM32_GIMBAL_MANAGER_PROFILE_PRIORITY_COOPERATIVE", [("all", 4), ("storm32", 4)]),
  ("MAV_STORM32_GIMBAL_MANAGER_PROFILE_PRIORITY_EXCLUSIVE", [("all", 5), ("storm32", 5)]),
  ("MAV_STORM32_GIMBAL_PREARM_FLAGS_AUX0_LOW", [("all", 1024), ("storm32", 1024)]),
  ("MAV_STORM32_GIMBAL_PREARM_FLAGS_AUX1_LOW", [("all", 2048), ("storm32", 2048)]),
  ("MAV_STORM32_GIMBAL_PREARM_FLAGS_CAMERA_CONNECTED", [("all", 512), ("storm32", 512)]),
  ("MAV_STORM32_GIMBAL_PREARM_FLAGS_ENCODERS_WORKING", [("all", 8), ("storm32", 8)]),
  ("MAV_STORM32_GIMBAL_PREARM_FLAGS_IMUS_WORKING", [("all", 2), ("storm32", 2)]),
  ("MAV_STORM32_GIMBAL_PREARM_FLAGS_IS_NORMAL", [("all", 1), ("storm32", 1)]),
  ("MAV_STORM32_GIMBAL_PREARM_FLAGS_MAVLINK_RECEIVING", [("all", 64), ("storm32", 64)]),
  ("MAV_STORM32_GIMBAL_PREARM_FLAGS_MOTORS_WORKING", [("all", 4), ("storm32", 4)]),
  ("MAV_STORM32_GIMBAL_PREARM_FLAGS_NTLOGGER_WORKING", [("all", 4096), ("storm32", 4096)]),
  ("MAV_STORM32_GIMBAL_PREARM_FLAGS_STORM32LINK_QFIX", [("all", 128), ("storm32", 128)]),
  ("MAV_STORM32_GIMBAL_PREARM_FLAGS_STORM32LINK_WORKING", [("all", 256), ("storm32", 256)]),
  ("MAV_STORM32_GIMBAL_PREARM_FLAGS_VIRTUALCHANNELS_RECEIVING", [("all", 32), ("storm32", 32)])]
def constGroups_28 : List (String × List (String × Nat)) := [
  ("MAV_STORM32_GIMBAL_PREARM_FLAGS_VOLTAGE_OK", [("all", 16), ("storm32", 16)]),
  ("MAV_STORM32_TUNNEL_PAYLOAD_TYPE_STORM32_CH1_IN", [("all", 200), ("storm32", 200)]),
  ("MAV_STORM32_TUNNEL_PAYLOAD_TYPE_STORM32_CH1_OUT", [("all", 201), ("storm32", 201)]),
  ("MAV_STORM32_TUNNEL_PAYLOAD_TYPE_STORM32_CH2_IN", [("all", 202), ("storm32", 202)]),
  ("MAV_STORM32_TUNNEL_PAYLOAD_TYPE_STORM32_CH2_OUT", [("all", 203), ("storm32", 203)]),
  ("MAV_STORM32_TUNNEL_PAYLOAD_TYPE_STORM32_CH3_IN", [("all", 204), ("storm32", 204)]),
  ("MAV_STORM32_TUNNEL_PAYLOAD_TYPE_STORM32_CH3_OUT", [("all", 205), ("storm32", 205)]),
  ("MAV_SYS_STATUS_AHRS", [("all", 2097152), ("ardupilotmega", 2097152), ("asluav", 2097152), ("avssuas", 2097152), ("common", 2097152), ("cubepilot", 2097152), ("development", 2097152), ("matrixpilot", 2097152), ("paparazzi", 2097152), ("pythonarraytest", 2097152), ("storm32", 2097152), ("ualberta", 2097152), ("uavionix", 2097152)]),
  ("MAV_SYS_STATUS_EXTENSION_USED", [("all", 2147483648), ("ardupilotmega", 2147483648), ("asluav", 2147483648), ("avssuas", 2147483648), ("common", 2147483648), ("cubepilot", 2147483648), ("development", 2147483648), ("matrixpilot", 2147483648), ("paparazzi", 2147483648), ("pythonarraytest", 2147483648), ("storm32", 2147483648), ("ualberta", 2147483648), ("uavionix", 2147483648)]),
  ("MAV_SYS_STATUS_GEOFENCE", [("all", 1048576), ("ardupilotmega", 1048576), ("asluav", 1048576), ("avssuas", 1048576), ("common", 1048576), ("cubepilot", 1048576), ("development", 1048576), ("matrixpilot", 1048576), ("paparazzi", 1048576), ("pythonarraytest", 1048576), ("storm32", 1048576), ("ualberta", 1048576), ("uavionix", 1048576)]),
  ("MAV_SYS_STATUS_LOGGING", [("all", 16777216), ("ardupilotmega", 16777216), ("asluav", 16777216), ("avssuas", 16777216), ("common", 16777216), ("cubepilot", 16777216), ("development", 16777216), ("matrixpilot", 16777216), ("paparazzi", 16777216), ("pythonarraytest", 16777216), ("storm32", 16777216), ("ualberta", 16777216), ("uavionix", 16777216)]),
  ("MAV_SYS_STATUS_OBSTACLE_AVOIDANCE", [("all", 536870912), ("ardupilotmega", 536870912), ("asluav", 536870912), ("avssuas", 536870912), ("common", 536870912), ("cubepilot", 536870912), ("development", 536870912), ("matrixpilot", 536870912), ("paparazzi", 536870912), ("pythonarraytest", 536870912), ("storm32", 536870912), ("ualberta", 536870912), ("uavionix", 536870912)]),
  ("MAV_SYS_STATUS_PREARM_CHECK", [("all", 268435456), ("ardupilotmega", 268435456), ("asluav", 268435456), ("avssuas", 268435456), ("common", 268435456), ("cubepilot", 268435456), ("development", 268435456), ("matrixpilot", 268435456), ("paparazzi", 268435456), ("pythonarraytest", 268435456), ("storm32", 268435456), ("ualberta", 268435456), ("uavionix", 268435456)]),
  ("MAV_SYS_STATUS_RECOVERY_SYSTEM", [("all", 1), ("ardupilotmega", 1), ("asluav", 1), ("avssuas", 1), ("common", 1), ("cubepilot", 1), ("development", 1), ("matrixpilot", 1), ("paparazzi", 1), ("pythonarraytest", 1), ("storm32", 1), ("ualberta", 1), ("uavionix", 1)]),
  ("MAV_SYS_STATUS_REVERSE_MOTOR", [("all", 8388608), ("ardupilotmega", 8388608), ("asluav", 8388608), ("avssuas", 8388608), ("common", 8388608), ("cubepilot", 8388608), ("development", 8388608), ("matrixpilot", 8388608), ("paparazzi", 8388608), ("pythonarraytest", 8388608), ("storm32", 8388608), ("ualberta", 8388608), ("uavionix", 8388608)]),
  ("MAV_SYS_STATUS_SENSOR_3D_ACCEL", [("all", 2), ("ardupilotmega", 2), ("asluav", 2), ("avssuas", 2), ("common", 2), ("cubepilot", 2), ("development", 2), ("matrixpilot", 2), ("paparazzi", 2), ("pythonarraytest", 2), ("storm32", 2), ("ualberta", 2), ("uavionix", 2)]),
  ("MAV_SYS_STATUS_SENSOR_3D_ACCEL2", [("all", 262144), ("ardupilotmega", 262144), ("asluav", 262144), ("avssuas", 262144), ("common", 262144), ("cubepilot", 262144), ("development", 262144), ("matrixpilot", 262144), ("paparazzi", 262144), ("pythonarraytest", 262144), ("storm32", 262144), ("ualberta", 262144), ("uavionix", 262144)]),
  ("MAV_SYS_STATUS_SENSOR_3D_GYRO", [("all", 1), ("ardupilotmega", 1), ("asluav", 1), ("avssuas", 1), ("common", 1), ("cubepilot", 1), ("development", 1), ("matrixpilot", 1), ("paparazzi", 1), ("pythonarraytest", 1), ("storm32", 1), ("ualberta", 1), ("uavionix", 1)]),
  ("MAV_SYS_STATUS_SENSOR_3D_GYRO2", [("all", 131072), ("ardupilotmega", 131072), ("asluav", 131072), ("avssuas", 131072), ("common", 131072), ("cubepilot", 131072), ("development", 131072), ("matrixpilot", 131072), ("paparazzi", 131072), ("pythonarraytest", 131072), ("storm32", 131072), ("ualberta", 131072), ("uavionix", 131072)]),
  ("MAV_SYS_STATUS_SENSOR_3D_MAG", [("all", 4), ("ardupilotmega", 4), ("asluav", 4), ("avssuas", 4), ("common", 4), ("cubepilot", 4), ("development", 4), ("matrixpilot", 4), ("paparazzi", 4), ("pythonarraytest", 4), ("storm32", 4), ("ualberta", 4), ("uavionix", 4)]),
  ("MAV_SYS_STATUS_SENSOR_3D_MAG2", [("all", 524288), ("ardupilotmega", 524288), ("asluav", 524288), ("avssuas", 524288), ("common", 524288), ("cubepilot", 524288), ("development", 524288), ("matrixpilot", 524288), ("paparazzi", 524288), ("pythonarraytest", 524288), ("storm32", 524288), ("ualberta", 524288), ("uavionix", 524288)]),
  ("MAV_SYS_STATUS_SENSOR_ABSOLUTE_PRESSURE", [("all", 8), ("ardupilotmega", 8), ("asluav", 8), ("avssuas", 8), ("common", 8), ("cubepilot", 8), ("development", 8), ("matrixpilot", 8), ("paparazzi", 8), ("pythonarraytest", 8), ("storm32", 8), ("ualberta", 8), ("uavionix", 8)]),
  ("MAV_SYS_STATUS_SENSOR_ANGULAR_RATE_CONTROL", [("all", 1024), ("ardupilotmega", 1024), ("asluav", 1024), ("avssuas", 1024), ("common", 1024), ("cubepilot", 1024), ("development", 1024), ("matrixpilot", 1024), ("paparazzi", 1024), ("pythonarraytest", 1024), ("storm32", 1024), ("ualberta", 1024), ("uavionix", 1024)]),
  ("MAV_SYS_STATUS_SENSOR_ATTITUDE_STABILIZATION", [("all", 2048), ("ardupilotmega", 2048), ("asluav", 2048), ("avssuas", 2048), ("common", 2048), ("cubepilot", 2048), ("development", 2048), ("matrixpilot", 2048), ("paparazzi", 2048), ("pythonarraytest", 2048), ("storm32", 2048), ("ualberta", 2048), ("uavionix", 2048)]),
  ("MAV_SYS_STATUS_SENSOR_BATTERY", [("all", 33554432), ("ardupilotmega", 33554432), ("asluav", 33554432), ("avssuas", 33554432), ("common", 33554432), ("cubepilot", 33554432), ("development", 33554432), ("matrixpilot", 33554432), ("paparazzi", 33554432), ("pythonarraytest", 33554432), ("storm32", 33554432), ("ualberta", 33554432), ("uavionix", 33554432)]),
  ("MAV_SYS_STATUS_SENSOR_DIFFERENTIAL_PRESSURE", [("all", 16), ("ardupilotmega", 16), ("asluav", 16), ("avssuas", 16), ("common", 16), ("cubepilot", 16), ("development", 16), ("matrixpilot", 16), ("paparazzi", 16), ("pythonarraytest", 16), ("storm32", 16), ("ualberta", 16), ("uavionix", 16)]),
  ("MAV_SYS_STATUS_SENSOR_EXTERNAL_GROUND_TRUTH", [("all", 512), ("ardupilotmega", 512), ("asluav", 512), ("avssuas", 512), ("common", 512), ("cubepilot", 512), ("development", 512), ("matrixpilot", 512), ("paparazzi", 512), ("pythonarraytest", 512), ("storm32", 512), ("ualberta", 512), ("uavionix", 512)]),
  ("MAV_SYS_STATUS_SENSOR_GPS", [("all", 32), ("ardupilotmega", 32), ("asluav", 32), ("avssuas", 32), ("common", 32), ("cubepilot", 32), ("development", 32), ("matrixpilot", 32), ("paparazzi", 32), ("pythonarraytest", 32), ("storm32", 32), ("ualberta", 32), ("uavionix", 32)]),
  ("MAV_SYS_STATUS_SENSOR_LASER_POSITION", [("all", 256), ("ardupilotmega", 256), ("asluav", 256), ("avssuas", 256), ("common", 256), ("cubepilot", 256), ("development", 256), ("matrixpilot", 256), ("paparazzi", 256), ("pythonarraytest", 256), ("storm32", 256), ("ualberta", 256), ("uavionix", 256)]),
  ("MAV_SYS_STATUS_SENSOR_MOTOR_OUTPUTS", [("all", 32768), ("ardupilotmega", 32768), ("asluav", 32768), ("avssuas", 32768), ("common", 32768), ("cubepilot", 32768), ("development", 32768), ("matrixpilot", 32768), ("paparazzi", 32768), ("pythonarraytest", 32768), ("storm32", 32768), ("ualberta", 32768), ("uavionix", 32768)]),
  ("MAV_SYS_STATUS_SENSOR_OPTICAL_FLOW", [("all", 64), ("ardupilotmega", 64), ("asluav", 64), ("avssuas", 64), ("common", 64), ("cubepilot", 64), ("development", 64), ("matrixpilot", 64), ("paparazzi", 64), ("pythonarraytest", 64), ("storm32", 64), ("ualberta", 64), ("uavionix", 64)]),
  ("MAV_SYS_STATUS_SENSOR_PROPULSION", [("all", 1073741824), ("ardupilotmega", 1073741824), ("asluav", 1073741824), ("avssuas", 1073741824), ("common", 1073741824), ("cubepilot", 1073741824), ("development", 1073741824), ("matrixpilot", 1073741824), ("paparazzi", 1073741824), ("pythonarraytest", 1073741824), ("storm32", 1073741824), ("ualberta", 1073741824), ("uavionix", 1073741824)]),
  ("MAV_SYS_STATUS_SENSOR_PROXIMITY", [("all", 67108864), ("ardupilotmega", 67108864), ("asluav", 67108864), ("avssuas", 67108864), ("common", 67108864), ("cubepilot", 67108864), ("development", 67108864), ("matrixpilot", 67108864), ("paparazzi", 67108864), ("pythonarraytest", 67108864), ("storm32", 67108864), ("ualberta", 67108864), ("uavionix", 67108864)]),
  ("MAV_SYS_STATUS_SENSOR_RC_RECEIVER", [("all", 65536), ("ardupilotmega", 65536), ("asluav", 65536), ("avssuas", 65536), ("common", 65536), ("cubepilot", 65536), ("development", 65536), ("matrixpilot", 65536), ("paparazzi", 65536), ("pythonarraytest", 65536), ("storm32", 65536), ("ualberta", 65536), ("uavionix", 65536)]),
  ("MAV_SYS_STATUS_SENSOR_SATCOM", [("all", 134217728), ("ardupilotmega", 134217728), ("asluav", 134217728), ("avssuas", 134217728), ("common", 134217728), ("cubepilot", 134217728), ("development", 134217728), ("matrixpilot", 134217728), ("paparazzi", 134217728), ("pythonarraytest", 134217728), ("storm32", 134217728), ("ualberta", 134217728), ("uavionix", 134217728)]),
  ("MAV_SYS_STATUS_SENSOR_VISION_POSITION", [("all", 128), ("ardupilotmega", 128), ("asluav", 128), ("avssuas", 128), ("common", 128), ("cubepilot", 128), ("development", 128), ("matrixpilot", 128), ("paparazzi", 128), ("pythonarraytest", 128), ("storm32", 128), ("ualberta", 128), ("uavionix", 128)]),
  ("MAV_SYS_STATUS_SENSOR_XY_POSITION_CONTROL", [("all", 16384), ("ardupilotmega", 16384), ("asluav", 16384), ("avssuas", 16384), ("common", 16384), ("cubepilot", 16384), ("development", 16384), ("matrixpilot", 16384), ("paparazzi", 16384), ("pythonarraytest", 16384), ("storm32", 16384), ("ualberta", 16384), ("uavionix", 16384)]),
  ("MAV_SYS_STATUS_SENSOR_YAW_POSITION", [("all", 4096), ("ardupilotmega", 4096), ("asluav", 4096), ("avssuas", 4096), ("common", 4096), ("cubepilot", 4096), ("development", 4096), ("matrixpilot", 4096), ("paparazzi", 4096), ("pythonarraytest", 4096), ("storm32", 4096), ("ualberta", 4096), ("uavionix", 4096)]),
  ("MAV_SYS_STATUS_SENSOR_Z_ALTITUDE_CONTROL", [("all", 8192), ("ardupilotmega", 8192), ("asluav", 8192), ("avssuas", 8192), ("common", 8192), ("cubepilot", 8192), ("development", 8192), ("matrixpilot", 8192), ("paparazzi", 8192), ("pythonarraytest", 8192), ("storm32", 8192), ("ualberta", 8192), ("uavionix", 8192)]),
  ("MAV_SYS_STATUS_TERRAIN", [("all", 4194304), ("ardupilotmega", 4194304), ("asluav", 4194304), ("avssuas", 4194304), ("common", 4194304), ("cubepilot", 4194304), ("development", 4194304), ("matrixpilot", 4194304), ("paparazzi", 4194304), ("pythonarraytest", 4194304), ("storm32", 4194304), ("ualberta", 4194304), ("uavionix", 4194304)]),
  ("MAV_TUNNEL_PAYLOAD_TYPE_MODALAI_ESC_UART_PASSTHRU", [("all", 211), ("ardupilotmega", 211), ("asluav", 211), ("avssuas", 211), ("common", 211), ("cubepilot", 211), ("development", 211), ("matrixpilot", 211), ("paparazzi", 211), ("pythonarraytest", 211), ("storm32", 211), ("ualberta", 211), ("uavionix", 211)]),
  ("MAV_TUNNEL_PAYLOAD_TYPE_MODALAI_IO_UART_PASSTHRU", [("all", 212), ("ardupilotmega", 212), ("asluav", 212), ("avssuas", 212), ("common", 212), ("cubepilot", 212), ("development", 212), ("matrixpilot", 212), ("paparazzi", 212), ("pythonarraytest", 212), ("storm32", 212), ("ualberta", 212), ("uavionix", 212)]),
  ("MAV_TUNNEL_PAYLOAD_TYPE_MODALAI_REMOTE_OSD", [("all", 210), ("ardupilotmega", 210), ("asluav", 210), ("avssuas", 210), ("common", 210), ("cubepilot", 210), ("development", 210), ("matrixpilot", 210), ("paparazzi", 210), ("pythonarraytest", 210), ("storm32", 210), ("ualberta", 210), ("uavionix", 210)]),
  ("MAV_TUNNEL_PAYLOAD_TYPE_STORM32_RESERVED0", [("all", 200), ("ardupilotmega", 200), ("asluav", 200), ("avssuas", 200), ("common", 200), ("cubepilot", 200), ("development", 200), ("matrixpilot", 200), ("paparazzi", 200), ("pythonarraytest", 200), ("storm32", 200), ("ualberta", 200), ("uavionix", 200)]),
  ("MAV_TUNNEL_PAYLOAD_TYPE_STORM32_RESERVED1", [("all", 201), ("ardupilotmega", 201), ("asluav", 201), ("avssuas", 201), ("common", 201), ("cubepilot", 201), ("development", 201), ("matrixpilot", 201), ("paparazzi", 201), ("pythonarraytest", 201), ("storm32", 201), ("ualberta", 201), ("uavionix", 201)]),
  ("MAV_TUNNEL_PAYLOAD_TYPE_STORM32_RESERVED2", [("all", 202), ("ardupilotmega", 202), ("asluav", 202), ("avssuas", 202), ("common", 202), ("cubepilot", 202), ("development", 202), ("matrixpilot", 202), ("paparazzi", 202), ("pythonarraytest", 202), ("storm32", 202), ("ualberta", 202), ("uavionix", 202)]),
  ("MAV_TUNNEL_PAYLOAD_TYPE_STORM32_RESERVED3", [("all", 203), ("ardupilotmega", 203), ("asluav", 203), ("avssuas", 203), ("common", 203), ("cubepilot", 203), ("development", 203), ("matrixpilot", 203), ("paparazzi", 203), ("pythonarraytest", 203), ("storm32", 203), ("ualberta", 203), ("uavionix", 203)]),
  ("MAV_TUNNEL_PAYLOAD_TYPE_STORM32_RESERVED4", [("all", 204), ("ardupilotmega", 204), ("asluav", 204), ("avssuas", 204), ("common", 204), ("cubepilot", 204), ("development", 204), ("matrixpilot", 204), ("paparazzi", 204), ("pythonarraytest", 204), ("storm32", 204), ("ualberta", 204), ("uavionix", 204)]),
  ("MAV_TUNNEL_PAYLOAD_TYPE_STORM32_RESERVED5", [("all", 205), ("ardupilotmega", 205), ("asluav", 205), ("avssuas", 205), ("common", 205), ("cubepilot", 205), ("development", 205), ("matrixpilot", 205), ("paparazzi", 205), ("pythonarraytest", 205), ("storm32", 205), ("ualberta", 205), ("uavionix", 205)]),
  ("MAV_TUNNEL_PAYLOAD_TYPE_STORM32_RESERVED6", [("all", 206), ("ardupilotmega", 206), ("asluav", 206), ("avssuas", 206), ("common", 206), ("cubepilot", 206), ("development", 206), ("matrixpilot", 206), ("paparazzi", 206), ("pythonarraytest", 206), ("storm32", 206), ("ualberta", 206), ("uavionix", 206)]),
  ("MAV_TUNNEL_PAYLOAD_TYPE_STORM32_RESERVED7", [("all", 207), ("ardupilotmega", 207), ("asluav", 207), ("avssuas", 207), ("common", 207), ("cubepilot", 207), ("development", 207), ("matrixpilot", 207), ("paparazzi", 207), ("pythonarraytest", 207), ("storm32", 207), ("ualberta", 207), ("uavionix", 207)]),
  ("MAV_TUNNEL_PAYLOAD_TYPE_STORM32_RESERVED8", [("all", 208), ("ardupilotmega", 208), ("asluav", 208), ("avssuas", 208), ("common", 208), ("cubepilot", 208), ("development", 208), ("matrixpilot", 208), ("paparazzi", 208), ("pythonarraytest", 208), ("storm32", 208), ("ualberta", 208), ("uavionix", 208)]),
  ("MAV_TUNNEL_PAYLOAD_TYPE_STORM32_RESERVED9", [("all", 209), ("ardupilotmega", 209), ("asluav", 209), ("avssuas", 209), ("common", 209), ("cubepilot", 209), ("development", 209), ("matrixpilot", 209), ("paparazzi", 209), ("pythonarraytest", 209), ("storm32", 209), ("ualberta", 209), ("uavionix", 209)]),
  ("MAV_TUNNEL_PAYLOAD_TYPE_UNKNOWN", [("all", 0), ("ardupilotmega", 0), ("asluav", 0), ("avssuas", 0), ("common", 0), ("cubepilot", 0), ("development", 0), ("matrixpilot", 0), ("paparazzi", 0), ("pythonarraytest", 0), ("storm32", 0), ("ualberta", 0), ("uavionix", 0)]),
  ("MAV_TYPE_ADSB", [("all", 27), ("ardupilotmega", 27), ("asluav", 27), ("avssuas", 27), ("common", 27), ("cubepilot", 27), ("development", 27), ("loweheiser", 27), ("matrixpilot", 27), ("minimal", 27), ("paparazzi", 27), ("pythonarraytest", 27), ("standard", 27), ("storm32", 27), ("ualberta", 27), ("uavionix", 27)]),
  ("MAV_TYPE_AIRSHIP", [("all", 7), ("ardupilotmega", 7), ("asluav", 7), ("avssuas", 7), ("common", 7), ("cubepilot", 7), ("development", 7), ("loweheiser", 7), ("matrixpilot", 7), ("minimal", 7), ("paparazzi", 7), ("pythonarraytest", 7), ("standard", 7), ("storm32", 7), ("ualberta", 7), ("uavionix", 7)]),
  ("MAV_TYPE_ANTENNA_TRACKER", [("all", 5), ("ardupilotmega", 5), ("asluav", 5), ("avssuas", 5), ("common", 5), ("cubepilot", 5), ("development", 5), ("loweheiser", 5), ("matrixpilot", 5), ("minimal", 5), ("paparazzi", 5), ("pythonarraytest", 5), ("standard", 5), ("storm32", 5), ("ualberta", 5), ("uavionix", 5)]),
  ("MAV_TYPE_BATTERY", [("all", 36), ("ardupilotmega", 36), ("asluav", 36), ("avssuas", 36), ("common", 36), ("cubepilot", 36), ("development", 36), ("loweheiser", 36), ("matrixpilot", 36), ("minimal", 36), ("paparazzi", 36), ("pythonarraytest", 36), ("standard", 36), ("storm32", 36), ("ualberta", 36), ("uavionix", 36)]),
  ("MAV_TYPE_CAMERA", [("all", 30), ("ardupilotmega", 30), ("asluav", 30), ("avssuas", 30), ("common", 30), ("cubepilot", 30), ("development", 30), ("loweheiser", 30), ("matrixpilot", 30), ("minimal", 30), ("paparazzi", 30), ("pythonarraytest", 30), ("standard", 30), ("storm32", 30), ("ualberta", 30), ("uavionix", 30)]),
  ("MAV_TYPE_CHARGING_STATION", [("all", 31), ("ardupilotmega", 31), ("asluav", 31), ("avssuas", 31), ("common", 31), ("cubepilot", 31), ("development", 31), ("loweheiser", 31), ("matrixpilot", 31), ("minimal", 31), ("paparazzi", 31), ("pythonarraytest", 31), ("standard", 31), ("storm32", 31), ("ualberta", 31), ("uavionix", 31)])]
def constGroups_29 : List (String × List (String × Nat)) := [
  ("MAV_TYPE_COAXIAL", [("all", 3), ("ardupilotmega", 3), ("asluav", 3), ("avssuas", 3), ("common", 3), ("cubepilot", 3), ("development", 3), ("loweheiser", 3), ("matrixpilot", 3), ("minimal", 3), ("paparazzi", 3), ("pythonarraytest", 3), ("standard", 3), ("storm32", 3), ("ualberta", 3), ("uavionix", 3)]),
  ("MAV_TYPE_DECAROTOR", [("all", 35), ("ardupilotmega", 35), ("asluav", 35), ("avssuas", 35), ("common", 35), ("cubepilot", 35), ("development", 35), ("loweheiser", 35), ("matrixpilot", 35), ("minimal", 35), ("paparazzi", 35), ("pythonarraytest", 35), ("standard", 35), ("storm32", 35), ("ualberta", 35), ("uavionix", 35)]),
  ("MAV_TYPE_DODECAROTOR", [("all", 29), ("ardupilotmega", 29), ("asluav", 29), ("avssuas", 29), ("common", 29), ("cubepilot", 29), ("development", 29), ("loweheiser", 29), ("matrixpilot", 29), ("minimal", 29), ("paparazzi", 29), ("pythonarraytest", 29), ("standard", 29), ("storm32", 29), ("ualberta", 29), ("uavionix", 29)]),
  ("MAV_TYPE_FIXED_WING", [("all", 1), ("ardupilotmega", 1), ("asluav", 1), ("avssuas", 1), ("common", 1), ("cubepilot", 1), ("development", 1), ("loweheiser", 1), ("matrixpilot", 1), ("minimal", 1), ("paparazzi", 1), ("pythonarraytest", 1), ("standard", 1), ("storm32", 1), ("ualberta", 1), ("uavionix", 1)]),
  ("MAV_TYPE_FLAPPING_WING", [("all", 16), ("ardupilotmega", 16), ("asluav", 16), ("avssuas", 16), ("common", 16), ("cubepilot", 16), ("development", 16), ("loweheiser", 16), ("matrixpilot", 16), ("minimal", 16), ("paparazzi", 16), ("pythonarraytest", 16), ("standard", 16), ("storm32", 16), ("ualberta", 16), ("uavionix", 16)]),
  ("MAV_TYPE_FLARM", [("all", 32), ("ardupilotmega", 32), ("asluav", 32), ("avssuas", 32), ("common", 32), ("cubepilot", 32), ("development", 32), ("loweheiser", 32), ("matrixpilot", 32), ("minimal", 32), ("paparazzi", 32), ("pythonarraytest", 32), ("standard", 32), ("storm32", 32), ("ualberta", 32), ("uavionix", 32)]),
  ("MAV_TYPE_FREE_BALLOON", [("all", 8), ("ardupilotmega", 8), ("asluav", 8), ("avssuas", 8), ("common", 8), ("cubepilot", 8), ("development", 8), ("loweheiser", 8), ("matrixpilot", 8), ("minimal", 8), ("paparazzi", 8), ("pythonarraytest", 8), ("standard", 8), ("storm32", 8), ("ualberta", 8), ("uavionix", 8)]),
  ("MAV_TYPE_GCS", [("all", 6), ("ardupilotmega", 6), ("asluav", 6), ("avssuas", 6), ("common", 6), ("cubepilot", 6), ("development", 6), ("loweheiser", 6), ("matrixpilot", 6), ("minimal", 6), ("paparazzi", 6), ("pythonarraytest", 6), ("standard", 6), ("storm32", 6), ("ualberta", 6), ("uavionix", 6)]),
  ("MAV_TYPE_GENERIC", [("all", 0), ("ardupilotmega", 0), ("asluav", 0), ("avssuas", 0), ("common", 0), ("cubepilot", 0), ("development", 0), ("loweheiser", 0), ("matrixpilot", 0), ("minimal", 0), ("paparazzi", 0), ("pythonarraytest", 0), ("standard", 0), ("storm32", 0), ("ualberta", 0), ("uavionix", 0)]),
  ("MAV_TYPE_GENERIC_MULTIROTOR", [("all", 43), ("ardupilotmega", 43), ("asluav", 43), ("avssuas", 43), ("common", 43), ("cubepilot", 43), ("development", 43), ("loweheiser", 43), ("matrixpilot", 43), ("minimal", 43), ("paparazzi", 43), ("pythonarraytest", 43), ("standard", 43), ("storm32", 43), ("ualberta", 43), ("uavionix", 43)]),
  ("MAV_TYPE_GIMBAL", [("all", 26), ("ardupilotmega", 26), ("asluav", 26), ("avssuas", 26), ("common", 26), ("cubepilot", 26), ("development", 26), ("loweheiser", 26), ("matrixpilot", 26), ("minimal", 26), ("paparazzi", 26), ("pythonarraytest", 26), ("standard", 26), ("storm32", 26), ("ualberta", 26), ("uavionix", 26)]),
  ("MAV_TYPE_GPS", [("all", 41), ("ardupilotmega", 41), ("asluav", 41), ("avssuas", 41), ("common", 41), ("cubepilot", 41), ("development", 41), ("loweheiser", 41), ("matrixpilot", 41), ("minimal", 41), ("paparazzi", 41), ("pythonarraytest", 41), ("standard", 41), ("storm32", 41), ("ualberta", 41), ("uavionix", 41)]),
  ("MAV_TYPE_GROUND_ROVER", [("all", 10), ("ardupilotmega", 10), ("asluav", 10), ("avssuas", 10), ("common", 10), ("cubepilot", 10), ("development", 10), ("loweheiser", 10), ("matrixpilot", 10), ("minimal", 10), ("paparazzi", 10), ("pythonarraytest", 10), ("standard", 10), ("storm32", 10), ("ualberta", 10), ("uavionix", 10)]),
  ("MAV_TYPE_HELICOPTER", [("all", 4), ("ardupilotmega", 4), ("asluav", 4), ("avssuas", 4), ("common", 4), ("cubepilot", 4), ("development", 4), ("loweheiser", 4), ("matrixpilot", 4), ("minimal", 4), ("paparazzi", 4), ("pythonarraytest", 4), ("standard", 4), ("storm32", 4), ("ualberta", 4), ("uavionix", 4)]),
  ("MAV_TYPE_HEXAROTOR", [("all", 13), ("ardupilotmega", 13), ("asluav", 13), ("avssuas", 13), ("common", 13), ("cubepilot", 13), ("development", 13), ("loweheiser", 13), ("matrixpilot", 13), ("minimal", 13), ("paparazzi", 13), ("pythonarraytest", 13), ("standard", 13), ("storm32", 13), ("ualberta", 13), ("uavionix", 13)]),
  ("MAV_TYPE_ILLUMINATOR", [("all", 44), ("ardupilotmega", 44), ("asluav", 44), ("avssuas", 44), ("common", 44), ("cubepilot", 44), ("development", 44), ("loweheiser", 44), ("matrixpilot", 44), ("minimal", 44), ("paparazzi", 44), ("pythonarraytest", 44), ("standard", 44), ("storm32", 44), ("ualberta", 44), ("uavionix", 44)]),
  ("MAV_TYPE_IMU", [("all", 40), ("ardupilotmega", 40), ("asluav", 40), ("avssuas", 40), ("common", 40), ("cubepilot", 40), ("development", 40), ("loweheiser", 40), ("matrixpilot", 40), ("minimal", 40), ("paparazzi", 40), ("pythonarraytest", 40), ("standard", 40), ("storm32", 40), ("ualberta", 40), ("uavionix", 40)]),
  ("MAV_TYPE_KITE", [("all", 17), ("ardupilotmega", 17), ("asluav", 17), ("avssuas", 17), ("common", 17), ("cubepilot", 17), ("development", 17), ("loweheiser", 17), ("matrixpilot", 17), ("minimal", 17), ("paparazzi", 17), ("pythonarraytest", 17), ("standard", 17), ("storm32", 17), ("ualberta", 17), ("uavionix", 17)]),
  ("MAV_TYPE_LOG", [("all", 38), ("ardupilotmega", 38), ("asluav", 38), ("avssuas", 38), ("common", 38), ("cubepilot", 38), ("development", 38), ("loweheiser", 38), ("matrixpilot", 38), ("minimal", 38), ("paparazzi", 38), ("pythonarraytest", 38), ("standard", 38), ("storm32", 38), ("ualberta", 38), ("uavionix", 38)]),
  ("MAV_TYPE_OCTOROTOR", [("all", 14), ("ardupilotmega", 14), ("asluav", 14), ("avssuas", 14), ("common", 14), ("cubepilot", 14), ("development", 14), ("loweheiser", 14), ("matrixpilot", 14), ("minimal", 14), ("paparazzi", 14), ("pythonarraytest", 14), ("standard", 14), ("storm32", 14), ("ualberta", 14), ("uavionix", 14)]),
  ("MAV_TYPE_ODID", [("all", 34), ("ardupilotmega", 34), ("asluav", 34), ("avssuas", 34), ("common", 34), ("cubepilot", 34), ("development", 34), ("loweheiser", 34), ("matrixpilot", 34), ("minimal", 34), ("paparazzi", 34), ("pythonarraytest", 34), ("standard", 34), ("storm32", 34), ("ualberta", 34), ("uavionix", 34)]),
  ("MAV_TYPE_ONBOARD_CONTROLLER", [("all", 18), ("ardupilotmega", 18), ("asluav", 18), ("avssuas", 18), ("common", 18), ("cubepilot", 18), ("development", 18), ("loweheiser", 18), ("matrixpilot", 18), ("minimal", 18), ("paparazzi", 18), ("pythonarraytest", 18), ("standard", 18), ("storm32", 18), ("ualberta", 18), ("uavionix", 18)]),
  ("MAV_TYPE_OSD", [("all", 39), ("ardupilotmega", 39), ("asluav", 39), ("avssuas", 39), ("common", 39), ("cubepilot", 39), ("development", 39), ("loweheiser", 39), ("matrixpilot", 39), ("minimal", 39), ("paparazzi", 39), ("pythonarraytest", 39), ("standard", 39), ("storm32", 39), ("ualberta", 39), ("uavionix", 39)]),
  ("MAV_TYPE_PARACHUTE", [("all", 37), ("ardupilotmega", 37), ("asluav", 37), ("avssuas", 37), ("common", 37), ("cubepilot", 37), ("development", 37), ("loweheiser", 37), ("matrixpilot", 37), ("minimal", 37), ("paparazzi", 37), ("pythonarraytest", 37), ("standard", 37), ("storm32", 37), ("ualberta", 37), ("uavionix", 37)]),
  ("MAV_TYPE_PARAFOIL", [("all", 28), ("ardupilotmega", 28), ("asluav", 28), ("avssuas", 28), ("common", 28), ("cubepilot", 28), ("development", 28), ("loweheiser", 28), ("matrixpilot", 28), ("minimal", 28), ("paparazzi", 28), ("pythonarraytest", 28), ("standard", 28), ("storm32", 28), ("ualberta", 28), ("uavionix", 28)]),
  ("MAV_TYPE_QUADROTOR", [("all", 2), ("ardupilotmega", 2), ("asluav", 2), ("avssuas", 2), ("common", 2), ("cubepilot", 2), ("development", 2), ("loweheiser", 2), ("matrixpilot", 2), ("minimal", 2), ("paparazzi", 2), ("pythonarraytest", 2), ("standard", 2), ("storm32", 2), ("ualberta", 2), ("uavionix", 2)]),
  ("MAV_TYPE_ROCKET", [("all", 9), ("ardupilotmega", 9), ("asluav", 9), ("avssuas", 9), ("common", 9), ("cubepilot", 9), ("development", 9), ("loweheiser", 9), ("matrixpilot", 9), ("minimal", 9), ("paparazzi", 9), ("pythonarraytest", 9), ("standard", 9), ("storm32", 9), ("ualberta", 9), ("uavionix", 9)]),
  ("MAV_TYPE_SERVO", [("all", 33), ("ardupilotmega", 33), ("asluav", 33), ("avssuas", 33), ("common", 33), ("cubepilot", 33), ("development", 33), ("loweheiser", 33), ("matrixpilot", 33), ("minimal", 33), ("paparazzi", 33), ("pythonarraytest", 33), ("standard", 33), ("storm32", 33), ("ualberta", 33), ("uavionix", 33)]),
  ("MAV_TYPE_SUBMARINE", [("all", 12), ("ardupilotmega", 12), ("asluav", 12), ("avssuas", 12), ("common", 12), ("cubepilot", 12), ("development", 12), ("loweheiser", 12), ("matrixpilot", 12), ("minimal", 12), ("paparazzi", 12), ("pythonarraytest", 12), ("standard", 12), ("storm32", 12), ("ualberta", 12), ("uavionix", 12)]),
  ("MAV_TYPE_SURFACE_BOAT", [("all", 11), ("ardupilotmega", 11), ("asluav", 11), ("avssuas", 11), ("common", 11), ("cubepilot", 11), ("development", 11), ("loweheiser", 11), ("matrixpilot", 11), ("minimal", 11), ("paparazzi", 11), ("pythonarraytest", 11), ("standard", 11), ("storm32", 11), ("ualberta", 11), ("uavionix", 11)]),
  ("MAV_TYPE_TRICOPTER", [("all", 15), ("ardupilotmega", 15), ("asluav", 15), ("avssuas", 15), ("common", 15), ("cubepilot", 15), ("development", 15), ("loweheiser", 15), ("matrixpilot", 15), ("minimal", 15), ("paparazzi", 15), ("pythonarraytest", 15), ("standard", 15), ("storm32", 15), ("ualberta", 15), ("uavionix", 15)]),
  ("MAV_TYPE_VTOL_FIXEDROTOR", [("all", 22), ("ardupilotmega", 22), ("asluav", 22), ("avssuas", 22), ("common", 22), ("cubepilot", 22), ("development", 22), ("loweheiser", 22), ("matrixpilot", 22), ("minimal", 22), ("paparazzi", 22), ("pythonarraytest", 22), ("standard", 22), ("storm32", 22), ("ualberta", 22), ("uavionix", 22)]),
  ("MAV_TYPE_VTOL_RESERVED5", [("all", 25), ("ardupilotmega", 25), ("asluav", 25), ("avssuas", 25), ("common", 25), ("cubepilot", 25), ("development", 25), ("loweheiser", 25), ("matrixpilot", 25), ("minimal", 25), ("paparazzi", 25), ("pythonarraytest", 25), ("standard", 25), ("storm32", 25), ("ualberta", 25), ("uavionix", 25)]),
  ("MAV_TYPE_VTOL_TAILSITTER", [("all", 23), ("ardupilotmega", 23), ("asluav", 23), ("avssuas", 23), ("common", 23), ("cubepilot", 23), ("development", 23), ("loweheiser", 23), ("matrixpilot", 23), ("minimal", 23), ("paparazzi", 23), ("pythonarraytest", 23), ("standard", 23), ("storm32", 23), ("ualberta", 23), ("uavionix", 23)]),
  ("MAV_TYPE_VTOL_TAILSITTER_DUOROTOR", [("all", 19), ("ardupilotmega", 19), ("asluav", 19), ("avssuas", 19), ("common", 19), ("cubepilot", 19), ("development", 19), ("loweheiser", 19), ("matrixpilot", 19), ("minimal", 19), ("paparazzi", 19), ("pythonarraytest", 19), ("standard", 19), ("storm32", 19), ("ualberta", 19), ("uavionix", 19)]),
  ("MAV_TYPE_VTOL_TAILSITTER_QUADROTOR", [("all", 20), ("ardupilotmega", 20), ("asluav", 20), ("avssuas", 20), ("common", 20), ("cubepilot", 20), ("development", 20), ("loweheiser", 20), ("matrixpilot", 20), ("minimal", 20), ("paparazzi", 20), ("pythonarraytest", 20), ("standard", 20), ("storm32", 20), ("ualberta", 20), ("uavionix", 20)]),
  ("MAV_TYPE_VTOL_TILTROTOR", [("all", 21), ("ardupilotmega", 21), ("asluav", 21), ("avssuas", 21), ("common", 21), ("cubepilot", 21), ("development", 21), ("loweheiser", 21), ("matrixpilot", 21), ("minimal", 21), ("paparazzi", 21), ("pythonarraytest", 21), ("standard", 21), ("storm32", 21), ("ualberta", 21), ("uavionix", 21)]),
  ("MAV_TYPE_VTOL_TILTWING", [("all", 24), ("ardupilotmega", 24), ("asluav", 24), ("avssuas", 24), ("common", 24), ("cubepilot", 24), ("development", 24), ("loweheiser", 24), ("matrixpilot", 24), ("minimal", 24), ("paparazzi", 24), ("pythonarraytest", 24), ("standard", 24), ("storm32", 24), ("ualberta", 24), ("uavionix", 24)]),
  ("MAV_TYPE_WINCH", [("all", 42), ("ardupilotmega", 42), ("asluav", 42), ("avssuas", 42), ("common", 42), ("cubepilot", 42), ("development", 42), ("loweheiser", 42), ("matrixpilot", 42), ("minimal", 42), ("paparazzi", 42), ("pythonarraytest", 42), ("standard", 42), ("storm32", 42), ("ualberta", 42), ("uavionix", 42)]),
  ("MAV_VTOL_STATE_FW", [("all", 4), ("ardupilotmega", 4), ("asluav", 4), ("avssuas", 4), ("common", 4), ("cubepilot", 4), ("development", 4), ("matrixpilot", 4), ("paparazzi", 4), ("pythonarraytest", 4), ("storm32", 4), ("ualberta", 4), ("uavionix", 4)]),
  ("MAV_VTOL_STATE_MC", [("all", 3), ("ardupilotmega", 3), ("asluav", 3), ("avssuas", 3), ("common", 3), ("cubepilot", 3), ("development", 3), ("matrixpilot", 3), ("paparazzi", 3), ("pythonarraytest", 3), ("storm32", 3), ("ualberta", 3), ("uavionix", 3)]),
  ("MAV_VTOL_STATE_TRANSITION_TO_FW", [("all", 1), ("ardupilotmega", 1), ("asluav", 1), ("avssuas", 1), ("common", 1), ("cubepilot", 1), ("development", 1), ("matrixpilot", 1), ("paparazzi", 1), ("pythonarraytest", 1), ("storm32", 1), ("ualberta", 1), ("uavionix", 1)]),
  ("MAV_VTOL_STATE_TRANSITION_TO_MC", [("all", 2), ("ardupilotmega", 2), ("asluav", 2), ("avssuas", 2), ("common", 2), ("cubepilot", 2), ("development", 2), ("matrixpilot", 2), ("paparazzi", 2), ("pythonarraytest", 2), ("storm32", 2), ("ualberta", 2), ("uavionix", 2)]),
  ("MAV_VTOL_STATE_UNDEFINED", [("all", 0), ("ardupilotmega", 0), ("asluav", 0), ("avssuas", 0), ("common", 0), ("cubepilot", 0), ("development", 0), ("matrixpilot", 0), ("paparazzi", 0), ("pythonarraytest", 0), ("storm32", 0), ("ualberta", 0), ("uavionix", 0)]),
  ("MAV_WINCH_STATUS_ABANDON_LINE", [("all", 1024), ("ardupilotmega", 1024), ("asluav", 1024), ("avssuas", 1024), ("common", 1024), ("cubepilot", 1024), ("development", 1024), ("matrixpilot", 1024), ("paparazzi", 1024), ("pythonarraytest", 1024), ("storm32", 1024), ("ualberta", 1024), ("uavionix", 1024)]),
  ("MAV_WINCH_STATUS_ARRESTING", [("all", 64), ("ardupilotmega", 64), ("asluav", 64), ("avssuas", 64), ("common", 64), ("cubepilot", 64), ("development", 64), ("matrixpilot", 64), ("paparazzi", 64), ("pythonarraytest", 64), ("storm32", 64), ("ualberta", 64), ("uavionix", 64)]),
  ("MAV_WINCH_STATUS_CLUTCH_ENGAGED", [("all", 8), ("ardupilotmega", 8), ("asluav", 8), ("avssuas", 8), ("common", 8), ("cubepilot", 8), ("development", 8), ("matrixpilot", 8), ("paparazzi", 8), ("pythonarraytest", 8), ("storm32", 8), ("ualberta", 8), ("uavionix", 8)]),
  ("MAV_WINCH_STATUS_DROPPING", [("all", 32), ("ardupilotmega", 32), ("asluav", 32), ("avssuas", 32), ("common", 32), ("cubepilot", 32), ("development", 32), ("matrixpilot", 32), ("paparazzi", 32), ("pythonarraytest", 32), ("storm32", 32), ("ualberta", 32), ("uavionix", 32)]),
  ("MAV_WINCH_STATUS_FULLY_RETRACTED", [("all", 2), ("ardupilotmega", 2), ("asluav", 2), ("avssuas", 2), ("common", 2), ("cubepilot", 2), ("development", 2), ("matrixpilot", 2), ("paparazzi", 2), ("pythonarraytest", 2), ("storm32", 2), ("ualberta", 2), ("uavionix", 2)]),
  ("MAV_WINCH_STATUS_GROUND_SENSE", [("all", 128), ("ardupilotmega", 128), ("asluav", 128), ("avssuas", 128), ("common", 128), ("cubepilot", 128), ("development", 128), ("matrixpilot", 128), ("paparazzi", 128), ("pythonarraytest", 128), ("storm32", 128), ("ualberta", 128), ("uavionix", 128)]),
  ("MAV_WINCH_STATUS_HEALTHY", [("all", 1), ("ardupilotmega", 1), ("asluav", 1), ("avssuas", 1), ("common", 1), ("cubepilot", 1), ("development", 1), ("matrixpilot", 1), ("paparazzi", 1), ("pythonarraytest", 1), ("storm32", 1), ("ualberta", 1), ("uavionix", 1)]),
  ("MAV_WINCH_STATUS_LOAD_LINE", [("all", 4096), ("ardupilotmega", 4096), ("asluav", 4096), ("avssuas", 4096), ("common", 4096), ("cubepilot", 4096), ("development", 4096), ("matrixpilot", 4096), ("paparazzi", 4096), ("pythonarraytest", 4096), ("storm32", 4096), ("ualberta", 4096), ("uavionix", 4096)]),
  ("MAV_WINCH_STATUS_LOAD_PAYLOAD", [("all", 8192), ("ardupilotmega", 8192), ("asluav", 8192), ("avssuas", 8192), ("common", 8192), ("cubepilot", 8192), ("development", 8192), ("matrixpilot", 8192), ("paparazzi", 8192), ("pythonarraytest", 8192), ("storm32", 8192), ("ualberta", 8192), ("uavionix", 8192)]),
  ("MAV_WINCH_STATUS_LOCKED", [("all", 16), ("ardupilotmega", 16), ("asluav", 16), ("avssuas", 16), ("common", 16), ("cubepilot", 16), ("development", 16), ("matrixpilot", 16), ("paparazzi", 16), ("pythonarraytest", 16), ("storm32", 16), ("ualberta", 16), ("uavionix", 16)]),
  ("MAV_WINCH_STATUS_LOCKING", [("all", 2048), ("ardupilotmega", 2048), ("asluav", 2048), ("avssuas", 2048), ("common", 2048), ("cubepilot", 2048), ("development", 2048), ("matrixpilot", 2048), ("paparazzi", 2048), ("pythonarraytest", 2048), ("storm32", 2048), ("ualberta", 2048), ("uavionix", 2048)]),
  ("MAV_WINCH_STATUS_MOVING", [("all", 4), ("ardupilotmega", 4), ("asluav", 4), ("avssuas", 4), ("common", 4), ("cubepilot", 4), ("development", 4), ("matrixpilot", 4), ("paparazzi", 4), ("pythonarraytest", 4), ("storm32", 4), ("ualberta", 4), ("uavionix", 4)]),
  ("MAV_WINCH_STATUS_REDELIVER", [("all", 512), ("ardupilotmega", 512), ("asluav", 512), ("avssuas", 512), ("common", 512), ("cubepilot", 512), ("development", 512), ("matrixpilot", 512), ("paparazzi", 512), ("pythonarraytest", 512), ("storm32", 512), ("ualberta", 512), ("uavionix", 512)]),
  ("MAV_WINCH_STATUS_RETRACTING", [("all", 256), ("ardupilotmega", 256), ("asluav", 256), ("avssuas", 256), ("common", 256), ("cubepilot", 256), ("development", 256), ("matrixpilot", 256), ("paparazzi", 256), ("pythonarraytest", 256), ("storm32", 256), ("ualberta", 256), ("uavionix", 256)]),
  ("MISSION_READ_PERSISTENT", [("all", 0), ("ardupilotmega", 0), ("asluav", 0), ("avssuas", 0), ("common", 0), ("cubepilot", 0), ("development", 0), ("matrixpilot", 0), ("paparazzi", 0), ("pythonarraytest", 0), ("storm32", 0), ("ualberta", 0), ("uavionix", 0)]),
  ("MISSION_RESET_DEFAULT", [("all", 2), ("ardupilotmega", 2), ("asluav", 2), ("avssuas", 2), ("common", 2), ("cubepilot", 2), ("development", 2), ("matrixpilot", 2), ("paparazzi", 2), ("pythonarraytest", 2), ("storm32", 2), ("ualberta", 2), ("uavionix", 2)])]
def constGroups_30 : List (String × List (String × Nat)) := [
  ("MISSION_STATE_ACTIVE", [("all", 3), ("ardupilotmega", 3), ("asluav", 3), ("avssuas", 3), ("common", 3), ("cubepilot", 3), ("development", 3), ("matrixpilot", 3), ("paparazzi", 3), ("pythonarraytest", 3), ("storm32", 3), ("ualberta", 3), ("uavionix", 3)]),
  ("MISSION_STATE_COMPLETE", [("all", 5), ("ardupilotmega", 5), ("asluav", 5), ("avssuas", 5), ("common", 5), ("cubepilot", 5), ("development", 5), ("matrixpilot", 5), ("paparazzi", 5), ("pythonarraytest", 5), ("storm32", 5), ("ualberta", 5), ("uavionix", 5)]),
  ("MISSION_STATE_NOT_STARTED", [("all", 2), ("ardupilotmega", 2), ("asluav", 2), ("avssuas", 2), ("common", 2), ("cubepilot", 2), ("development", 2), ("matrixpilot", 2), ("paparazzi", 2), ("pythonarraytest", 2), ("storm32", 2), ("ualberta", 2), ("uavionix", 2)]),
  ("MISSION_STATE_NO_MISSION", [("all", 1), ("ardupilotmega", 1), ("asluav", 1), ("avssuas", 1), ("common", 1), ("cubepilot", 1), ("development", 1), ("matrixpilot", 1), ("paparazzi", 1), ("pythonarraytest", 1), ("storm32", 1), ("ualberta", 1), ("uavionix", 1)]),
  ("MISSION_STATE_PAUSED", [("all", 4), ("ardupilotmega", 4), ("asluav", 4), ("avssuas", 4), ("common", 4), ("cubepilot", 4), ("development", 4), ("matrixpilot", 4), ("paparazzi", 4), ("pythonarraytest", 4), ("storm32", 4), ("ualberta", 4), ("uavionix", 4)]),
  ("MISSION_STATE_UNKNOWN", [("all", 0), ("ardupilotmega", 0), ("asluav", 0), ("avssuas", 0), ("common", 0), ("cubepilot", 0), ("development", 0), ("matrixpilot", 0), ("paparazzi", 0), ("pythonarraytest", 0), ("storm32", 0), ("ualberta", 0), ("uavionix", 0)]),
  ("MISSION_WRITE_PERSISTENT", [("all", 1), ("ardupilotmega", 1), ("asluav", 1), ("avssuas", 1), ("common", 1), ("cubepilot", 1), ("development", 1), ("matrixpilot", 1), ("paparazzi", 1), ("pythonarraytest", 1), ("storm32", 1), ("ualberta", 1), ("uavionix", 1)]),
  ("MODE_AUTO_PID_ATT", [("all", 3), ("ualberta", 3)]),
  ("MODE_AUTO_PID_POS", [("all", 5), ("ualberta", 5)]),
  ("MODE_AUTO_PID_VEL", [("all", 4), ("ualberta", 4)]),
  ("MODE_HORSEFLY_AUTO_LANDING", [("all", 2), ("avssuas", 2)]),
  ("MODE_HORSEFLY_AUTO_TAKEOFF", [("all", 1), ("avssuas", 1)]),
  ("MODE_HORSEFLY_DROP", [("all", 4), ("avssuas", 4)]),
  ("MODE_HORSEFLY_MANUAL_CTRL", [("all", 0), ("avssuas", 0)]),
  ("MODE_HORSEFLY_NAVI_GO_HOME", [("all", 3), ("avssuas", 3)]),
  ("MODE_M300_ASSISTED_TAKEOFF", [("all", 10), ("avssuas", 10)]),
  ("MODE_M300_ATTITUDE", [("all", 1), ("avssuas", 1)]),
  ("MODE_M300_AUTO_LANDING", [("all", 12), ("avssuas", 12)]),
  ("MODE_M300_AUTO_TAKEOFF", [("all", 11), ("avssuas", 11)]),
  ("MODE_M300_ENGINE_START", [("all", 41), ("avssuas", 41)]),
  ("MODE_M300_FORCE_AUTO_LANDING", [("all", 33), ("avssuas", 33)]),
  ("MODE_M300_HOTPOINT_MODE", [("all", 9), ("avssuas", 9)]),
  ("MODE_M300_MANUAL_CTRL", [("all", 0), ("avssuas", 0)]),
  ("MODE_M300_NAVI_GO_HOME", [("all", 15), ("avssuas", 15)]),
  ("MODE_M300_NAVI_SDK_CTRL", [("all", 17), ("avssuas", 17)]),
  ("MODE_M300_P_GPS", [("all", 6), ("avssuas", 6)]),
  ("MODE_M300_SEARCH_MODE", [("all", 40), ("avssuas", 40)]),
  ("MODE_M300_S_SPORT", [("all", 31), ("avssuas", 31)]),
  ("MODE_M300_T_TRIPOD", [("all", 38), ("avssuas", 38)]),
  ("MODE_MANUAL_DIRECT", [("all", 1), ("ualberta", 1)]),
  ("MODE_MANUAL_SCALED", [("all", 2), ("ualberta", 2)]),
  ("MOTOR_TEST_COMPASS_CAL", [("all", 3), ("ardupilotmega", 3), ("asluav", 3), ("avssuas", 3), ("common", 3), ("cubepilot", 3), ("development", 3), ("matrixpilot", 3), ("paparazzi", 3), ("pythonarraytest", 3), ("storm32", 3), ("ualberta", 3), ("uavionix", 3)]),
  ("MOTOR_TEST_ORDER_BOARD", [("all", 2), ("ardupilotmega", 2), ("asluav", 2), ("avssuas", 2), ("common", 2), ("cubepilot", 2), ("development", 2), ("matrixpilot", 2), ("paparazzi", 2), ("pythonarraytest", 2), ("storm32", 2), ("ualberta", 2), ("uavionix", 2)]),
  ("MOTOR_TEST_ORDER_DEFAULT", [("all", 0), ("ardupilotmega", 0), ("asluav", 0), ("avssuas", 0), ("common", 0), ("cubepilot", 0), ("development", 0), ("matrixpilot", 0), ("paparazzi", 0), ("pythonarraytest", 0), ("storm32", 0), ("ualberta", 0), ("uavionix", 0)]),
  ("MOTOR_TEST_ORDER_SEQUENCE", [("all", 1), ("ardupilotmega", 1), ("asluav", 1), ("avssuas", 1), ("common", 1), ("cubepilot", 1), ("development", 1), ("matrixpilot", 1), ("paparazzi", 1), ("pythonarraytest", 1), ("storm32", 1), ("ualberta", 1), ("uavionix", 1)]),
  ("MOTOR_TEST_THROTTLE_PERCENT", [("all", 0), ("ardupilotmega", 0), ("asluav", 0), ("avssuas", 0), ("common", 0), ("cubepilot", 0), ("development", 0), ("matrixpilot", 0), ("paparazzi", 0), ("pythonarraytest", 0), ("storm32", 0), ("ualberta", 0), ("uavionix", 0)]),
  ("MOTOR_TEST_THROTTLE_PILOT", [("all", 2), ("ardupilotmega", 2), ("asluav", 2), ("avssuas", 2), ("common", 2), ("cubepilot", 2), ("development", 2), ("matrixpilot", 2), ("paparazzi", 2), ("pythonarraytest", 2), ("storm32", 2), ("ualberta", 2), ("uavionix", 2)]),
  ("MOTOR_TEST_THROTTLE_PWM", [("all", 1), ("ardupilotmega", 1), ("asluav", 1), ("avssuas", 1), ("common", 1), ("cubepilot", 1), ("development", 1), ("matrixpilot", 1), ("paparazzi", 1), ("pythonarraytest", 1), ("storm32", 1), ("ualberta", 1), ("uavionix", 1)]),
  ("NAV_AHRS", [("all", 2), ("ualberta", 2)]),
  ("NAV_AHRS_INIT", [("all", 1), ("ualberta", 1)]),
  ("NAV_INS_GPS", [("all", 4), ("ualberta", 4)]),
  ("NAV_INS_GPS_INIT", [("all", 3), ("ualberta", 3)]),
  ("NAV_VTOL_LAND_OPTIONS_DEFAULT", [("all", 0), ("ardupilotmega", 0), ("asluav", 0), ("avssuas", 0), ("common", 0), ("cubepilot", 0), ("development", 0), ("matrixpilot", 0), ("paparazzi", 0), ("pythonarraytest", 0), ("storm32", 0), ("ualberta", 0), ("uavionix", 0)]),
  ("NAV_VTOL_LAND_OPTIONS_FW_DESCENT", [("all", 1), ("ardupilotmega", 1), ("asluav", 1), ("avssuas", 1), ("common", 1), ("cubepilot", 1), ("development", 1), ("matrixpilot", 1), ("paparazzi", 1), ("pythonarraytest", 1), ("storm32", 1), ("ualberta", 1), ("uavionix", 1)]),
  ("NAV_VTOL_LAND_OPTIONS_HOVER_DESCENT", [("all", 2), ("ardupilotmega", 2), ("asluav", 2), ("avssuas", 2), ("common", 2), ("cubepilot", 2), ("development", 2), ("matrixpilot", 2), ("paparazzi", 2), ("pythonarraytest", 2), ("storm32", 2), ("ualberta", 2), ("uavionix", 2)]),
  ("ORBIT_YAW_BEHAVIOUR_HOLD_FRONT_TANGENT_TO_CIRCLE", [("all", 3), ("ardupilotmega", 3), ("asluav", 3), ("avssuas", 3), ("common", 3), ("cubepilot", 3), ("development", 3), ("matrixpilot", 3), ("paparazzi", 3), ("pythonarraytest", 3), ("storm32", 3), ("ualberta", 3), ("uavionix", 3)]),
  ("ORBIT_YAW_BEHAVIOUR_HOLD_FRONT_TO_CIRCLE_CENTER", [("all", 0), ("ardupilotmega", 0), ("asluav", 0), ("avssuas", 0), ("common", 0), ("cubepilot", 0), ("development", 0), ("matrixpilot", 0), ("paparazzi", 0), ("pythonarraytest", 0), ("storm32", 0), ("ualberta", 0), ("uavionix", 0)]),
  ("ORBIT_YAW_BEHAVIOUR_HOLD_INITIAL_HEADING", [("all", 1), ("ardupilotmega", 1), ("asluav", 1), ("avssuas", 1), ("common", 1), ("cubepilot", 1), ("development", 1), ("matrixpilot", 1), ("paparazzi", 1), ("pythonarraytest", 1), ("storm32", 1), ("ualberta", 1), ("uavionix", 1)]),
  ("ORBIT_YAW_BEHAVIOUR_RC_CONTROLLED", [("all", 4), ("ardupilotmega", 4), ("asluav", 4), ("avssuas", 4), ("common", 4), ("cubepilot", 4), ("development", 4), ("matrixpilot", 4), ("paparazzi", 4), ("pythonarraytest", 4), ("storm32", 4), ("ualberta", 4), ("uavionix", 4)]),
  ("ORBIT_YAW_BEHAVIOUR_UNCHANGED", [("all", 5), ("ardupilotmega", 5), ("asluav", 5), ("avssuas", 5), ("common", 5), ("cubepilot", 5), ("development", 5), ("matrixpilot", 5), ("paparazzi", 5), ("pythonarraytest", 5), ("storm32", 5), ("ualberta", 5), ("uavionix", 5)]),
  ("ORBIT_YAW_BEHAVIOUR_UNCONTROLLED", [("all", 2), ("ardupilotmega", 2), ("asluav", 2), ("avssuas", 2), ("common", 2), ("cubepilot", 2), ("development", 2), ("matrixpilot", 2), ("paparazzi", 2), ("pythonarraytest", 2), ("storm32", 2), ("ualberta", 2), ("uavionix", 2)]),
  ("OSD_PARAM_AUX_FUNCTION", [("all", 3), ("ardupilotmega", 3), ("storm32", 3)]),
  ("OSD_PARAM_FAILSAFE_ACTION", [("all", 5), ("ardupilotmega", 5), ("storm32", 5)]),
  ("OSD_PARAM_FAILSAFE_ACTION_1", [("all", 6), ("ardupilotmega", 6), ("storm32", 6)]),
  ("OSD_PARAM_FAILSAFE_ACTION_2", [("all", 7), ("ardupilotmega", 7), ("storm32", 7)]),
  ("OSD_PARAM_FLIGHT_MODE", [("all", 4), ("ardupilotmega", 4), ("storm32", 4)]),
  ("OSD_PARAM_INVALID_PARAMETER", [("all", 3), ("ardupilotmega", 3), ("storm32", 3)]),
  ("OSD_PARAM_INVALID_PARAMETER_INDEX", [("all", 2), ("ardupilotmega", 2), ("storm32", 2)]),
  ("OSD_PARAM_INVALID_SCREEN", [("all", 1), ("ardupilotmega", 1), ("storm32", 1)]),
  ("OSD_PARAM_NONE", [("all", 0), ("ardupilotmega", 0), ("storm32", 0)])]
def constGroups_31 : List (String × List (String × Nat)) := [
  ("OSD_PARAM_NUM_TYPES", [("all", 8), ("ardupilotmega", 8), ("storm32", 8)]),
  ("OSD_PARAM_SERIAL_PROTOCOL", [("all", 1), ("ardupilotmega", 1), ("storm32", 1)]),
  ("OSD_PARAM_SERVO_FUNCTION", [("all", 2), ("ardupilotmega", 2), ("storm32", 2)]),
  ("OSD_PARAM_SUCCESS", [("all", 0), ("ardupilotmega", 0), ("storm32", 0)]),
  ("PARACHUTE_DISABLE", [("all", 0), ("ardupilotmega", 0), ("asluav", 0), ("avssuas", 0), ("common", 0), ("cubepilot", 0), ("development", 0), ("matrixpilot", 0), ("paparazzi", 0), ("pythonarraytest", 0), ("storm32", 0), ("ualberta", 0), ("uavionix", 0)]),
  ("PARACHUTE_ENABLE", [("all", 1), ("ardupilotmega", 1), ("asluav", 1), ("avssuas", 1), ("common", 1), ("cubepilot", 1), ("development", 1), ("matrixpilot", 1), ("paparazzi", 1), ("pythonarraytest", 1), ("storm32", 1), ("ualberta", 1), ("uavionix", 1)]),
  ("PARACHUTE_RELEASE", [("all", 2), ("ardupilotmega", 2), ("asluav", 2), ("avssuas", 2), ("common", 2), ("cubepilot", 2), ("development", 2), ("matrixpilot", 2), ("paparazzi", 2), ("pythonarraytest", 2), ("storm32", 2), ("ualberta", 2), ("uavionix", 2)]),
  ("PARAM_ACK_ACCEPTED", [("all", 0), ("ardupilotmega", 0), ("asluav", 0), ("avssuas", 0), ("common", 0), ("cubepilot", 0), ("development", 0), ("matrixpilot", 0), ("paparazzi", 0), ("pythonarraytest", 0), ("storm32", 0), ("ualberta", 0), ("uavionix", 0)]),
  ("PARAM_ACK_FAILED", [("all", 2), ("ardupilotmega", 2), ("asluav", 2), ("avssuas", 2), ("common", 2), ("cubepilot", 2), ("development", 2), ("matrixpilot", 2), ("paparazzi", 2), ("pythonarraytest", 2), ("storm32", 2), ("ualberta", 2), ("uavionix", 2)]),
  ("PARAM_ACK_IN_PROGRESS", [("all", 3), ("ardupilotmega", 3), ("asluav", 3), ("avssuas", 3), ("common", 3), ("cubepilot", 3), ("development", 3), ("matrixpilot", 3), ("paparazzi", 3), ("pythonarraytest", 3), ("storm32", 3), ("ualberta", 3), ("uavionix", 3)]),
  ("PARAM_ACK_VALUE_UNSUPPORTED", [("all", 1), ("ardupilotmega", 1), ("asluav", 1), ("avssuas", 1), ("common", 1), ("cubepilot", 1), ("development", 1), ("matrixpilot", 1), ("paparazzi", 1), ("pythonarraytest", 1), ("storm32", 1), ("ualberta", 1), ("uavionix", 1)]),
  ("PARAM_READ_PERSISTENT", [("all", 0), ("ardupilotmega", 0), ("asluav", 0), ("avssuas", 0), ("common", 0), ("cubepilot", 0), ("development", 0), ("matrixpilot", 0), ("paparazzi", 0), ("pythonarraytest", 0), ("storm32", 0), ("ualberta", 0), ("uavionix", 0)]),
  ("PARAM_RESET_ALL_DEFAULT", [("all", 4), ("ardupilotmega", 4), ("asluav", 4), ("avssuas", 4), ("common", 4), ("cubepilot", 4), ("development", 4), ("matrixpilot", 4), ("paparazzi", 4), ("pythonarraytest", 4), ("storm32", 4), ("ualberta", 4), ("uavionix", 4)]),
  ("PARAM_RESET_CONFIG_DEFAULT", [("all", 2), ("ardupilotmega", 2), ("asluav", 2), ("avssuas", 2), ("common", 2), ("cubepilot", 2), ("development", 2), ("matrixpilot", 2), ("paparazzi", 2), ("pythonarraytest", 2), ("storm32", 2), ("ualberta", 2), ("uavionix", 2)]),
  ("PARAM_RESET_SENSOR_DEFAULT", [("all", 3), ("ardupilotmega", 3), ("asluav", 3), ("avssuas", 3), ("common", 3), ("cubepilot", 3), ("development", 3), ("matrixpilot", 3), ("paparazzi", 3), ("pythonarraytest", 3), ("storm32", 3), ("ualberta", 3), ("uavionix", 3)]),
  ("PARAM_WRITE_PERSISTENT", [("all", 1), ("ardupilotmega", 1), ("asluav", 1), ("avssuas", 1), ("common", 1), ("cubepilot", 1), ("development", 1), ("matrixpilot", 1), ("paparazzi", 1), ("pythonarraytest", 1), ("storm32", 1), ("ualberta", 1), ("uavionix", 1)]),
  ("PID_TUNING_ACCZ", [("all", 4), ("ardupilotmega", 4), ("storm32", 4)]),
  ("PID_TUNING_LANDING", [("all", 6), ("ardupilotmega", 6), ("storm32", 6)]),
  ("PID_TUNING_PITCH", [("all", 2), ("ardupilotmega", 2), ("storm32", 2)]),
  ("PID_TUNING_ROLL", [("all", 1), ("ardupilotmega", 1), ("storm32", 1)]),
  ("PID_TUNING_STEER", [("all", 5), ("ardupilotmega", 5), ("storm32", 5)]),
  ("PID_TUNING_YAW", [("all", 3), ("ardupilotmega", 3), ("storm32", 3)]),
  ("PILOT_AUTO", [("all", 2), ("ualberta", 2)]),
  ("PILOT_MANUAL", [("all", 1), ("ualberta", 1)]),
  ("PILOT_ROTO", [("all", 3), ("ualberta", 3)]),
  ("PLANE_MODE_ACRO", [("all", 4), ("ardupilotmega", 4), ("storm32", 4)]),
  ("PLANE_MODE_AUTO", [("all", 10), ("ardupilotmega", 10), ("storm32", 10)]),
  ("PLANE_MODE_AUTOTUNE", [("all", 8), ("ardupilotmega", 8), ("storm32", 8)]),
  ("PLANE_MODE_AVOID_ADSB", [("all", 14), ("ardupilotmega", 14), ("storm32", 14)]),
  ("PLANE_MODE_CIRCLE", [("all", 1), ("ardupilotmega", 1), ("storm32", 1)]),
  ("PLANE_MODE_CRUISE", [("all", 7), ("ardupilotmega", 7), ("storm32", 7)]),
  ("PLANE_MODE_FLY_BY_WIRE_A", [("all", 5), ("ardupilotmega", 5), ("storm32", 5)]),
  ("PLANE_MODE_FLY_BY_WIRE_B", [("all", 6), ("ardupilotmega", 6), ("storm32", 6)]),
  ("PLANE_MODE_GUIDED", [("all", 15), ("ardupilotmega", 15), ("storm32", 15)]),
  ("PLANE_MODE_INITIALIZING", [("all", 16), ("ardupilotmega", 16), ("storm32", 16)]),
  ("PLANE_MODE_LOITER", [("all", 12), ("ardupilotmega", 12), ("storm32", 12)]),
  ("PLANE_MODE_MANUAL", [("all", 0), ("ardupilotmega", 0), ("storm32", 0)]),
  ("PLANE_MODE_QACRO", [("all", 23), ("ardupilotmega", 23), ("storm32", 23)]),
  ("PLANE_MODE_QAUTOTUNE", [("all", 22), ("ardupilotmega", 22), ("storm32", 22)]),
  ("PLANE_MODE_QHOVER", [("all", 18), ("ardupilotmega", 18), ("storm32", 18)]),
  ("PLANE_MODE_QLAND", [("all", 20), ("ardupilotmega", 20), ("storm32", 20)]),
  ("PLANE_MODE_QLOITER", [("all", 19), ("ardupilotmega", 19), ("storm32", 19)]),
  ("PLANE_MODE_QRTL", [("all", 21), ("ardupilotmega", 21), ("storm32", 21)]),
  ("PLANE_MODE_QSTABILIZE", [("all", 17), ("ardupilotmega", 17), ("storm32", 17)]),
  ("PLANE_MODE_RTL", [("all", 11), ("ardupilotmega", 11), ("storm32", 11)]),
  ("PLANE_MODE_STABILIZE", [("all", 2), ("ardupilotmega", 2), ("storm32", 2)]),
  ("PLANE_MODE_TAKEOFF", [("all", 13), ("ardupilotmega", 13), ("storm32", 13)]),
  ("PLANE_MODE_THERMAL", [("all", 24), ("ardupilotmega", 24), ("storm32", 24)]),
  ("PLANE_MODE_TRAINING", [("all", 3), ("ardupilotmega", 3), ("storm32", 3)]),
  ("POSITION_TARGET_TYPEMASK_AX_IGNORE", [("all", 64), ("ardupilotmega", 64), ("asluav", 64), ("avssuas", 64), ("common", 64), ("cubepilot", 64), ("development", 64), ("matrixpilot", 64), ("paparazzi", 64), ("pythonarraytest", 64), ("storm32", 64), ("ualberta", 64), ("uavionix", 64)]),
  ("POSITION_TARGET_TYPEMASK_AY_IGNORE", [("all", 128), ("ardupilotmega", 128), ("asluav", 128), ("avssuas", 128), ("common", 128), ("cubepilot", 128), ("development", 128), ("matrixpilot", 128), ("paparazzi", 128), ("pythonarraytest", 128), ("storm32", 128), ("ualberta", 128), ("uavionix", 128)]),
  ("POSITION_TARGET_TYPEMASK_AZ_IGNORE", [("all", 256), ("ardupilotmega", 256), ("asluav", 256), ("avssuas", 256), ("common", 256), ("cubepilot", 256), ("development", 256), ("matrixpilot", 256), ("paparazzi", 256), ("pythonarraytest", 256), ("storm32", 256), ("ualberta", 256), ("uavionix", 256)]),
  ("POSITION_TARGET_TYPEMASK_FORCE_SET", [("all", 512), ("ardupilotmega", 512), ("asluav", 512), ("avssuas", 512), ("common", 512), ("cubepilot", 512), ("development", 512), ("matrixpilot", 512), ("paparazzi", 512), ("pythonarraytest", 512), ("storm32", 512), ("ualberta", 512), ("uavionix", 512)]),
  ("POSITION_TARGET_TYPEMASK_VX_IGNORE", [("all", 8), ("ardupilotmega", 8), ("asluav", 8), ("avssuas", 8), ("common", 8), ("cubepilot", 8), ("development", 8), ("matrixpilot", 8), ("paparazzi", 8), ("pythonarraytest", 8), ("storm32", 8), ("ualberta", 8), ("uavionix", 8)]),
  ("POSITION_TARGET_TYPEMASK_VY_IGNORE", [("all", 16), ("ardupilotmega", 16), ("asluav", 16), ("avssuas", 16), ("common", 16), ("cubepilot", 16), ("development", 16), ("matrixpilot", 16), ("paparazzi", 16), ("pythonarraytest", 16), ("storm32", 16), ("ualberta", 16), ("uavionix", 16)]),
  ("POSITION_TARGET_TYPEMASK_VZ_IGNORE", [("all", 32), ("ardupilotmega", 32), ("asluav", 32), ("avssuas", 32), ("common", 32), ("cubepilot", 32), ("development", 32), ("matrixpilot", 32), ("paparazzi", 32), ("pythonarraytest", 32), ("storm32", 32), ("ualberta", 32), ("uavionix", 32)]),
  ("POSITION_TARGET_TYPEMASK_X_IGNORE", [("all", 1), ("ardupilotmega", 1), ("asluav", 1), ("avssuas", 1), ("common", 1), ("cubepilot", 1), ("development", 1), ("matrixpilot", 1), ("paparazzi", 1), ("pythonarraytest", 1), ("storm32", 1), ("ualberta", 1), ("uavionix", 1)]),
  ("POSITION_TARGET_TYPEMASK_YAW_IGNORE", [("all", 1024), ("ardupilotmega", 1024), ("asluav", 1024), ("avssuas", 1024), ("common", 1024), ("cubepilot", 1024), ("development", 1024), ("matrixpilot", 1024), ("paparazzi", 1024), ("pythonarraytest", 1024), ("storm32", 1024), ("ualberta", 1024), ("uavionix", 1024)]),
  ("POSITION_TARGET_TYPEMASK_YAW_RATE_IGNORE", [("all", 2048), ("ardupilotmega", 2048), ("asluav", 2048), ("avssuas", 2048), ("common", 2048), ("cubepilot", 2048), ("development", 2048), ("matrixpilot", 2048), ("paparazzi", 2048), ("pythonarraytest", 2048), ("storm32", 2048), ("ualberta", 2048), ("uavionix", 2048)]),
  ("POSITION_TARGET_TYPEMASK_Y_IGNORE", [("all", 2), ("ardupilotmega", 2), ("asluav", 2), ("avssuas", 2), ("common", 2), ("cubepilot", 2), ("development", 2), ("matrixpilot", 2), ("paparazzi", 2), ("pythonarraytest", 2), ("storm32", 2), ("ualberta", 2), ("uavionix", 2)])]
def constGroups_32 : List (String × List (String × Nat)) := [
  ("POSITION_TARGET_TYPEMASK_Z_IGNORE", [("all", 4), ("ardupilotmega", 4), ("asluav", 4), ("avssuas", 4), ("common", 4), ("cubepilot", 4), ("development", 4), ("matrixpilot", 4), ("paparazzi", 4), ("pythonarraytest", 4), ("storm32", 4), ("ualberta", 4), ("uavionix", 4)]),
  ("PRECISION_LAND_MODE_DISABLED", [("all", 0), ("ardupilotmega", 0), ("asluav", 0), ("avssuas", 0), ("common", 0), ("cubepilot", 0), ("development", 0), ("matrixpilot", 0), ("paparazzi", 0), ("pythonarraytest", 0), ("storm32", 0), ("ualberta", 0), ("uavionix", 0)]),
  ("PRECISION_LAND_MODE_OPPORTUNISTIC", [("all", 1), ("ardupilotmega", 1), ("asluav", 1), ("avssuas", 1), ("common", 1), ("cubepilot", 1), ("development", 1), ("matrixpilot", 1), ("paparazzi", 1), ("pythonarraytest", 1), ("storm32", 1), ("ualberta", 1), ("uavionix", 1)]),
  ("PRECISION_LAND_MODE_REQUIRED", [("all", 2), ("ardupilotmega", 2), ("asluav", 2), ("avssuas", 2), ("common", 2), ("cubepilot", 2), ("development", 2), ("matrixpilot", 2), ("paparazzi", 2), ("pythonarraytest", 2), ("storm32", 2), ("ualberta", 2), ("uavionix", 2)]),
  ("PRS_DTM_NOT_ARMED", [("all", 2), ("avssuas", 2)]),
  ("PRS_NOT_STEADY", [("all", 1), ("avssuas", 1)]),
  ("PRS_OTM_NOT_ARMED", [("all", 3), ("avssuas", 3)]),
  ("RADIO_RC_CHANNELS_FLAGS_FAILSAFE", [("all", 1), ("development", 1)]),
  ("RADIO_RC_CHANNELS_FLAGS_OUTDATED", [("all", 2), ("development", 2)]),
  ("RC_SUB_TYPE_SPEKTRUM_DSM2", [("all", 0), ("ardupilotmega", 0), ("asluav", 0), ("avssuas", 0), ("common", 0), ("cubepilot", 0), ("development", 0), ("matrixpilot", 0), ("paparazzi", 0), ("pythonarraytest", 0), ("storm32", 0), ("ualberta", 0), ("uavionix", 0)]),
  ("RC_SUB_TYPE_SPEKTRUM_DSMX", [("all", 1), ("ardupilotmega", 1), ("asluav", 1), ("avssuas", 1), ("common", 1), ("cubepilot", 1), ("development", 1), ("matrixpilot", 1), ("paparazzi", 1), ("pythonarraytest", 1), ("storm32", 1), ("ualberta", 1), ("uavionix", 1)]),
  ("RC_SUB_TYPE_SPEKTRUM_DSMX8", [("all", 2), ("ardupilotmega", 2), ("asluav", 2), ("avssuas", 2), ("common", 2), ("cubepilot", 2), ("development", 2), ("matrixpilot", 2), ("paparazzi", 2), ("pythonarraytest", 2), ("storm32", 2), ("ualberta", 2), ("uavionix", 2)]),
  ("RC_TYPE_CRSF", [("all", 1), ("ardupilotmega", 1), ("asluav", 1), ("avssuas", 1), ("common", 1), ("cubepilot", 1), ("development", 1), ("matrixpilot", 1), ("paparazzi", 1), ("pythonarraytest", 1), ("storm32", 1), ("ualberta", 1), ("uavionix", 1)]),
  ("RC_TYPE_SPEKTRUM", [("all", 0), ("ardupilotmega", 0), ("asluav", 0), ("avssuas", 0), ("common", 0), ("cubepilot", 0), ("development", 0), ("matrixpilot", 0), ("paparazzi", 0), ("pythonarraytest", 0), ("storm32", 0), ("ualberta", 0), ("uavionix", 0)]),
  ("ROVER_MODE_ACRO", [("all", 1), ("ardupilotmega", 1), ("storm32", 1)]),
  ("ROVER_MODE_AUTO", [("all", 10), ("ardupilotmega", 10), ("storm32", 10)]),
  ("ROVER_MODE_FOLLOW", [("all", 6), ("ardupilotmega", 6), ("storm32", 6)]),
  ("ROVER_MODE_GUIDED", [("all", 15), ("ardupilotmega", 15), ("storm32", 15)]),
  ("ROVER_MODE_HOLD", [("all", 4), ("ardupilotmega", 4), ("storm32", 4)]),
  ("ROVER_MODE_INITIALIZING", [("all", 16), ("ardupilotmega", 16), ("storm32", 16)]),
  ("ROVER_MODE_LOITER", [("all", 5), ("ardupilotmega", 5), ("storm32", 5)]),
  ("ROVER_MODE_MANUAL", [("all", 0), ("ardupilotmega", 0), ("storm32", 0)]),
  ("ROVER_MODE_RTL", [("all", 11), ("ardupilotmega", 11), ("storm32", 11)]),
  ("ROVER_MODE_SIMPLE", [("all", 7), ("ardupilotmega", 7), ("storm32", 7)]),
  ("ROVER_MODE_SMART_RTL", [("all", 12), ("ardupilotmega", 12), ("storm32", 12)]),
  ("ROVER_MODE_STEERING", [("all", 3), ("ardupilotmega", 3), ("storm32", 3)]),
  ("RTK_BASELINE_COORDINATE_SYSTEM_ECEF", [("all", 0), ("ardupilotmega", 0), ("asluav", 0), ("avssuas", 0), ("common", 0), ("cubepilot", 0), ("development", 0), ("matrixpilot", 0), ("paparazzi", 0), ("pythonarraytest", 0), ("storm32", 0), ("ualberta", 0), ("uavionix", 0)]),
  ("RTK_BASELINE_COORDINATE_SYSTEM_NED", [("all", 1), ("ardupilotmega", 1), ("asluav", 1), ("avssuas", 1), ("common", 1), ("cubepilot", 1), ("development", 1), ("matrixpilot", 1), ("paparazzi", 1), ("pythonarraytest", 1), ("storm32", 1), ("ualberta", 1), ("uavionix", 1)]),
  ("SAFETY_SWITCH_STATE_DANGEROUS", [("all", 1), ("ardupilotmega", 1), ("asluav", 1), ("avssuas", 1), ("common", 1), ("cubepilot", 1), ("development", 1), ("matrixpilot", 1), ("paparazzi", 1), ("pythonarraytest", 1), ("storm32", 1), ("ualberta", 1), ("uavionix", 1)]),
  ("SAFETY_SWITCH_STATE_SAFE", [("all", 0), ("ardupilotmega", 0), ("asluav", 0), ("avssuas", 0), ("common", 0), ("cubepilot", 0), ("development", 0), ("matrixpilot", 0), ("paparazzi", 0), ("pythonarraytest", 0), ("storm32", 0), ("ualberta", 0), ("uavionix", 0)]),
  ("SCRIPTING_CMD_REPL_START", [("all", 0), ("ardupilotmega", 0), ("storm32", 0)]),
  ("SCRIPTING_CMD_REPL_STOP", [("all", 1), ("ardupilotmega", 1), ("storm32", 1)]),
  ("SCRIPTING_CMD_STOP", [("all", 2), ("ardupilotmega", 2), ("storm32", 2)]),
  ("SCRIPTING_CMD_STOP_AND_RESTART", [("all", 3), ("ardupilotmega", 3), ("storm32", 3)]),
  ("SECURE_COMMAND_FLASH_BOOTLOADER", [("all", 7), ("ardupilotmega", 7), ("storm32", 7)]),
  ("SECURE_COMMAND_GET_PUBLIC_KEYS", [("all", 3), ("ardupilotmega", 3), ("storm32", 3)]),
  ("SECURE_COMMAND_GET_REMOTEID_CONFIG", [("all", 5), ("ardupilotmega", 5), ("storm32", 5)]),
  ("SECURE_COMMAND_GET_REMOTEID_SESSION_KEY", [("all", 1), ("ardupilotmega", 1), ("storm32", 1)]),
  ("SECURE_COMMAND_GET_SESSION_KEY", [("all", 0), ("ardupilotmega", 0), ("storm32", 0)]),
  ("SECURE_COMMAND_REMOVE_PUBLIC_KEYS", [("all", 2), ("ardupilotmega", 2), ("storm32", 2)]),
  ("SECURE_COMMAND_SET_PUBLIC_KEYS", [("all", 4), ("ardupilotmega", 4), ("storm32", 4)]),
  ("SECURE_COMMAND_SET_REMOTEID_CONFIG", [("all", 6), ("ardupilotmega", 6), ("storm32", 6)]),
  ("SERIAL_CONTROL_DEV_GPS1", [("all", 2), ("ardupilotmega", 2), ("asluav", 2), ("avssuas", 2), ("common", 2), ("cubepilot", 2), ("development", 2), ("matrixpilot", 2), ("paparazzi", 2), ("pythonarraytest", 2), ("storm32", 2), ("ualberta", 2), ("uavionix", 2)]),
  ("SERIAL_CONTROL_DEV_GPS2", [("all", 3), ("ardupilotmega", 3), ("asluav", 3), ("avssuas", 3), ("common", 3), ("cubepilot", 3), ("development", 3), ("matrixpilot", 3), ("paparazzi", 3), ("pythonarraytest", 3), ("storm32", 3), ("ualberta", 3), ("uavionix", 3)]),
  ("SERIAL_CONTROL_DEV_SHELL", [("all", 10), ("ardupilotmega", 10), ("asluav", 10), ("avssuas", 10), ("common", 10), ("cubepilot", 10), ("development", 10), ("matrixpilot", 10), ("paparazzi", 10), ("pythonarraytest", 10), ("storm32", 10), ("ualberta", 10), ("uavionix", 10)]),
  ("SERIAL_CONTROL_DEV_TELEM1", [("all", 0), ("ardupilotmega", 0), ("asluav", 0), ("avssuas", 0), ("common", 0), ("cubepilot", 0), ("development", 0), ("matrixpilot", 0), ("paparazzi", 0), ("pythonarraytest", 0), ("storm32", 0), ("ualberta", 0), ("uavionix", 0)]),
  ("SERIAL_CONTROL_DEV_TELEM2", [("all", 1), ("ardupilotmega", 1), ("asluav", 1), ("avssuas", 1), ("common", 1), ("cubepilot", 1), ("development", 1), ("matrixpilot", 1), ("paparazzi", 1), ("pythonarraytest", 1), ("storm32", 1), ("ualberta", 1), ("uavionix", 1)]),
  ("SERIAL_CONTROL_FLAG_BLOCKING", [("all", 8), ("ardupilotmega", 8), ("asluav", 8), ("avssuas", 8), ("common", 8), ("cubepilot", 8), ("development", 8), ("matrixpilot", 8), ("paparazzi", 8), ("pythonarraytest", 8), ("storm32", 8), ("ualberta", 8), ("uavionix", 8)]),
  ("SERIAL_CONTROL_FLAG_EXCLUSIVE", [("all", 4), ("ardupilotmega", 4), ("asluav", 4), ("avssuas", 4), ("common", 4), ("cubepilot", 4), ("development", 4), ("matrixpilot", 4), ("paparazzi", 4), ("pythonarraytest", 4), ("storm32", 4), ("ualberta", 4), ("uavionix", 4)]),
  ("SERIAL_CONTROL_FLAG_MULTI", [("all", 16), ("ardupilotmega", 16), ("asluav", 16), ("avssuas", 16), ("common", 16), ("cubepilot", 16), ("development", 16), ("matrixpilot", 16), ("paparazzi", 16), ("pythonarraytest", 16), ("storm32", 16), ("ualberta", 16), ("uavionix", 16)]),
  ("SERIAL_CONTROL_FLAG_REPLY", [("all", 1), ("ardupilotmega", 1), ("asluav", 1), ("avssuas", 1), ("common", 1), ("cubepilot", 1), ("development", 1), ("matrixpilot", 1), ("paparazzi", 1), ("pythonarraytest", 1), ("storm32", 1), ("ualberta", 1), ("uavionix", 1)]),
  ("SERIAL_CONTROL_FLAG_RESPOND", [("all", 2), ("ardupilotmega", 2), ("asluav", 2), ("avssuas", 2), ("common", 2), ("cubepilot", 2), ("development", 2), ("matrixpilot", 2), ("paparazzi", 2), ("pythonarraytest", 2), ("storm32", 2), ("ualberta", 2), ("uavionix", 2)]),
  ("SERIAL_CONTROL_SERIAL0", [("all", 100), ("ardupilotmega", 100), ("asluav", 100), ("avssuas", 100), ("common", 100), ("cubepilot", 100), ("development", 100), ("matrixpilot", 100), ("paparazzi", 100), ("pythonarraytest", 100), ("storm32", 100), ("ualberta", 100), ("uavionix", 100)]),
  ("SERIAL_CONTROL_SERIAL1", [("all", 101), ("ardupilotmega", 101), ("asluav", 101), ("avssuas", 101), ("common", 101), ("cubepilot", 101), ("development", 101), ("matrixpilot", 101), ("paparazzi", 101), ("pythonarraytest", 101), ("storm32", 101), ("ualberta", 101), ("uavionix", 101)]),
  ("SERIAL_CONTROL_SERIAL2", [("all", 102), ("ardupilotmega", 102), ("asluav", 102), ("avssuas", 102), ("common", 102), ("cubepilot", 102), ("development", 102), ("matrixpilot", 102), ("paparazzi", 102), ("pythonarraytest", 102), ("storm32", 102), ("ualberta", 102), ("uavionix", 102)]),
  ("SERIAL_CONTROL_SERIAL3", [("all", 103), ("ardupilotmega", 103), ("asluav", 103), ("avssuas", 103), ("common", 103), ("cubepilot", 103), ("development", 103), ("matrixpilot", 103), ("paparazzi", 103), ("pythonarraytest", 103), ("storm32", 103), ("ualberta", 103), ("uavionix", 103)]),
  ("SERIAL_CONTROL_SERIAL4", [("all", 104), ("ardupilotmega", 104), ("asluav", 104), ("avssuas", 104), ("common", 104), ("cubepilot", 104), ("development", 104), ("matrixpilot", 104), ("paparazzi", 104), ("pythonarraytest", 104), ("storm32", 104), ("ualberta", 104), ("uavionix", 104)]),
  ("SERIAL_CONTROL_SERIAL5", [("all", 105), ("ardupilotmega", 105), ("asluav", 105), ("avssuas", 105), ("common", 105), ("cubepilot", 105), ("development", 105), ("matrixpilot", 105), ("paparazzi", 105), ("pythonarraytest", 105), ("storm32", 105), ("ualberta", 105), ("uavionix", 105)]),
  ("SERIAL_CONTROL_SERIAL6", [("all", 106), ("ardupilotmega", 106), ("asluav", 106), ("avssuas", 106), ("common", 106), ("cubepilot", 106), ("development", 106), ("matrixpilot", 106), ("paparazzi", 106), ("pythonarraytest", 106), ("storm32", 106), ("ualberta", 106), ("uavionix", 106)]),
  ("SERIAL_CONTROL_SERIAL7", [("all", 107), ("ardupilotmega", 107), ("asluav", 107), ("avssuas", 107), ("common", 107), ("cubepilot", 107), ("development", 107), ("matrixpilot", 107), ("paparazzi", 107), ("pythonarraytest", 107), ("storm32", 107), ("ualberta", 107), ("uavionix", 107)])]
def constGroups_33 : List (String × List (String × Nat)) := [
  ("SERIAL_CONTROL_SERIAL8", [("all", 108), ("ardupilotmega", 108), ("asluav", 108), ("avssuas", 108), ("common", 108), ("cubepilot", 108), ("development", 108), ("matrixpilot", 108), ("paparazzi", 108), ("pythonarraytest", 108), ("storm32", 108), ("ualberta", 108), ("uavionix", 108)]),
  ("SERIAL_CONTROL_SERIAL9", [("all", 109), ("ardupilotmega", 109), ("asluav", 109), ("avssuas", 109), ("common", 109), ("cubepilot", 109), ("development", 109), ("matrixpilot", 109), ("paparazzi", 109), ("pythonarraytest", 109), ("storm32", 109), ("ualberta", 109), ("uavionix", 109)]),
  ("SPEED_TYPE_AIRSPEED", [("all", 0), ("ardupilotmega", 0), ("asluav", 0), ("avssuas", 0), ("common", 0), ("cubepilot", 0), ("development", 0), ("matrixpilot", 0), ("paparazzi", 0), ("pythonarraytest", 0), ("storm32", 0), ("ualberta", 0), ("uavionix", 0)]),
  ("SPEED_TYPE_CLIMB_SPEED", [("all", 2), ("ardupilotmega", 2), ("asluav", 2), ("avssuas", 2), ("common", 2), ("cubepilot", 2), ("development", 2), ("matrixpilot", 2), ("paparazzi", 2), ("pythonarraytest", 2), ("storm32", 2), ("ualberta", 2), ("uavionix", 2)]),
  ("SPEED_TYPE_DESCENT_SPEED", [("all", 3), ("ardupilotmega", 3), ("asluav", 3), ("avssuas", 3), ("common", 3), ("cubepilot", 3), ("development", 3), ("matrixpilot", 3), ("paparazzi", 3), ("pythonarraytest", 3), ("storm32", 3), ("ualberta", 3), ("uavionix", 3)]),
  ("SPEED_TYPE_GROUNDSPEED", [("all", 1), ("ardupilotmega", 1), ("asluav", 1), ("avssuas", 1), ("common", 1), ("cubepilot", 1), ("development", 1), ("matrixpilot", 1), ("paparazzi", 1), ("pythonarraytest", 1), ("storm32", 1), ("ualberta", 1), ("uavionix", 1)]),
  ("STORAGE_STATUS_EMPTY", [("all", 0), ("ardupilotmega", 0), ("asluav", 0), ("avssuas", 0), ("common", 0), ("cubepilot", 0), ("development", 0), ("matrixpilot", 0), ("paparazzi", 0), ("pythonarraytest", 0), ("storm32", 0), ("ualberta", 0), ("uavionix", 0)]),
  ("STORAGE_STATUS_NOT_SUPPORTED", [("all", 3), ("ardupilotmega", 3), ("asluav", 3), ("avssuas", 3), ("common", 3), ("cubepilot", 3), ("development", 3), ("matrixpilot", 3), ("paparazzi", 3), ("pythonarraytest", 3), ("storm32", 3), ("ualberta", 3), ("uavionix", 3)]),
  ("STORAGE_STATUS_READY", [("all", 2), ("ardupilotmega", 2), ("asluav", 2), ("avssuas", 2), ("common", 2), ("cubepilot", 2), ("development", 2), ("matrixpilot", 2), ("paparazzi", 2), ("pythonarraytest", 2), ("storm32", 2), ("ualberta", 2), ("uavionix", 2)]),
  ("STORAGE_STATUS_UNFORMATTED", [("all", 1), ("ardupilotmega", 1), ("asluav", 1), ("avssuas", 1), ("common", 1), ("cubepilot", 1), ("development", 1), ("matrixpilot", 1), ("paparazzi", 1), ("pythonarraytest", 1), ("storm32", 1), ("ualberta", 1), ("uavionix", 1)]),
  ("STORAGE_TYPE_CF", [("all", 4), ("ardupilotmega", 4), ("asluav", 4), ("avssuas", 4), ("common", 4), ("cubepilot", 4), ("development", 4), ("matrixpilot", 4), ("paparazzi", 4), ("pythonarraytest", 4), ("storm32", 4), ("ualberta", 4), ("uavionix", 4)]),
  ("STORAGE_TYPE_CFE", [("all", 5), ("ardupilotmega", 5), ("asluav", 5), ("avssuas", 5), ("common", 5), ("cubepilot", 5), ("development", 5), ("matrixpilot", 5), ("paparazzi", 5), ("pythonarraytest", 5), ("storm32", 5), ("ualberta", 5), ("uavionix", 5)]),
  ("STORAGE_TYPE_HD", [("all", 7), ("ardupilotmega", 7), ("asluav", 7), ("avssuas", 7), ("common", 7), ("cubepilot", 7), ("development", 7), ("matrixpilot", 7), ("paparazzi", 7), ("pythonarraytest", 7), ("storm32", 7), ("ualberta", 7), ("uavionix", 7)]),
  ("STORAGE_TYPE_MICROSD", [("all", 3), ("ardupilotmega", 3), ("asluav", 3), ("avssuas", 3), ("common", 3), ("cubepilot", 3), ("development", 3), ("matrixpilot", 3), ("paparazzi", 3), ("pythonarraytest", 3), ("storm32", 3), ("ualberta", 3), ("uavionix", 3)]),
  ("STORAGE_TYPE_OTHER", [("all", 254), ("ardupilotmega", 254), ("asluav", 254), ("avssuas", 254), ("common", 254), ("cubepilot", 254), ("development", 254), ("matrixpilot", 254), ("paparazzi", 254), ("pythonarraytest", 254), ("storm32", 254), ("ualberta", 254), ("uavionix", 254)]),
  ("STORAGE_TYPE_SD", [("all", 2), ("ardupilotmega", 2), ("asluav", 2), ("avssuas", 2), ("common", 2), ("cubepilot", 2), ("development", 2), ("matrixpilot", 2), ("paparazzi", 2), ("pythonarraytest", 2), ("storm32", 2), ("ualberta", 2), ("uavionix", 2)]),
  ("STORAGE_TYPE_UNKNOWN", [("all", 0), ("ardupilotmega", 0), ("asluav", 0), ("avssuas", 0), ("common", 0), ("cubepilot", 0), ("development", 0), ("matrixpilot", 0), ("paparazzi", 0), ("pythonarraytest", 0), ("storm32", 0), ("ualberta", 0), ("uavionix", 0)]),
  ("STORAGE_TYPE_USB_STICK", [("all", 1), ("ardupilotmega", 1), ("asluav", 1), ("avssuas", 1), ("common", 1), ("cubepilot", 1), ("development", 1), ("matrixpilot", 1), ("paparazzi", 1), ("pythonarraytest", 1), ("storm32", 1), ("ualberta", 1), ("uavionix", 1)]),
  ("STORAGE_TYPE_XQD", [("all", 6), ("ardupilotmega", 6), ("asluav", 6), ("avssuas", 6), ("common", 6), ("cubepilot", 6), ("development", 6), ("matrixpilot", 6), ("paparazzi", 6), ("pythonarraytest", 6), ("storm32", 6), ("ualberta", 6), ("uavionix", 6)]),
  ("STORAGE_USAGE_FLAG_LOGS", [("all", 8), ("ardupilotmega", 8), ("asluav", 8), ("avssuas", 8), ("common", 8), ("cubepilot", 8), ("development", 8), ("matrixpilot", 8), ("paparazzi", 8), ("pythonarraytest", 8), ("storm32", 8), ("ualberta", 8), ("uavionix", 8)]),
  ("STORAGE_USAGE_FLAG_PHOTO", [("all", 2), ("ardupilotmega", 2), ("asluav", 2), ("avssuas", 2), ("common", 2), ("cubepilot", 2), ("development", 2), ("matrixpilot", 2), ("paparazzi", 2), ("pythonarraytest", 2), ("storm32", 2), ("ualberta", 2), ("uavionix", 2)]),
  ("STORAGE_USAGE_FLAG_SET", [("all", 1), ("ardupilotmega", 1), ("asluav", 1), ("avssuas", 1), ("common", 1), ("cubepilot", 1), ("development", 1), ("matrixpilot", 1), ("paparazzi", 1), ("pythonarraytest", 1), ("storm32", 1), ("ualberta", 1), ("uavionix", 1)]),
  ("STORAGE_USAGE_FLAG_VIDEO", [("all", 4), ("ardupilotmega", 4), ("asluav", 4), ("avssuas", 4), ("common", 4), ("cubepilot", 4), ("development", 4), ("matrixpilot", 4), ("paparazzi", 4), ("pythonarraytest", 4), ("storm32", 4), ("ualberta", 4), ("uavionix", 4)]),
  ("SUB_MODE_ACRO", [("all", 1), ("ardupilotmega", 1), ("storm32", 1)]),
  ("SUB_MODE_ALT_HOLD", [("all", 2), ("ardupilotmega", 2), ("storm32", 2)]),
  ("SUB_MODE_AUTO", [("all", 3), ("ardupilotmega", 3), ("storm32", 3)]),
  ("SUB_MODE_CIRCLE", [("all", 7), ("ardupilotmega", 7), ("storm32", 7)]),
  ("SUB_MODE_GUIDED", [("all", 4), ("ardupilotmega", 4), ("storm32", 4)]),
  ("SUB_MODE_MANUAL", [("all", 19), ("ardupilotmega", 19), ("storm32", 19)]),
  ("SUB_MODE_POSHOLD", [("all", 16), ("ardupilotmega", 16), ("storm32", 16)]),
  ("SUB_MODE_STABILIZE", [("all", 0), ("ardupilotmega", 0), ("storm32", 0)]),
  ("SUB_MODE_SURFACE", [("all", 9), ("ardupilotmega", 9), ("storm32", 9)]),
  ("TARGET_ABSOLUTE_SENSOR_CAPABILITY_ACCELERATION", [("all", 4), ("development", 4)]),
  ("TARGET_ABSOLUTE_SENSOR_CAPABILITY_ATTITUDE", [("all", 8), ("development", 8)]),
  ("TARGET_ABSOLUTE_SENSOR_CAPABILITY_POSITION", [("all", 1), ("development", 1)]),
  ("TARGET_ABSOLUTE_SENSOR_CAPABILITY_RATES", [("all", 16), ("development", 16)]),
  ("TARGET_ABSOLUTE_SENSOR_CAPABILITY_VELOCITY", [("all", 2), ("development", 2)]),
  ("TARGET_OBS_FRAME_BODY_FRD", [("all", 1), ("development", 1)]),
  ("TARGET_OBS_FRAME_LOCAL_NED", [("all", 0), ("development", 0)]),
  ("TARGET_OBS_FRAME_LOCAL_OFFSET_NED", [("all", 2), ("development", 2)]),
  ("TARGET_OBS_FRAME_OTHER", [("all", 3), ("development", 3)]),
  ("TRACKER_MODE_AUTO", [("all", 10), ("ardupilotmega", 10), ("storm32", 10)]),
  ("TRACKER_MODE_INITIALIZING", [("all", 16), ("ardupilotmega", 16), ("storm32", 16)]),
  ("TRACKER_MODE_MANUAL", [("all", 0), ("ardupilotmega", 0), ("storm32", 0)]),
  ("TRACKER_MODE_SCAN", [("all", 2), ("ardupilotmega", 2), ("storm32", 2)]),
  ("TRACKER_MODE_SERVO_TEST", [("all", 3), ("ardupilotmega", 3), ("storm32", 3)]),
  ("TRACKER_MODE_STOP", [("all", 1), ("ardupilotmega", 1), ("storm32", 1)]),
  ("TUNE_FORMAT_MML_MODERN", [("all", 2), ("ardupilotmega", 2), ("asluav", 2), ("avssuas", 2), ("common", 2), ("cubepilot", 2), ("development", 2), ("matrixpilot", 2), ("paparazzi", 2), ("pythonarraytest", 2), ("storm32", 2), ("ualberta", 2), ("uavionix", 2)]),
  ("TUNE_FORMAT_QBASIC1_1", [("all", 1), ("ardupilotmega", 1), ("asluav", 1), ("avssuas", 1), ("common", 1), ("cubepilot", 1), ("development", 1), ("matrixpilot", 1), ("paparazzi", 1), ("pythonarraytest", 1), ("storm32", 1), ("ualberta", 1), ("uavionix", 1)]),
  ("UAVCAN_NODE_HEALTH_CRITICAL", [("all", 3), ("ardupilotmega", 3), ("asluav", 3), ("avssuas", 3), ("common", 3), ("cubepilot", 3), ("development", 3), ("matrixpilot", 3), ("paparazzi", 3), ("pythonarraytest", 3), ("storm32", 3), ("ualberta", 3), ("uavionix", 3)]),
  ("UAVCAN_NODE_HEALTH_ERROR", [("all", 2), ("ardupilotmega", 2), ("asluav", 2), ("avssuas", 2), ("common", 2), ("cubepilot", 2), ("development", 2), ("matrixpilot", 2), ("paparazzi", 2), ("pythonarraytest", 2), ("storm32", 2), ("ualberta", 2), ("uavionix", 2)]),
  ("UAVCAN_NODE_HEALTH_OK", [("all", 0), ("ardupilotmega", 0), ("asluav", 0), ("avssuas", 0), ("common", 0), ("cubepilot", 0), ("development", 0), ("matrixpilot", 0), ("paparazzi", 0), ("pythonarraytest", 0), ("storm32", 0), ("ualberta", 0), ("uavionix", 0)]),
  ("UAVCAN_NODE_HEALTH_WARNING", [("all", 1), ("ardupilotmega", 1), ("asluav", 1), ("avssuas", 1), ("common", 1), ("cubepilot", 1), ("development", 1), ("matrixpilot", 1), ("paparazzi", 1), ("pythonarraytest", 1), ("storm32", 1), ("ualberta", 1), ("uavionix", 1)]),
  ("UAVCAN_NODE_MODE_INITIALIZATION", [("all", 1), ("ardupilotmega", 1), ("asluav", 1), ("avssuas", 1), ("common", 1), ("cubepilot", 1), ("development", 1), ("matrixpilot", 1), ("paparazzi", 1), ("pythonarraytest", 1), ("storm32", 1), ("ualberta", 1), ("uavionix", 1)]),
  ("UAVCAN_NODE_MODE_MAINTENANCE", [("all", 2), ("ardupilotmega", 2), ("asluav", 2), ("avssuas", 2), ("common", 2), ("cubepilot", 2), ("development", 2), ("matrixpilot", 2), ("paparazzi", 2), ("pythonarraytest", 2), ("storm32", 2), ("ualberta", 2), ("uavionix", 2)]),
  ("UAVCAN_NODE_MODE_OFFLINE", [("all", 7), ("ardupilotmega", 7), ("asluav", 7), ("avssuas", 7), ("common", 7), ("cubepilot", 7), ("development", 7), ("matrixpilot", 7), ("paparazzi", 7), ("pythonarraytest", 7), ("storm32", 7), ("ualberta", 7), ("uavionix", 7)]),
  ("UAVCAN_NODE_MODE_OPERATIONAL", [("all", 0), ("ardupilotmega", 0), ("asluav", 0), ("avssuas", 0), ("common", 0), ("cubepilot", 0), ("development", 0), ("matrixpilot", 0), ("paparazzi", 0), ("pythonarraytest", 0), ("storm32", 0), ("ualberta", 0), ("uavionix", 0)]),
  ("UAVCAN_NODE_MODE_SOFTWARE_UPDATE", [("all", 3), ("ardupilotmega", 3), ("asluav", 3), ("avssuas", 3), ("common", 3), ("cubepilot", 3), ("development", 3), ("matrixpilot", 3), ("paparazzi", 3), ("pythonarraytest", 3), ("storm32", 3), ("ualberta", 3), ("uavionix", 3)]),
  ("UAVIONIX_ADSB_NACP_EPU_0_05_NM", [("all", 128), ("ardupilotmega", 128), ("storm32", 128), ("uavionix", 128)]),
  ("UAVIONIX_ADSB_NACP_EPU_0_1_NM", [("all", 112), ("ardupilotmega", 112), ("storm32", 112), ("uavionix", 112)])]
def constGroups_34 : List (String × List (String × Nat)) := [
  ("UAVIONIX_ADSB_NACP_EPU_0_3_NM", [("all", 96), ("ardupilotmega", 96), ("storm32", 96), ("uavionix", 96)]),
  ("UAVIONIX_ADSB_NACP_EPU_0_5_NM", [("all", 80), ("ardupilotmega", 80), ("storm32", 80), ("uavionix", 80)]),
  ("UAVIONIX_ADSB_NACP_EPU_10_M", [("all", 160), ("ardupilotmega", 160), ("storm32", 160), ("uavionix", 160)]),
  ("UAVIONIX_ADSB_NACP_EPU_10_NM", [("all", 16), ("ardupilotmega", 16), ("storm32", 16), ("uavionix", 16)]),
  ("UAVIONIX_ADSB_NACP_EPU_1_NM", [("all", 64), ("ardupilotmega", 64), ("storm32", 64), ("uavionix", 64)]),
  ("UAVIONIX_ADSB_NACP_EPU_2_NM", [("all", 48), ("ardupilotmega", 48), ("storm32", 48), ("uavionix", 48)]),
  ("UAVIONIX_ADSB_NACP_EPU_30_M", [("all", 144), ("ardupilotmega", 144), ("storm32", 144), ("uavionix", 144)]),
  ("UAVIONIX_ADSB_NACP_EPU_3_M", [("all", 176), ("ardupilotmega", 176), ("storm32", 176), ("uavionix", 176)]),
  ("UAVIONIX_ADSB_NACP_EPU_4_NM", [("all", 32), ("ardupilotmega", 32), ("storm32", 32), ("uavionix", 32)]),
  ("UAVIONIX_ADSB_NIC_CR_0_1_NM", [("all", 8), ("ardupilotmega", 8), ("storm32", 8), ("uavionix", 8)]),
  ("UAVIONIX_ADSB_NIC_CR_0_2_NM", [("all", 7), ("ardupilotmega", 7), ("storm32", 7), ("uavionix", 7)]),
  ("UAVIONIX_ADSB_NIC_CR_0_3_NM", [("all", 6), ("ardupilotmega", 6), ("storm32", 6), ("uavionix", 6)]),
  ("UAVIONIX_ADSB_NIC_CR_1_NM", [("all", 5), ("ardupilotmega", 5), ("storm32", 5), ("uavionix", 5)]),
  ("UAVIONIX_ADSB_NIC_CR_20_NM", [("all", 1), ("ardupilotmega", 1), ("storm32", 1), ("uavionix", 1)]),
  ("UAVIONIX_ADSB_NIC_CR_25_M", [("all", 10), ("ardupilotmega", 10), ("storm32", 10), ("uavionix", 10)]),
  ("UAVIONIX_ADSB_NIC_CR_2_NM", [("all", 4), ("ardupilotmega", 4), ("storm32", 4), ("uavionix", 4)]),
  ("UAVIONIX_ADSB_NIC_CR_4_NM", [("all", 3), ("ardupilotmega", 3), ("storm32", 3), ("uavionix", 3)]),
  ("UAVIONIX_ADSB_NIC_CR_75_M", [("all", 9), ("ardupilotmega", 9), ("storm32", 9), ("uavionix", 9)]),
  ("UAVIONIX_ADSB_NIC_CR_7_5_M", [("all", 11), ("ardupilotmega", 11), ("storm32", 11), ("uavionix", 11)]),
  ("UAVIONIX_ADSB_NIC_CR_8_NM", [("all", 2), ("ardupilotmega", 2), ("storm32", 2), ("uavionix", 2)]),
  ("UAVIONIX_ADSB_OUT_CFG_AIRCRAFT_SIZE_L15M_W23M", [("all", 1), ("ardupilotmega", 1), ("storm32", 1), ("uavionix", 1)]),
  ("UAVIONIX_ADSB_OUT_CFG_AIRCRAFT_SIZE_L25M_W28P5M", [("all", 2), ("ardupilotmega", 2), ("storm32", 2), ("uavionix", 2)]),
  ("UAVIONIX_ADSB_OUT_CFG_AIRCRAFT_SIZE_L25_34M", [("all", 3), ("ardupilotmega", 3), ("storm32", 3), ("uavionix", 3)]),
  ("UAVIONIX_ADSB_OUT_CFG_AIRCRAFT_SIZE_L35_33M", [("all", 4), ("ardupilotmega", 4), ("storm32", 4), ("uavionix", 4)]),
  ("UAVIONIX_ADSB_OUT_CFG_AIRCRAFT_SIZE_L35_38M", [("all", 5), ("ardupilotmega", 5), ("storm32", 5), ("uavionix", 5)]),
  ("UAVIONIX_ADSB_OUT_CFG_AIRCRAFT_SIZE_L45_39P5M", [("all", 6), ("ardupilotmega", 6), ("storm32", 6), ("uavionix", 6)]),
  ("UAVIONIX_ADSB_OUT_CFG_AIRCRAFT_SIZE_L45_45M", [("all", 7), ("ardupilotmega", 7), ("storm32", 7), ("uavionix", 7)]),
  ("UAVIONIX_ADSB_OUT_CFG_AIRCRAFT_SIZE_L55_45M", [("all", 8), ("ardupilotmega", 8), ("storm32", 8), ("uavionix", 8)]),
  ("UAVIONIX_ADSB_OUT_CFG_AIRCRAFT_SIZE_L55_52M", [("all", 9), ("ardupilotmega", 9), ("storm32", 9), ("uavionix", 9)]),
  ("UAVIONIX_ADSB_OUT_CFG_AIRCRAFT_SIZE_L65_59P5M", [("all", 10), ("ardupilotmega", 10), ("storm32", 10), ("uavionix", 10)]),
  ("UAVIONIX_ADSB_OUT_CFG_AIRCRAFT_SIZE_L65_67M", [("all", 11), ("ardupilotmega", 11), ("storm32", 11), ("uavionix", 11)]),
  ("UAVIONIX_ADSB_OUT_CFG_AIRCRAFT_SIZE_L75_W72P5M", [("all", 12), ("ardupilotmega", 12), ("storm32", 12), ("uavionix", 12)]),
  ("UAVIONIX_ADSB_OUT_CFG_AIRCRAFT_SIZE_L75_W80M", [("all", 13), ("ardupilotmega", 13), ("storm32", 13), ("uavionix", 13)]),
  ("UAVIONIX_ADSB_OUT_CFG_AIRCRAFT_SIZE_L85_W80M", [("all", 14), ("ardupilotmega", 14), ("storm32", 14), ("uavionix", 14)]),
  ("UAVIONIX_ADSB_OUT_CFG_AIRCRAFT_SIZE_L85_W90M", [("all", 15), ("ardupilotmega", 15), ("storm32", 15), ("uavionix", 15)]),
  ("UAVIONIX_ADSB_OUT_CFG_AIRCRAFT_SIZE_NO_DATA", [("all", 0), ("ardupilotmega", 0), ("storm32", 0), ("uavionix", 0)]),
  ("UAVIONIX_ADSB_OUT_CFG_GPS_OFFSET_LAT_LEFT_2M", [("all", 1), ("ardupilotmega", 1), ("storm32", 1), ("uavionix", 1)]),
  ("UAVIONIX_ADSB_OUT_CFG_GPS_OFFSET_LAT_LEFT_4M", [("all", 2), ("ardupilotmega", 2), ("storm32", 2), ("uavionix", 2)]),
  ("UAVIONIX_ADSB_OUT_CFG_GPS_OFFSET_LAT_LEFT_6M", [("all", 3), ("ardupilotmega", 3), ("storm32", 3), ("uavionix", 3)]),
  ("UAVIONIX_ADSB_OUT_CFG_GPS_OFFSET_LAT_NO_DATA", [("all", 0), ("ardupilotmega", 0), ("storm32", 0), ("uavionix", 0)]),
  ("UAVIONIX_ADSB_OUT_CFG_GPS_OFFSET_LAT_RIGHT_0M", [("all", 4), ("ardupilotmega", 4), ("storm32", 4), ("uavionix", 4)]),
  ("UAVIONIX_ADSB_OUT_CFG_GPS_OFFSET_LAT_RIGHT_2M", [("all", 5), ("ardupilotmega", 5), ("storm32", 5), ("uavionix", 5)]),
  ("UAVIONIX_ADSB_OUT_CFG_GPS_OFFSET_LAT_RIGHT_4M", [("all", 6), ("ardupilotmega", 6), ("storm32", 6), ("uavionix", 6)]),
  ("UAVIONIX_ADSB_OUT_CFG_GPS_OFFSET_LAT_RIGHT_6M", [("all", 7), ("ardupilotmega", 7), ("storm32", 7), ("uavionix", 7)]),
  ("UAVIONIX_ADSB_OUT_CFG_GPS_OFFSET_LON_APPLIED_BY_SENSOR", [("all", 1), ("ardupilotmega", 1), ("storm32", 1), ("uavionix", 1)]),
  ("UAVIONIX_ADSB_OUT_CFG_GPS_OFFSET_LON_NO_DATA", [("all", 0), ("ardupilotmega", 0), ("storm32", 0), ("uavionix", 0)]),
  ("UAVIONIX_ADSB_OUT_CONTROL_STATE_1090ES_TX_ENABLED", [("all", 128), ("ardupilotmega", 128), ("storm32", 128), ("uavionix", 128)]),
  ("UAVIONIX_ADSB_OUT_CONTROL_STATE_EXTERNAL_BARO_CROSSCHECKED", [("all", 1), ("ardupilotmega", 1), ("storm32", 1), ("uavionix", 1)]),
  ("UAVIONIX_ADSB_OUT_CONTROL_STATE_IDENT_BUTTON_ACTIVE", [("all", 8), ("ardupilotmega", 8), ("storm32", 8), ("uavionix", 8)]),
  ("UAVIONIX_ADSB_OUT_CONTROL_STATE_MODE_A_ENABLED", [("all", 16), ("ardupilotmega", 16), ("storm32", 16), ("uavionix", 16)]),
  ("UAVIONIX_ADSB_OUT_CONTROL_STATE_MODE_C_ENABLED", [("all", 32), ("ardupilotmega", 32), ("storm32", 32), ("uavionix", 32)]),
  ("UAVIONIX_ADSB_OUT_CONTROL_STATE_MODE_S_ENABLED", [("all", 64), ("ardupilotmega", 64), ("storm32", 64), ("uavionix", 64)]),
  ("UAVIONIX_ADSB_OUT_CONTROL_STATE_ON_GROUND", [("all", 4), ("ardupilotmega", 4), ("storm32", 4), ("uavionix", 4)]),
  ("UAVIONIX_ADSB_OUT_DOWNED_AIRCRAFT_EMERGENCY", [("all", 6), ("ardupilotmega", 6), ("storm32", 6), ("uavionix", 6)]),
  ("UAVIONIX_ADSB_OUT_DYNAMIC_GPS_FIX_2D", [("all", 2), ("ardupilotmega", 2), ("storm32", 2), ("uavionix", 2)]),
  ("UAVIONIX_ADSB_OUT_DYNAMIC_GPS_FIX_3D", [("all", 3), ("ardupilotmega", 3), ("storm32", 3), ("uavionix", 3)]),
  ("UAVIONIX_ADSB_OUT_DYNAMIC_GPS_FIX_DGPS", [("all", 4), ("ardupilotmega", 4), ("storm32", 4), ("uavionix", 4)]),
  ("UAVIONIX_ADSB_OUT_DYNAMIC_GPS_FIX_NONE_0", [("all", 0), ("ardupilotmega", 0), ("storm32", 0), ("uavionix", 0)]),
  ("UAVIONIX_ADSB_OUT_DYNAMIC_GPS_FIX_NONE_1", [("all", 1), ("ardupilotmega", 1), ("storm32", 1), ("uavionix", 1)]),
  ("UAVIONIX_ADSB_OUT_DYNAMIC_GPS_FIX_RTK", [("all", 5), ("ardupilotmega", 5), ("storm32", 5), ("uavionix", 5)])]
def constGroups_35 : List (String × List (String × Nat)) := [
  ("UAVIONIX_ADSB_OUT_DYNAMIC_STATE_AUTOPILOT_ENABLED", [("all", 2), ("ardupilotmega", 2), ("storm32", 2), ("uavionix", 2)]),
  ("UAVIONIX_ADSB_OUT_DYNAMIC_STATE_IDENT", [("all", 16), ("ardupilotmega", 16), ("storm32", 16), ("uavionix", 16)]),
  ("UAVIONIX_ADSB_OUT_DYNAMIC_STATE_INTENT_CHANGE", [("all", 1), ("ardupilotmega", 1), ("storm32", 1), ("uavionix", 1)]),
  ("UAVIONIX_ADSB_OUT_DYNAMIC_STATE_NICBARO_CROSSCHECKED", [("all", 4), ("ardupilotmega", 4), ("storm32", 4), ("uavionix", 4)]),
  ("UAVIONIX_ADSB_OUT_DYNAMIC_STATE_ON_GROUND", [("all", 8), ("ardupilotmega", 8), ("storm32", 8), ("uavionix", 8)]),
  ("UAVIONIX_ADSB_OUT_GENERAL_EMERGENCY", [("all", 1), ("ardupilotmega", 1), ("storm32", 1), ("uavionix", 1)]),
  ("UAVIONIX_ADSB_OUT_LIFEGUARD_EMERGENCY", [("all", 2), ("ardupilotmega", 2), ("storm32", 2), ("uavionix", 2)]),
  ("UAVIONIX_ADSB_OUT_MINIMUM_FUEL_EMERGENCY", [("all", 3), ("ardupilotmega", 3), ("storm32", 3), ("uavionix", 3)]),
  ("UAVIONIX_ADSB_OUT_NO_COMM_EMERGENCY", [("all", 4), ("ardupilotmega", 4), ("storm32", 4), ("uavionix", 4)]),
  ("UAVIONIX_ADSB_OUT_NO_EMERGENCY", [("all", 0), ("ardupilotmega", 0), ("storm32", 0), ("uavionix", 0)]),
  ("UAVIONIX_ADSB_OUT_RESERVED", [("all", 7), ("ardupilotmega", 7), ("storm32", 7), ("uavionix", 7)]),
  ("UAVIONIX_ADSB_OUT_RF_SELECT_RX_ENABLED", [("all", 1), ("ardupilotmega", 1), ("storm32", 1), ("uavionix", 1)]),
  ("UAVIONIX_ADSB_OUT_RF_SELECT_STANDBY", [("all", 0), ("ardupilotmega", 0), ("storm32", 0), ("uavionix", 0)]),
  ("UAVIONIX_ADSB_OUT_RF_SELECT_TX_ENABLED", [("all", 2), ("ardupilotmega", 2), ("storm32", 2), ("uavionix", 2)]),
  ("UAVIONIX_ADSB_OUT_STATUS_FAULT_GPS_NO_POS", [("all", 16), ("ardupilotmega", 16), ("storm32", 16), ("uavionix", 16)]),
  ("UAVIONIX_ADSB_OUT_STATUS_FAULT_GPS_UNAVAIL", [("all", 32), ("ardupilotmega", 32), ("storm32", 32), ("uavionix", 32)]),
  ("UAVIONIX_ADSB_OUT_STATUS_FAULT_MAINT_REQ", [("all", 128), ("ardupilotmega", 128), ("storm32", 128), ("uavionix", 128)]),
  ("UAVIONIX_ADSB_OUT_STATUS_FAULT_STATUS_MESSAGE_UNAVAIL", [("all", 8), ("ardupilotmega", 8), ("storm32", 8), ("uavionix", 8)]),
  ("UAVIONIX_ADSB_OUT_STATUS_FAULT_TX_SYSTEM_FAIL", [("all", 64), ("ardupilotmega", 64), ("storm32", 64), ("uavionix", 64)]),
  ("UAVIONIX_ADSB_OUT_STATUS_STATE_1090ES_TX_ENABLED", [("all", 128), ("ardupilotmega", 128), ("storm32", 128), ("uavionix", 128)]),
  ("UAVIONIX_ADSB_OUT_STATUS_STATE_IDENT_ACTIVE", [("all", 8), ("ardupilotmega", 8), ("storm32", 8), ("uavionix", 8)]),
  ("UAVIONIX_ADSB_OUT_STATUS_STATE_INTERROGATED_SINCE_LAST", [("all", 2), ("ardupilotmega", 2), ("storm32", 2), ("uavionix", 2)]),
  ("UAVIONIX_ADSB_OUT_STATUS_STATE_MODE_A_ENABLED", [("all", 16), ("ardupilotmega", 16), ("storm32", 16), ("uavionix", 16)]),
  ("UAVIONIX_ADSB_OUT_STATUS_STATE_MODE_C_ENABLED", [("all", 32), ("ardupilotmega", 32), ("storm32", 32), ("uavionix", 32)]),
  ("UAVIONIX_ADSB_OUT_STATUS_STATE_MODE_S_ENABLED", [("all", 64), ("ardupilotmega", 64), ("storm32", 64), ("uavionix", 64)]),
  ("UAVIONIX_ADSB_OUT_STATUS_STATE_ON_GROUND", [("all", 1), ("ardupilotmega", 1), ("storm32", 1), ("uavionix", 1)]),
  ("UAVIONIX_ADSB_OUT_STATUS_STATE_XBIT_ENABLED", [("all", 4), ("ardupilotmega", 4), ("storm32", 4), ("uavionix", 4)]),
  ("UAVIONIX_ADSB_OUT_UNLAWFUL_INTERFERANCE_EMERGENCY", [("all", 5), ("ardupilotmega", 5), ("storm32", 5), ("uavionix", 5)]),
  ("UAVIONIX_ADSB_RF_HEALTH_FAIL_RX", [("all", 16), ("ardupilotmega", 16), ("storm32", 16), ("uavionix", 16)]),
  ("UAVIONIX_ADSB_RF_HEALTH_FAIL_TX", [("all", 2), ("ardupilotmega", 2), ("storm32", 2), ("uavionix", 2)]),
  ("UAVIONIX_ADSB_RF_HEALTH_INITIALIZING", [("all", 0), ("ardupilotmega", 0), ("storm32", 0), ("uavionix", 0)]),
  ("UAVIONIX_ADSB_RF_HEALTH_OK", [("all", 1), ("ardupilotmega", 1), ("storm32", 1), ("uavionix", 1)]),
  ("UAVIONIX_ADSB_XBIT_ENABLED", [("all", 128), ("ardupilotmega", 128), ("storm32", 128), ("uavionix", 128)]),
  ("UNDER_WAY", [("all", 0), ("ardupilotmega", 0), ("asluav", 0), ("avssuas", 0), ("common", 0), ("cubepilot", 0), ("development", 0), ("matrixpilot", 0), ("paparazzi", 0), ("pythonarraytest", 0), ("storm32", 0), ("ualberta", 0), ("uavionix", 0)]),
  ("UTM_DATA_AVAIL_FLAGS_ALTITUDE_AVAILABLE", [("all", 8), ("ardupilotmega", 8), ("asluav", 8), ("avssuas", 8), ("common", 8), ("cubepilot", 8), ("development", 8), ("matrixpilot", 8), ("paparazzi", 8), ("pythonarraytest", 8), ("storm32", 8), ("ualberta", 8), ("uavionix", 8)]),
  ("UTM_DATA_AVAIL_FLAGS_HORIZONTAL_VELO_AVAILABLE", [("all", 32), ("ardupilotmega", 32), ("asluav", 32), ("avssuas", 32), ("common", 32), ("cubepilot", 32), ("development", 32), ("matrixpilot", 32), ("paparazzi", 32), ("pythonarraytest", 32), ("storm32", 32), ("ualberta", 32), ("uavionix", 32)]),
  ("UTM_DATA_AVAIL_FLAGS_NEXT_WAYPOINT_AVAILABLE", [("all", 128), ("ardupilotmega", 128), ("asluav", 128), ("avssuas", 128), ("common", 128), ("cubepilot", 128), ("development", 128), ("matrixpilot", 128), ("paparazzi", 128), ("pythonarraytest", 128), ("storm32", 128), ("ualberta", 128), ("uavionix", 128)]),
  ("UTM_DATA_AVAIL_FLAGS_POSITION_AVAILABLE", [("all", 4), ("ardupilotmega", 4), ("asluav", 4), ("avssuas", 4), ("common", 4), ("cubepilot", 4), ("development", 4), ("matrixpilot", 4), ("paparazzi", 4), ("pythonarraytest", 4), ("storm32", 4), ("ualberta", 4), ("uavionix", 4)]),
  ("UTM_DATA_AVAIL_FLAGS_RELATIVE_ALTITUDE_AVAILABLE", [("all", 16), ("ardupilotmega", 16), ("asluav", 16), ("avssuas", 16), ("common", 16), ("cubepilot", 16), ("development", 16), ("matrixpilot", 16), ("paparazzi", 16), ("pythonarraytest", 16), ("storm32", 16), ("ualberta", 16), ("uavionix", 16)]),
  ("UTM_DATA_AVAIL_FLAGS_TIME_VALID", [("all", 1), ("ardupilotmega", 1), ("asluav", 1), ("avssuas", 1), ("common", 1), ("cubepilot", 1), ("development", 1), ("matrixpilot", 1), ("paparazzi", 1), ("pythonarraytest", 1), ("storm32", 1), ("ualberta", 1), ("uavionix", 1)]),
  ("UTM_DATA_AVAIL_FLAGS_UAS_ID_AVAILABLE", [("all", 2), ("ardupilotmega", 2), ("asluav", 2), ("avssuas", 2), ("common", 2), ("cubepilot", 2), ("development", 2), ("matrixpilot", 2), ("paparazzi", 2), ("pythonarraytest", 2), ("storm32", 2), ("ualberta", 2), ("uavionix", 2)]),
  ("UTM_DATA_AVAIL_FLAGS_VERTICAL_VELO_AVAILABLE", [("all", 64), ("ardupilotmega", 64), ("asluav", 64), ("avssuas", 64), ("common", 64), ("cubepilot", 64), ("development", 64), ("matrixpilot", 64), ("paparazzi", 64), ("pythonarraytest", 64), ("storm32", 64), ("ualberta", 64), ("uavionix", 64)]),
  ("UTM_FLIGHT_STATE_AIRBORNE", [("all", 3), ("ardupilotmega", 3), ("asluav", 3), ("avssuas", 3), ("common", 3), ("cubepilot", 3), ("development", 3), ("matrixpilot", 3), ("paparazzi", 3), ("pythonarraytest", 3), ("storm32", 3), ("ualberta", 3), ("uavionix", 3)]),
  ("UTM_FLIGHT_STATE_EMERGENCY", [("all", 16), ("ardupilotmega", 16), ("asluav", 16), ("avssuas", 16), ("common", 16), ("cubepilot", 16), ("development", 16), ("matrixpilot", 16), ("paparazzi", 16), ("pythonarraytest", 16), ("storm32", 16), ("ualberta", 16), ("uavionix", 16)]),
  ("UTM_FLIGHT_STATE_GROUND", [("all", 2), ("ardupilotmega", 2), ("asluav", 2), ("avssuas", 2), ("common", 2), ("cubepilot", 2), ("development", 2), ("matrixpilot", 2), ("paparazzi", 2), ("pythonarraytest", 2), ("storm32", 2), ("ualberta", 2), ("uavionix", 2)]),
  ("UTM_FLIGHT_STATE_NOCTRL", [("all", 32), ("ardupilotmega", 32), ("asluav", 32), ("avssuas", 32), ("common", 32), ("cubepilot", 32), ("development", 32), ("matrixpilot", 32), ("paparazzi", 32), ("pythonarraytest", 32), ("storm32", 32), ("ualberta", 32), ("uavionix", 32)]),
  ("UTM_FLIGHT_STATE_UNKNOWN", [("all", 1), ("ardupilotmega", 1), ("asluav", 1), ("avssuas", 1), ("common", 1), ("cubepilot", 1), ("development", 1), ("matrixpilot", 1), ("paparazzi", 1), ("pythonarraytest", 1), ("storm32", 1), ("ualberta", 1), ("uavionix", 1)]),
  ("VIDEO_STREAM_ENCODING_H264", [("all", 1), ("ardupilotmega", 1), ("asluav", 1), ("avssuas", 1), ("common", 1), ("cubepilot", 1), ("development", 1), ("matrixpilot", 1), ("paparazzi", 1), ("pythonarraytest", 1), ("storm32", 1), ("ualberta", 1), ("uavionix", 1)]),
  ("VIDEO_STREAM_ENCODING_H265", [("all", 2), ("ardupilotmega", 2), ("asluav", 2), ("avssuas", 2), ("common", 2), ("cubepilot", 2), ("development", 2), ("matrixpilot", 2), ("paparazzi", 2), ("pythonarraytest", 2), ("storm32", 2), ("ualberta", 2), ("uavionix", 2)]),
  ("VIDEO_STREAM_ENCODING_UNKNOWN", [("all", 0), ("ardupilotmega", 0), ("asluav", 0), ("avssuas", 0), ("common", 0), ("cubepilot", 0), ("development", 0), ("matrixpilot", 0), ("paparazzi", 0), ("pythonarraytest", 0), ("storm32", 0), ("ualberta", 0), ("uavionix", 0)]),
  ("VIDEO_STREAM_STATUS_FLAGS_RUNNING", [("all", 1), ("ardupilotmega", 1), ("asluav", 1), ("avssuas", 1), ("common", 1), ("cubepilot", 1), ("development", 1), ("matrixpilot", 1), ("paparazzi", 1), ("pythonarraytest", 1), ("storm32", 1), ("ualberta", 1), ("uavionix", 1)]),
  ("VIDEO_STREAM_STATUS_FLAGS_THERMAL", [("all", 2), ("ardupilotmega", 2), ("asluav", 2), ("avssuas", 2), ("common", 2), ("cubepilot", 2), ("development", 2), ("matrixpilot", 2), ("paparazzi", 2), ("pythonarraytest", 2), ("storm32", 2), ("ualberta", 2), ("uavionix", 2)]),
  ("VIDEO_STREAM_STATUS_FLAGS_THERMAL_RANGE_ENABLED", [("all", 4), ("ardupilotmega", 4), ("asluav", 4), ("avssuas", 4), ("common", 4), ("cubepilot", 4), ("development", 4), ("matrixpilot", 4), ("paparazzi", 4), ("pythonarraytest", 4), ("storm32", 4), ("ualberta", 4), ("uavionix", 4)]),
  ("VIDEO_STREAM_TYPE_MPEG_TS", [("all", 3), ("ardupilotmega", 3), ("asluav", 3), ("avssuas", 3), ("common", 3), ("cubepilot", 3), ("development", 3), ("matrixpilot", 3), ("paparazzi", 3), ("pythonarraytest", 3), ("storm32", 3), ("ualberta", 3), ("uavionix", 3)]),
  ("VIDEO_STREAM_TYPE_RTPUDP", [("all", 1), ("ardupilotmega", 1), ("asluav", 1), ("avssuas", 1), ("common", 1), ("cubepilot", 1), ("development", 1), ("matrixpilot", 1), ("paparazzi", 1), ("pythonarraytest", 1), ("storm32", 1), ("ualberta", 1), ("uavionix", 1)]),
  ("VIDEO_STREAM_TYPE_RTSP", [("all", 0), ("ardupilotmega", 0), ("asluav", 0), ("avssuas", 0), ("common", 0), ("cubepilot", 0), ("development", 0), ("matrixpilot", 0), ("paparazzi", 0), ("pythonarraytest", 0), ("storm32", 0), ("ualberta", 0), ("uavionix", 0)]),
  ("VIDEO_STREAM_TYPE_TCP_MPEG", [("all", 2), ("ardupilotmega", 2), ("asluav", 2), ("avssuas", 2), ("common", 2), ("cubepilot", 2), ("development", 2), ("matrixpilot", 2), ("paparazzi", 2), ("pythonarraytest", 2), ("storm32", 2), ("ualberta", 2), ("uavionix", 2)]),
  ("VTOL_TRANSITION_HEADING_ANY", [("all", 4), ("ardupilotmega", 4), ("asluav", 4), ("avssuas", 4), ("common", 4), ("cubepilot", 4), ("development", 4), ("matrixpilot", 4), ("paparazzi", 4), ("pythonarraytest", 4), ("storm32", 4), ("ualberta", 4), ("uavionix", 4)]),
  ("VTOL_TRANSITION_HEADING_NEXT_WAYPOINT", [("all", 1), ("ardupilotmega", 1), ("asluav", 1), ("avssuas", 1), ("common", 1), ("cubepilot", 1), ("development", 1), ("matrixpilot", 1), ("paparazzi", 1), ("pythonarraytest", 1), ("storm32", 1), ("ualberta", 1), ("uavionix", 1)]),
  ("VTOL_TRANSITION_HEADING_SPECIFIED", [("all", 3), ("ardupilotmega", 3), ("asluav", 3), ("avssuas", 3), ("common", 3), ("cubepilot", 3), ("development", 3), ("matrixpilot", 3), ("paparazzi", 3), ("pythonarraytest", 3), ("storm32", 3), ("ualberta", 3), ("uavionix", 3)])]
def constGroups_36 : List (String × List (String × Nat)) := [
  ("VTOL_TRANSITION_HEADING_TAKEOFF", [("all", 2), ("ardupilotmega", 2), ("asluav", 2), ("avssuas", 2), ("common", 2), ("cubepilot", 2), ("development", 2), ("matrixpilot", 2), ("paparazzi", 2), ("pythonarraytest", 2), ("storm32", 2), ("ualberta", 2), ("uavionix", 2)]),
  ("VTOL_TRANSITION_HEADING_VEHICLE_DEFAULT", [("all", 0), ("ardupilotmega", 0), ("asluav", 0), ("avssuas", 0), ("common", 0), ("cubepilot", 0), ("development", 0), ("matrixpilot", 0), ("paparazzi", 0), ("pythonarraytest", 0), ("storm32", 0), ("ualberta", 0), ("uavionix", 0)]),
  ("WIFI_CONFIG_AP_MODE_AP", [("all", 1), ("ardupilotmega", 1), ("asluav", 1), ("avssuas", 1), ("common", 1), ("cubepilot", 1), ("development", 1), ("matrixpilot", 1), ("paparazzi", 1), ("pythonarraytest", 1), ("storm32", 1), ("ualberta", 1), ("uavionix", 1)]),
  ("WIFI_CONFIG_AP_MODE_DISABLED", [("all", 3), ("ardupilotmega", 3), ("asluav", 3), ("avssuas", 3), ("common", 3), ("cubepilot", 3), ("development", 3), ("matrixpilot", 3), ("paparazzi", 3), ("pythonarraytest", 3), ("storm32", 3), ("ualberta", 3), ("uavionix", 3)]),
  ("WIFI_CONFIG_AP_MODE_STATION", [("all", 2), ("ardupilotmega", 2), ("asluav", 2), ("avssuas", 2), ("common", 2), ("cubepilot", 2), ("development", 2), ("matrixpilot", 2), ("paparazzi", 2), ("pythonarraytest", 2), ("storm32", 2), ("ualberta", 2), ("uavionix", 2)]),
  ("WIFI_CONFIG_AP_MODE_UNDEFINED", [("all", 0), ("ardupilotmega", 0), ("asluav", 0), ("avssuas", 0), ("common", 0), ("cubepilot", 0), ("development", 0), ("matrixpilot", 0), ("paparazzi", 0), ("pythonarraytest", 0), ("storm32", 0), ("ualberta", 0), ("uavionix", 0)]),
  ("WIFI_CONFIG_AP_RESPONSE_ACCEPTED", [("all", 1), ("ardupilotmega", 1), ("asluav", 1), ("avssuas", 1), ("common", 1), ("cubepilot", 1), ("development", 1), ("matrixpilot", 1), ("paparazzi", 1), ("pythonarraytest", 1), ("storm32", 1), ("ualberta", 1), ("uavionix", 1)]),
  ("WIFI_CONFIG_AP_RESPONSE_MODE_ERROR", [("all", 3), ("ardupilotmega", 3), ("asluav", 3), ("avssuas", 3), ("common", 3), ("cubepilot", 3), ("development", 3), ("matrixpilot", 3), ("paparazzi", 3), ("pythonarraytest", 3), ("storm32", 3), ("ualberta", 3), ("uavionix", 3)]),
  ("WIFI_CONFIG_AP_RESPONSE_PASSWORD_ERROR", [("all", 5), ("ardupilotmega", 5), ("asluav", 5), ("avssuas", 5), ("common", 5), ("cubepilot", 5), ("development", 5), ("matrixpilot", 5), ("paparazzi", 5), ("pythonarraytest", 5), ("storm32", 5), ("ualberta", 5), ("uavionix", 5)]),
  ("WIFI_CONFIG_AP_RESPONSE_REJECTED", [("all", 2), ("ardupilotmega", 2), ("asluav", 2), ("avssuas", 2), ("common", 2), ("cubepilot", 2), ("development", 2), ("matrixpilot", 2), ("paparazzi", 2), ("pythonarraytest", 2), ("storm32", 2), ("ualberta", 2), ("uavionix", 2)]),
  ("WIFI_CONFIG_AP_RESPONSE_SSID_ERROR", [("all", 4), ("ardupilotmega", 4), ("asluav", 4), ("avssuas", 4), ("common", 4), ("cubepilot", 4), ("development", 4), ("matrixpilot", 4), ("paparazzi", 4), ("pythonarraytest", 4), ("storm32", 4), ("ualberta", 4), ("uavionix", 4)]),
  ("WIFI_CONFIG_AP_RESPONSE_UNDEFINED", [("all", 0), ("ardupilotmega", 0), ("asluav", 0), ("avssuas", 0), ("common", 0), ("cubepilot", 0), ("development", 0), ("matrixpilot", 0), ("paparazzi", 0), ("pythonarraytest", 0), ("storm32", 0), ("ualberta", 0), ("uavionix", 0)]),
  ("WINCH_ABANDON_LINE", [("all", 8), ("ardupilotmega", 8), ("asluav", 8), ("avssuas", 8), ("common", 8), ("cubepilot", 8), ("development", 8), ("matrixpilot", 8), ("paparazzi", 8), ("pythonarraytest", 8), ("storm32", 8), ("ualberta", 8), ("uavionix", 8)]),
  ("WINCH_DELIVER", [("all", 4), ("ardupilotmega", 4), ("asluav", 4), ("avssuas", 4), ("common", 4), ("cubepilot", 4), ("development", 4), ("matrixpilot", 4), ("paparazzi", 4), ("pythonarraytest", 4), ("storm32", 4), ("ualberta", 4), ("uavionix", 4)]),
  ("WINCH_HOLD", [("all", 5), ("ardupilotmega", 5), ("asluav", 5), ("avssuas", 5), ("common", 5), ("cubepilot", 5), ("development", 5), ("matrixpilot", 5), ("paparazzi", 5), ("pythonarraytest", 5), ("storm32", 5), ("ualberta", 5), ("uavionix", 5)]),
  ("WINCH_LOAD_LINE", [("all", 7), ("ardupilotmega", 7), ("asluav", 7), ("avssuas", 7), ("common", 7), ("cubepilot", 7), ("development", 7), ("matrixpilot", 7), ("paparazzi", 7), ("pythonarraytest", 7), ("storm32", 7), ("ualberta", 7), ("uavionix", 7)]),
  ("WINCH_LOAD_PAYLOAD", [("all", 9), ("ardupilotmega", 9), ("asluav", 9), ("avssuas", 9), ("common", 9), ("cubepilot", 9), ("development", 9), ("matrixpilot", 9), ("paparazzi", 9), ("pythonarraytest", 9), ("storm32", 9), ("ualberta", 9), ("uavionix", 9)]),
  ("WINCH_LOCK", [("all", 3), ("ardupilotmega", 3), ("asluav", 3), ("avssuas", 3), ("common", 3), ("cubepilot", 3), ("development", 3), ("matrixpilot", 3), ("paparazzi", 3), ("pythonarraytest", 3), ("storm32", 3), ("ualberta", 3), ("uavionix", 3)]),
  ("WINCH_RATE_CONTROL", [("all", 2), ("ardupilotmega", 2), ("asluav", 2), ("avssuas", 2), ("common", 2), ("cubepilot", 2), ("development", 2), ("matrixpilot", 2), ("paparazzi", 2), ("pythonarraytest", 2), ("storm32", 2), ("ualberta", 2), ("uavionix", 2)]),
  ("WINCH_RELATIVE_LENGTH_CONTROL", [("all", 1), ("ardupilotmega", 1), ("asluav", 1), ("avssuas", 1), ("common", 1), ("cubepilot", 1), ("development", 1), ("matrixpilot", 1), ("paparazzi", 1), ("pythonarraytest", 1), ("storm32", 1), ("ualberta", 1), ("uavionix", 1)]),
  ("WINCH_RELAXED", [("all", 0), ("ardupilotmega", 0), ("asluav", 0), ("avssuas", 0), ("common", 0), ("cubepilot", 0), ("development", 0), ("matrixpilot", 0), ("paparazzi", 0), ("pythonarraytest", 0), ("storm32", 0), ("ualberta", 0), ("uavionix", 0)]),
  ("WINCH_RETRACT", [("all", 6), ("ardupilotmega", 6), ("asluav", 6), ("avssuas", 6), ("common", 6), ("cubepilot", 6), ("development", 6), ("matrixpilot", 6), ("paparazzi", 6), ("pythonarraytest", 6), ("storm32", 6), ("ualberta", 6), ("uavionix", 6)]),
  ("ZOOM_TYPE_CONTINUOUS", [("all", 1), ("ardupilotmega", 1), ("asluav", 1), ("avssuas", 1), ("common", 1), ("cubepilot", 1), ("development", 1), ("matrixpilot", 1), ("paparazzi", 1), ("pythonarraytest", 1), ("storm32", 1), ("ualberta", 1), ("uavionix", 1)]),
  ("ZOOM_TYPE_FOCAL_LENGTH", [("all", 3), ("ardupilotmega", 3), ("asluav", 3), ("avssuas", 3), ("common", 3), ("cubepilot", 3), ("development", 3), ("matrixpilot", 3), ("paparazzi", 3), ("pythonarraytest", 3), ("storm32", 3), ("ualberta", 3), ("uavionix", 3)]),
  ("ZOOM_TYPE_HORIZONTAL_FOV", [("all", 4), ("ardupilotmega", 4), ("asluav", 4), ("avssuas", 4), ("common", 4), ("cubepilot", 4), ("development", 4), ("matrixpilot", 4), ("paparazzi", 4), ("pythonarraytest", 4), ("storm32", 4), ("ualberta", 4), ("uavionix", 4)]),
  ("ZOOM_TYPE_RANGE", [("all", 2), ("ardupilotmega", 2), ("asluav", 2), ("avssuas", 2), ("common", 2), ("cubepilot", 2), ("development", 2), ("matrixpilot", 2), ("paparazzi", 2), ("pythonarraytest", 2), ("storm32", 2), ("ualberta", 2), ("uavionix", 2)]),
  ("ZOOM_TYPE_STEP", [("all", 0), ("ardupilotmega", 0), ("asluav", 0), ("avssuas", 0), ("common", 0), ("cubepilot", 0), ("development", 0), ("matrixpilot", 0), ("paparazzi", 0), ("pythonarraytest", 0), ("storm32", 0), ("ualberta", 0), ("uavionix", 0)])]

def allConstGroups : List (List (String × List (String × Nat))) := [constGroups_0, constGroups_1, constGroups_2, constGroups_3, constGroups_4, constGroups_5, constGroups_6, constGroups_7, constGroups_8, constGroups_9, constGroups_10, constGroups_11, constGroups_12, constGroups_13, constGroups_14, constGroups_15, constGroups_16, constGroups_17, constGroups_18, constGroups_19, constGroups_20, constGroups_21, constGroups_22, constGroups_23, constGroups_24, constGroups_25, constGroups_26, constGroups_27, constGroups_28, constGroups_29, constGroups_30, constGroups_31, constGroups_32, constGroups_33, constGroups_34, constGroups_35, constGroups_36]

def nConstNames : Nat := 2187
end Mav.Gen
