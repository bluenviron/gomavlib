-- GENERATED by tools/extract from pkg/dialects/*/enum_*.go — do not edit
import Mav.Model.EnumText
namespace Mav.Gen
open Mav.EnumText

def e_all_MAV_CMD : EnumDef := { name := "all.MAV_CMD", form := Marshal.plain, consts :=
  [("MAV_CMD_NAV_WAYPOINT", 16), ("MAV_CMD_NAV_LOITER_UNLIM", 17), ("MAV_CMD_NAV_LOITER_TURNS", 18), ("MAV_CMD_NAV_LOITER_TIME", 19), ("MAV_CMD_NAV_RETURN_TO_LAUNCH", 20), ("MAV_CMD_NAV_LAND", 21), ("MAV_CMD_NAV_TAKEOFF", 22), ("MAV_CMD_NAV_LAND_LOCAL", 23), ("MAV_CMD_NAV_TAKEOFF_LOCAL", 24), ("MAV_CMD_NAV_FOLLOW", 25), ("MAV_CMD_NAV_CONTINUE_AND_CHANGE_ALT", 30), ("MAV_CMD_NAV_LOITER_TO_ALT", 31), ("MAV_CMD_DO_FOLLOW", 32), ("MAV_CMD_DO_FOLLOW_REPOSITION", 33), ("MAV_CMD_DO_ORBIT", 34), ("MAV_CMD_NAV_ROI", 80), ("MAV_CMD_NAV_PATHPLANNING", 81), ("MAV_CMD_NAV_SPLINE_WAYPOINT", 82), ("MAV_CMD_NAV_VTOL_TAKEOFF", 84), ("MAV_CMD_NAV_VTOL_LAND", 85), ("MAV_CMD_NAV_GUIDED_ENABLE", 92), ("MAV_CMD_NAV_DELAY", 93), ("MAV_CMD_NAV_PAYLOAD_PLACE", 94), ("MAV_CMD_NAV_LAST", 95), ("MAV_CMD_CONDITION_DELAY", 112), ("MAV_CMD_CONDITION_CHANGE_ALT", 113), ("MAV_CMD_CONDITION_DISTANCE", 114), ("MAV_CMD_CONDITION_YAW", 115), ("MAV_CMD_CONDITION_LAST", 159), ("MAV_CMD_DO_SET_MODE", 176), ("MAV_CMD_DO_JUMP", 177), ("MAV_CMD_DO_CHANGE_SPEED", 178), ("MAV_CMD_DO_SET_HOME", 179), ("MAV_CMD_DO_SET_PARAMETER", 180), ("MAV_CMD_DO_SET_RELAY", 181), ("MAV_CMD_DO_REPEAT_RELAY", 182), ("MAV_CMD_DO_SET_SERVO", 183), ("MAV_CMD_DO_REPEAT_SERVO", 184), ("MAV_CMD_DO_FLIGHTTERMINATION", 185), ("MAV_CMD_DO_CHANGE_ALTITUDE", 186)] ++
  [("MAV_CMD_DO_SET_ACTUATOR", 187), ("MAV_CMD_DO_RETURN_PATH_START", 188), ("MAV_CMD_DO_LAND_START", 189), ("MAV_CMD_DO_RALLY_LAND", 190), ("MAV_CMD_DO_GO_AROUND", 191), ("MAV_CMD_DO_REPOSITION", 192), ("MAV_CMD_DO_PAUSE_CONTINUE", 193), ("MAV_CMD_DO_SET_REVERSE", 194), ("MAV_CMD_DO_SET_ROI_LOCATION", 195), ("MAV_CMD_DO_SET_ROI_WPNEXT_OFFSET", 196), ("MAV_CMD_DO_SET_ROI_NONE", 197), ("MAV_CMD_DO_SET_ROI_SYSID", 198), ("MAV_CMD_DO_CONTROL_VIDEO", 200), ("MAV_CMD_DO_SET_ROI", 201), ("MAV_CMD_DO_DIGICAM_CONFIGURE", 202), ("MAV_CMD_DO_DIGICAM_CONTROL", 203), ("MAV_CMD_DO_MOUNT_CONFIGURE", 204), ("MAV_CMD_DO_MOUNT_CONTROL", 205), ("MAV_CMD_DO_SET_CAM_TRIGG_DIST", 206), ("MAV_CMD_DO_FENCE_ENABLE", 207), ("MAV_CMD_DO_PARACHUTE", 208), ("MAV_CMD_DO_MOTOR_TEST", 209), ("MAV_CMD_DO_INVERTED_FLIGHT", 210), ("MAV_CMD_DO_GRIPPER", 211), ("MAV_CMD_DO_AUTOTUNE_ENABLE", 212), ("MAV_CMD_NAV_SET_YAW_SPEED", 213), ("MAV_CMD_DO_SET_CAM_TRIGG_INTERVAL", 214), ("MAV_CMD_DO_MOUNT_CONTROL_QUAT", 220), ("MAV_CMD_DO_GUIDED_MASTER", 221), ("MAV_CMD_DO_GUIDED_LIMITS", 222), ("MAV_CMD_DO_ENGINE_CONTROL", 223), ("MAV_CMD_DO_SET_MISSION_CURRENT", 224), ("MAV_CMD_DO_LAST", 240), ("MAV_CMD_PREFLIGHT_CALIBRATION", 241), ("MAV_CMD_PREFLIGHT_SET_SENSOR_OFFSETS", 242), ("MAV_CMD_PREFLIGHT_UAVCAN", 243), ("MAV_CMD_PREFLIGHT_STORAGE", 245), ("MAV_CMD_PREFLIGHT_REBOOT_SHUTDOWN", 246), ("MAV_CMD_OVERRIDE_GOTO", 252), ("MAV_CMD_OBLIQUE_SURVEY", 260)] ++
  [("MAV_CMD_DO_SET_STANDARD_MODE", 262), ("MAV_CMD_MISSION_START", 300), ("MAV_CMD_ACTUATOR_TEST", 310), ("MAV_CMD_CONFIGURE_ACTUATOR", 311), ("MAV_CMD_COMPONENT_ARM_DISARM", 400), ("MAV_CMD_RUN_PREARM_CHECKS", 401), ("MAV_CMD_ILLUMINATOR_ON_OFF", 405), ("MAV_CMD_DO_ILLUMINATOR_CONFIGURE", 406), ("MAV_CMD_GET_HOME_POSITION", 410), ("MAV_CMD_INJECT_FAILURE", 420), ("MAV_CMD_START_RX_PAIR", 500), ("MAV_CMD_GET_MESSAGE_INTERVAL", 510), ("MAV_CMD_SET_MESSAGE_INTERVAL", 511), ("MAV_CMD_REQUEST_MESSAGE", 512), ("MAV_CMD_REQUEST_PROTOCOL_VERSION", 519), ("MAV_CMD_REQUEST_AUTOPILOT_CAPABILITIES", 520), ("MAV_CMD_REQUEST_CAMERA_INFORMATION", 521), ("MAV_CMD_REQUEST_CAMERA_SETTINGS", 522), ("MAV_CMD_REQUEST_STORAGE_INFORMATION", 525), ("MAV_CMD_STORAGE_FORMAT", 526), ("MAV_CMD_REQUEST_CAMERA_CAPTURE_STATUS", 527), ("MAV_CMD_REQUEST_FLIGHT_INFORMATION", 528), ("MAV_CMD_RESET_CAMERA_SETTINGS", 529), ("MAV_CMD_SET_CAMERA_MODE", 530), ("MAV_CMD_SET_CAMERA_ZOOM", 531), ("MAV_CMD_SET_CAMERA_FOCUS", 532), ("MAV_CMD_SET_STORAGE_USAGE", 533), ("MAV_CMD_SET_CAMERA_SOURCE", 534), ("MAV_CMD_JUMP_TAG", 600), ("MAV_CMD_DO_JUMP_TAG", 601), ("MAV_CMD_DO_GIMBAL_MANAGER_PITCHYAW", 1000), ("MAV_CMD_DO_GIMBAL_MANAGER_CONFIGURE", 1001), ("MAV_CMD_IMAGE_START_CAPTURE", 2000), ("MAV_CMD_IMAGE_STOP_CAPTURE", 2001), ("MAV_CMD_REQUEST_CAMERA_IMAGE_CAPTURE", 2002), ("MAV_CMD_DO_TRIGGER_CONTROL", 2003), ("MAV_CMD_CAMERA_TRACK_POINT", 2004), ("MAV_CMD_CAMERA_TRACK_RECTANGLE", 2005), ("MAV_CMD_CAMERA_STOP_TRACKING", 2010), ("MAV_CMD_VIDEO_START_CAPTURE", 2500)] ++
  [("MAV_CMD_VIDEO_STOP_CAPTURE", 2501), ("MAV_CMD_VIDEO_START_STREAMING", 2502), ("MAV_CMD_VIDEO_STOP_STREAMING", 2503), ("MAV_CMD_REQUEST_VIDEO_STREAM_INFORMATION", 2504), ("MAV_CMD_REQUEST_VIDEO_STREAM_STATUS", 2505), ("MAV_CMD_LOGGING_START", 2510), ("MAV_CMD_LOGGING_STOP", 2511), ("MAV_CMD_AIRFRAME_CONFIGURATION", 2520), ("MAV_CMD_CONTROL_HIGH_LATENCY", 2600), ("MAV_CMD_PANORAMA_CREATE", 2800), ("MAV_CMD_DO_VTOL_TRANSITION", 3000), ("MAV_CMD_ARM_AUTHORIZATION_REQUEST", 3001), ("MAV_CMD_SET_GUIDED_SUBMODE_STANDARD", 4000), ("MAV_CMD_SET_GUIDED_SUBMODE_CIRCLE", 4001), ("MAV_CMD_CONDITION_GATE", 4501), ("MAV_CMD_NAV_FENCE_RETURN_POINT", 5000), ("MAV_CMD_NAV_FENCE_POLYGON_VERTEX_INCLUSION", 5001), ("MAV_CMD_NAV_FENCE_POLYGON_VERTEX_EXCLUSION", 5002), ("MAV_CMD_NAV_FENCE_CIRCLE_INCLUSION", 5003), ("MAV_CMD_NAV_FENCE_CIRCLE_EXCLUSION", 5004), ("MAV_CMD_NAV_RALLY_POINT", 5100), ("MAV_CMD_UAVCAN_GET_NODE_INFO", 5200), ("MAV_CMD_DO_SET_SAFETY_SWITCH_STATE", 5300), ("MAV_CMD_DO_ADSB_OUT_IDENT", 10001), ("MAV_CMD_PAYLOAD_PREPARE_DEPLOY", 30001), ("MAV_CMD_PAYLOAD_CONTROL_DEPLOY", 30002), ("MAV_CMD_FIXED_MAG_CAL_YAW", 42006), ("MAV_CMD_DO_WINCH", 42600), ("MAV_CMD_EXTERNAL_POSITION_ESTIMATE", 43003), ("MAV_CMD_WAYPOINT_USER_1", 31000), ("MAV_CMD_WAYPOINT_USER_2", 31001), ("MAV_CMD_WAYPOINT_USER_3", 31002), ("MAV_CMD_WAYPOINT_USER_4", 31003), ("MAV_CMD_WAYPOINT_USER_5", 31004), ("MAV_CMD_SPATIAL_USER_1", 31005), ("MAV_CMD_SPATIAL_USER_2", 31006), ("MAV_CMD_SPATIAL_USER_3", 31007), ("MAV_CMD_SPATIAL_USER_4", 31008), ("MAV_CMD_SPATIAL_USER_5", 31009), ("MAV_CMD_USER_1", 31010)] ++
  [("MAV_CMD_USER_2", 31011), ("MAV_CMD_USER_3", 31012), ("MAV_CMD_USER_4", 31013), ("MAV_CMD_USER_5", 31014), ("MAV_CMD_CAN_FORWARD", 32000), ("MAV_CMD_LOWEHEISER_SET_STATE", 10151), ("MAV_CMD_DO_SET_RESUME_REPEAT_DIST", 215), ("MAV_CMD_DO_SPRAYER", 216), ("MAV_CMD_DO_SEND_SCRIPT_MESSAGE", 217), ("MAV_CMD_DO_AUX_FUNCTION", 218), ("MAV_CMD_NAV_ALTITUDE_WAIT", 83), ("MAV_CMD_POWER_OFF_INITIATED", 42000), ("MAV_CMD_SOLO_BTN_FLY_CLICK", 42001), ("MAV_CMD_SOLO_BTN_FLY_HOLD", 42002), ("MAV_CMD_SOLO_BTN_PAUSE_CLICK", 42003), ("MAV_CMD_FIXED_MAG_CAL", 42004), ("MAV_CMD_FIXED_MAG_CAL_FIELD", 42005), ("MAV_CMD_SET_EKF_SOURCE_SET", 42007), ("MAV_CMD_DO_START_MAG_CAL", 42424), ("MAV_CMD_DO_ACCEPT_MAG_CAL", 42425), ("MAV_CMD_DO_CANCEL_MAG_CAL", 42426), ("MAV_CMD_ACCELCAL_VEHICLE_POS", 42429), ("MAV_CMD_DO_SEND_BANNER", 42428), ("MAV_CMD_SET_FACTORY_TEST_MODE", 42427), ("MAV_CMD_GIMBAL_RESET", 42501), ("MAV_CMD_GIMBAL_AXIS_CALIBRATION_STATUS", 42502), ("MAV_CMD_GIMBAL_REQUEST_AXIS_CALIBRATION", 42503), ("MAV_CMD_GIMBAL_FULL_RESET", 42505), ("MAV_CMD_FLASH_BOOTLOADER", 42650), ("MAV_CMD_BATTERY_RESET", 42651), ("MAV_CMD_DEBUG_TRAP", 42700), ("MAV_CMD_SCRIPTING", 42701), ("MAV_CMD_NAV_SCRIPT_TIME", 42702), ("MAV_CMD_NAV_ATTITUDE_TIME", 42703), ("MAV_CMD_GUIDED_CHANGE_SPEED", 43000), ("MAV_CMD_GUIDED_CHANGE_ALTITUDE", 43001), ("MAV_CMD_GUIDED_CHANGE_HEADING", 43002), ("MAV_CMD_SET_HAGL", 43005), ("MAV_CMD_RESET_MPPT", 40001), ("MAV_CMD_PAYLOAD_CONTROL", 40002)] ++
  [("MAV_CMD_DO_FIGURE_EIGHT", 35), ("MAV_CMD_DO_UPGRADE", 247), ("MAV_CMD_SET_AT_S_PARAM", 550), ("MAV_CMD_DO_SET_SYS_CMP_ID", 610), ("MAV_CMD_ODID_SET_EMERGENCY", 12900), ("MAV_CMD_EXTERNAL_WIND_ESTIMATE", 43004), ("MAV_CMD_REQUEST_OPERATOR_CONTROL", 32100), ("MAV_CMD_STORM32_DO_GIMBAL_MANAGER_CONTROL_PITCHYAW", 60002), ("MAV_CMD_STORM32_DO_GIMBAL_MANAGER_SETUP", 60010), ("MAV_CMD_QSHOT_DO_CONFIGURE", 60020), ("MAV_CMD_PRS_SET_ARM", 60050), ("MAV_CMD_PRS_GET_ARM", 60051), ("MAV_CMD_PRS_GET_BATTERY", 60052), ("MAV_CMD_PRS_GET_ERR", 60053), ("MAV_CMD_PRS_SET_ARM_ALTI", 60070), ("MAV_CMD_PRS_GET_ARM_ALTI", 60071), ("MAV_CMD_PRS_SHUTDOWN", 60072)] }

def e_ardupilotmega_ACCELCAL_VEHICLE_POS : EnumDef := { name := "ardupilotmega.ACCELCAL_VEHICLE_POS", form := Marshal.plain, consts :=
  [("ACCELCAL_VEHICLE_POS_LEVEL", 1), ("ACCELCAL_VEHICLE_POS_LEFT", 2), ("ACCELCAL_VEHICLE_POS_RIGHT", 3), ("ACCELCAL_VEHICLE_POS_NOSEDOWN", 4), ("ACCELCAL_VEHICLE_POS_NOSEUP", 5), ("ACCELCAL_VEHICLE_POS_BACK", 6), ("ACCELCAL_VEHICLE_POS_SUCCESS", 16777215), ("ACCELCAL_VEHICLE_POS_FAILED", 16777216)] }

def e_ardupilotmega_CAMERA_FEEDBACK_FLAGS : EnumDef := { name := "ardupilotmega.CAMERA_FEEDBACK_FLAGS", form := Marshal.plain, consts :=
  [("CAMERA_FEEDBACK_PHOTO", 0), ("CAMERA_FEEDBACK_VIDEO", 1), ("CAMERA_FEEDBACK_BADEXPOSURE", 2), ("CAMERA_FEEDBACK_CLOSEDLOOP", 3), ("CAMERA_FEEDBACK_OPENLOOP", 4)] }

def e_ardupilotmega_CAMERA_STATUS_TYPES : EnumDef := { name := "ardupilotmega.CAMERA_STATUS_TYPES", form := Marshal.plain, consts :=
  [("CAMERA_STATUS_TYPE_HEARTBEAT", 0), ("CAMERA_STATUS_TYPE_TRIGGER", 1), ("CAMERA_STATUS_TYPE_DISCONNECT", 2), ("CAMERA_STATUS_TYPE_ERROR", 3), ("CAMERA_STATUS_TYPE_LOWBATT", 4), ("CAMERA_STATUS_TYPE_LOWSTORE", 5), ("CAMERA_STATUS_TYPE_LOWSTOREV", 6)] }

def e_ardupilotmega_COPTER_MODE : EnumDef := { name := "ardupilotmega.COPTER_MODE", form := Marshal.plain, consts :=
  [("COPTER_MODE_STABILIZE", 0), ("COPTER_MODE_ACRO", 1), ("COPTER_MODE_ALT_HOLD", 2), ("COPTER_MODE_AUTO", 3), ("COPTER_MODE_GUIDED", 4), ("COPTER_MODE_LOITER", 5), ("COPTER_MODE_RTL", 6), ("COPTER_MODE_CIRCLE", 7), ("COPTER_MODE_LAND", 9), ("COPTER_MODE_DRIFT", 11), ("COPTER_MODE_SPORT", 13), ("COPTER_MODE_FLIP", 14), ("COPTER_MODE_AUTOTUNE", 15), ("COPTER_MODE_POSHOLD", 16), ("COPTER_MODE_BRAKE", 17), ("COPTER_MODE_THROW", 18), ("COPTER_MODE_AVOID_ADSB", 19), ("COPTER_MODE_GUIDED_NOGPS", 20), ("COPTER_MODE_SMART_RTL", 21), ("COPTER_MODE_FLOWHOLD", 22), ("COPTER_MODE_FOLLOW", 23), ("COPTER_MODE_ZIGZAG", 24), ("COPTER_MODE_SYSTEMID", 25), ("COPTER_MODE_AUTOROTATE", 26), ("COPTER_MODE_AUTO_RTL", 27)] }

def e_ardupilotmega_DEEPSTALL_STAGE : EnumDef := { name := "ardupilotmega.DEEPSTALL_STAGE", form := Marshal.plain, consts :=
  [("DEEPSTALL_STAGE_FLY_TO_LANDING", 0), ("DEEPSTALL_STAGE_ESTIMATE_WIND", 1), ("DEEPSTALL_STAGE_WAIT_FOR_BREAKOUT", 2), ("DEEPSTALL_STAGE_FLY_TO_ARC", 3), ("DEEPSTALL_STAGE_ARC", 4), ("DEEPSTALL_STAGE_APPROACH", 5), ("DEEPSTALL_STAGE_LAND", 6)] }

def e_ardupilotmega_DEVICE_OP_BUSTYPE : EnumDef := { name := "ardupilotmega.DEVICE_OP_BUSTYPE", form := Marshal.plain, consts :=
  [("DEVICE_OP_BUSTYPE_I2C", 0), ("DEVICE_OP_BUSTYPE_SPI", 1)] }

def e_ardupilotmega_EKF_STATUS_FLAGS : EnumDef := { name := "ardupilotmega.EKF_STATUS_FLAGS", form := Marshal.valueList [1, 2, 4, 8, 16, 32, 64, 128, 256, 512, 32768, 1024], consts :=
  [("EKF_ATTITUDE", 1), ("EKF_VELOCITY_HORIZ", 2), ("EKF_VELOCITY_VERT", 4), ("EKF_POS_HORIZ_REL", 8), ("EKF_POS_HORIZ_ABS", 16), ("EKF_POS_VERT_ABS", 32), ("EKF_POS_VERT_AGL", 64), ("EKF_CONST_POS_MODE", 128), ("EKF_PRED_POS_HORIZ_REL", 256), ("EKF_PRED_POS_HORIZ_ABS", 512), ("EKF_GPS_GLITCHING", 32768), ("EKF_UNINITIALIZED", 1024)] }

def e_ardupilotmega_GIMBAL_AXIS : EnumDef := { name := "ardupilotmega.GIMBAL_AXIS", form := Marshal.plain, consts :=
  [("GIMBAL_AXIS_YAW", 0), ("GIMBAL_AXIS_PITCH", 1), ("GIMBAL_AXIS_ROLL", 2)] }

def e_ardupilotmega_GIMBAL_AXIS_CALIBRATION_REQUIRED : EnumDef := { name := "ardupilotmega.GIMBAL_AXIS_CALIBRATION_REQUIRED", form := Marshal.plain, consts :=
  [("GIMBAL_AXIS_CALIBRATION_REQUIRED_UNKNOWN", 0), ("GIMBAL_AXIS_CALIBRATION_REQUIRED_TRUE", 1), ("GIMBAL_AXIS_CALIBRATION_REQUIRED_FALSE", 2)] }

def e_ardupilotmega_GIMBAL_AXIS_CALIBRATION_STATUS : EnumDef := { name := "ardupilotmega.GIMBAL_AXIS_CALIBRATION_STATUS", form := Marshal.plain, consts :=
  [("GIMBAL_AXIS_CALIBRATION_STATUS_IN_PROGRESS", 0), ("GIMBAL_AXIS_CALIBRATION_STATUS_SUCCEEDED", 1), ("GIMBAL_AXIS_CALIBRATION_STATUS_FAILED", 2)] }

def e_ardupilotmega_GOPRO_BURST_RATE : EnumDef := { name := "ardupilotmega.GOPRO_BURST_RATE", form := Marshal.plain, consts :=
  [("GOPRO_BURST_RATE_3_IN_1_SECOND", 0), ("GOPRO_BURST_RATE_5_IN_1_SECOND", 1), ("GOPRO_BURST_RATE_10_IN_1_SECOND", 2), ("GOPRO_BURST_RATE_10_IN_2_SECOND", 3), ("GOPRO_BURST_RATE_10_IN_3_SECOND", 4), ("GOPRO_BURST_RATE_30_IN_1_SECOND", 5), ("GOPRO_BURST_RATE_30_IN_2_SECOND", 6), ("GOPRO_BURST_RATE_30_IN_3_SECOND", 7), ("GOPRO_BURST_RATE_30_IN_6_SECOND", 8)] }

def e_ardupilotmega_GOPRO_CAPTURE_MODE : EnumDef := { name := "ardupilotmega.GOPRO_CAPTURE_MODE", form := Marshal.plain, consts :=
  [("GOPRO_CAPTURE_MODE_VIDEO", 0), ("GOPRO_CAPTURE_MODE_PHOTO", 1), ("GOPRO_CAPTURE_MODE_BURST", 2), ("GOPRO_CAPTURE_MODE_TIME_LAPSE", 3), ("GOPRO_CAPTURE_MODE_MULTI_SHOT", 4), ("GOPRO_CAPTURE_MODE_PLAYBACK", 5), ("GOPRO_CAPTURE_MODE_SETUP", 6), ("GOPRO_CAPTURE_MODE_UNKNOWN", 255)] }

def e_ardupilotmega_GOPRO_CHARGING : EnumDef := { name := "ardupilotmega.GOPRO_CHARGING", form := Marshal.plain, consts :=
  [("GOPRO_CHARGING_DISABLED", 0), ("GOPRO_CHARGING_ENABLED", 1)] }

def e_ardupilotmega_GOPRO_COMMAND : EnumDef := { name := "ardupilotmega.GOPRO_COMMAND", form := Marshal.plain, consts :=
  [("GOPRO_COMMAND_POWER", 0), ("GOPRO_COMMAND_CAPTURE_MODE", 1), ("GOPRO_COMMAND_SHUTTER", 2), ("GOPRO_COMMAND_BATTERY", 3), ("GOPRO_COMMAND_MODEL", 4), ("GOPRO_COMMAND_VIDEO_SETTINGS", 5), ("GOPRO_COMMAND_LOW_LIGHT", 6), ("GOPRO_COMMAND_PHOTO_RESOLUTION", 7), ("GOPRO_COMMAND_PHOTO_BURST_RATE", 8), ("GOPRO_COMMAND_PROTUNE", 9), ("GOPRO_COMMAND_PROTUNE_WHITE_BALANCE", 10), ("GOPRO_COMMAND_PROTUNE_COLOUR", 11), ("GOPRO_COMMAND_PROTUNE_GAIN", 12), ("GOPRO_COMMAND_PROTUNE_SHARPNESS", 13), ("GOPRO_COMMAND_PROTUNE_EXPOSURE", 14), ("GOPRO_COMMAND_TIME", 15), ("GOPRO_COMMAND_CHARGING", 16)] }

def e_ardupilotmega_GOPRO_FIELD_OF_VIEW : EnumDef := { name := "ardupilotmega.GOPRO_FIELD_OF_VIEW", form := Marshal.plain, consts :=
  [("GOPRO_FIELD_OF_VIEW_WIDE", 0), ("GOPRO_FIELD_OF_VIEW_MEDIUM", 1), ("GOPRO_FIELD_OF_VIEW_NARROW", 2)] }

def e_ardupilotmega_GOPRO_FRAME_RATE : EnumDef := { name := "ardupilotmega.GOPRO_FRAME_RATE", form := Marshal.plain, consts :=
  [("GOPRO_FRAME_RATE_12", 0), ("GOPRO_FRAME_RATE_15", 1), ("GOPRO_FRAME_RATE_24", 2), ("GOPRO_FRAME_RATE_25", 3), ("GOPRO_FRAME_RATE_30", 4), ("GOPRO_FRAME_RATE_48", 5), ("GOPRO_FRAME_RATE_50", 6), ("GOPRO_FRAME_RATE_60", 7), ("GOPRO_FRAME_RATE_80", 8), ("GOPRO_FRAME_RATE_90", 9), ("GOPRO_FRAME_RATE_100", 10), ("GOPRO_FRAME_RATE_120", 11), ("GOPRO_FRAME_RATE_240", 12), ("GOPRO_FRAME_RATE_12_5", 13)] }

def e_ardupilotmega_GOPRO_HEARTBEAT_FLAGS : EnumDef := { name := "ardupilotmega.GOPRO_HEARTBEAT_FLAGS", form := Marshal.valueList [1], consts :=
  [("GOPRO_FLAG_RECORDING", 1)] }

def e_ardupilotmega_GOPRO_HEARTBEAT_STATUS : EnumDef := { name := "ardupilotmega.GOPRO_HEARTBEAT_STATUS", form := Marshal.plain, consts :=
  [("GOPRO_HEARTBEAT_STATUS_DISCONNECTED", 0), ("GOPRO_HEARTBEAT_STATUS_INCOMPATIBLE", 1), ("GOPRO_HEARTBEAT_STATUS_CONNECTED", 2), ("GOPRO_HEARTBEAT_STATUS_ERROR", 3)] }

def e_ardupilotmega_GOPRO_MODEL : EnumDef := { name := "ardupilotmega.GOPRO_MODEL", form := Marshal.plain, consts :=
  [("GOPRO_MODEL_UNKNOWN", 0), ("GOPRO_MODEL_HERO_3_PLUS_SILVER", 1), ("GOPRO_MODEL_HERO_3_PLUS_BLACK", 2), ("GOPRO_MODEL_HERO_4_SILVER", 3), ("GOPRO_MODEL_HERO_4_BLACK", 4)] }

def e_ardupilotmega_GOPRO_PHOTO_RESOLUTION : EnumDef := { name := "ardupilotmega.GOPRO_PHOTO_RESOLUTION", form := Marshal.plain, consts :=
  [("GOPRO_PHOTO_RESOLUTION_5MP_MEDIUM", 0), ("GOPRO_PHOTO_RESOLUTION_7MP_MEDIUM", 1), ("GOPRO_PHOTO_RESOLUTION_7MP_WIDE", 2), ("GOPRO_PHOTO_RESOLUTION_10MP_WIDE", 3), ("GOPRO_PHOTO_RESOLUTION_12MP_WIDE", 4)] }

def e_ardupilotmega_GOPRO_PROTUNE_COLOUR : EnumDef := { name := "ardupilotmega.GOPRO_PROTUNE_COLOUR", form := Marshal.plain, consts :=
  [("GOPRO_PROTUNE_COLOUR_STANDARD", 0), ("GOPRO_PROTUNE_COLOUR_NEUTRAL", 1)] }

def e_ardupilotmega_GOPRO_PROTUNE_EXPOSURE : EnumDef := { name := "ardupilotmega.GOPRO_PROTUNE_EXPOSURE", form := Marshal.plain, consts :=
  [("GOPRO_PROTUNE_EXPOSURE_NEG_5_0", 0), ("GOPRO_PROTUNE_EXPOSURE_NEG_4_5", 1), ("GOPRO_PROTUNE_EXPOSURE_NEG_4_0", 2), ("GOPRO_PROTUNE_EXPOSURE_NEG_3_5", 3), ("GOPRO_PROTUNE_EXPOSURE_NEG_3_0", 4), ("GOPRO_PROTUNE_EXPOSURE_NEG_2_5", 5), ("GOPRO_PROTUNE_EXPOSURE_NEG_2_0", 6), ("GOPRO_PROTUNE_EXPOSURE_NEG_1_5", 7), ("GOPRO_PROTUNE_EXPOSURE_NEG_1_0", 8), ("GOPRO_PROTUNE_EXPOSURE_NEG_0_5", 9), ("GOPRO_PROTUNE_EXPOSURE_ZERO", 10), ("GOPRO_PROTUNE_EXPOSURE_POS_0_5", 11), ("GOPRO_PROTUNE_EXPOSURE_POS_1_0", 12), ("GOPRO_PROTUNE_EXPOSURE_POS_1_5", 13), ("GOPRO_PROTUNE_EXPOSURE_POS_2_0", 14), ("GOPRO_PROTUNE_EXPOSURE_POS_2_5", 15), ("GOPRO_PROTUNE_EXPOSURE_POS_3_0", 16), ("GOPRO_PROTUNE_EXPOSURE_POS_3_5", 17), ("GOPRO_PROTUNE_EXPOSURE_POS_4_0", 18), ("GOPRO_PROTUNE_EXPOSURE_POS_4_5", 19), ("GOPRO_PROTUNE_EXPOSURE_POS_5_0", 20)] }

def e_ardupilotmega_GOPRO_PROTUNE_GAIN : EnumDef := { name := "ardupilotmega.GOPRO_PROTUNE_GAIN", form := Marshal.plain, consts :=
  [("GOPRO_PROTUNE_GAIN_400", 0), ("GOPRO_PROTUNE_GAIN_800", 1), ("GOPRO_PROTUNE_GAIN_1600", 2), ("GOPRO_PROTUNE_GAIN_3200", 3), ("GOPRO_PROTUNE_GAIN_6400", 4)] }

def e_ardupilotmega_GOPRO_PROTUNE_SHARPNESS : EnumDef := { name := "ardupilotmega.GOPRO_PROTUNE_SHARPNESS", form := Marshal.plain, consts :=
  [("GOPRO_PROTUNE_SHARPNESS_LOW", 0), ("GOPRO_PROTUNE_SHARPNESS_MEDIUM", 1), ("GOPRO_PROTUNE_SHARPNESS_HIGH", 2)] }

def enums_0 : List EnumDef := [e_all_MAV_CMD, e_ardupilotmega_ACCELCAL_VEHICLE_POS, e_ardupilotmega_CAMERA_FEEDBACK_FLAGS, e_ardupilotmega_CAMERA_STATUS_TYPES, e_ardupilotmega_COPTER_MODE, e_ardupilotmega_DEEPSTALL_STAGE, e_ardupilotmega_DEVICE_OP_BUSTYPE, e_ardupilotmega_EKF_STATUS_FLAGS, e_ardupilotmega_GIMBAL_AXIS, e_ardupilotmega_GIMBAL_AXIS_CALIBRATION_REQUIRED, e_ardupilotmega_GIMBAL_AXIS_CALIBRATION_STATUS, e_ardupilotmega_GOPRO_BURST_RATE, e_ardupilotmega_GOPRO_CAPTURE_MODE, e_ardupilotmega_GOPRO_CHARGING, e_ardupilotmega_GOPRO_COMMAND, e_ardupilotmega_GOPRO_FIELD_OF_VIEW, e_ardupilotmega_GOPRO_FRAME_RATE, e_ardupilotmega_GOPRO_HEARTBEAT_FLAGS, e_ardupilotmega_GOPRO_HEARTBEAT_STATUS, e_ardupilotmega_GOPRO_MODEL, e_ardupilotmega_GOPRO_PHOTO_RESOLUTION, e_ardupilotmega_GOPRO_PROTUNE_COLOUR, e_ardupilotmega_GOPRO_PROTUNE_EXPOSURE, e_ardupilotmega_GOPRO_PROTUNE_GAIN, e_ardupilotmega_GOPRO_PROTUNE_SHARPNESS]

end Mav.Gen
