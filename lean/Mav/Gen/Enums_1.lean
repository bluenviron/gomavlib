-- GENERATED by tools/extract from pkg/dialects/*/enum_*.go — do not edit
import Mav.Model.EnumText
namespace Mav.Gen
open Mav.EnumText

def e_ardupilotmega_GOPRO_PROTUNE_WHITE_BALANCE : EnumDef := { name := "ardupilotmega.GOPRO_PROTUNE_WHITE_BALANCE", form := Marshal.plain, consts :=
  [("GOPRO_PROTUNE_WHITE_BALANCE_AUTO", 0), ("GOPRO_PROTUNE_WHITE_BALANCE_3000K", 1), ("GOPRO_PROTUNE_WHITE_BALANCE_5500K", 2), ("GOPRO_PROTUNE_WHITE_BALANCE_6500K", 3), ("GOPRO_PROTUNE_WHITE_BALANCE_RAW", 4)] }

def e_ardupilotmega_GOPRO_REQUEST_STATUS : EnumDef := { name := "ardupilotmega.GOPRO_REQUEST_STATUS", form := Marshal.plain, consts :=
  [("GOPRO_REQUEST_SUCCESS", 0), ("GOPRO_REQUEST_FAILED", 1)] }

def e_ardupilotmega_GOPRO_RESOLUTION : EnumDef := { name := "ardupilotmega.GOPRO_RESOLUTION", form := Marshal.plain, consts :=
  [("GOPRO_RESOLUTION_480p", 0), ("GOPRO_RESOLUTION_720p", 1), ("GOPRO_RESOLUTION_960p", 2), ("GOPRO_RESOLUTION_1080p", 3), ("GOPRO_RESOLUTION_1440p", 4), ("GOPRO_RESOLUTION_2_7k_17_9", 5), ("GOPRO_RESOLUTION_2_7k_16_9", 6), ("GOPRO_RESOLUTION_2_7k_4_3", 7), ("GOPRO_RESOLUTION_4k_16_9", 8), ("GOPRO_RESOLUTION_4k_17_9", 9), ("GOPRO_RESOLUTION_720p_SUPERVIEW", 10), ("GOPRO_RESOLUTION_1080p_SUPERVIEW", 11), ("GOPRO_RESOLUTION_2_7k_SUPERVIEW", 12), ("GOPRO_RESOLUTION_4k_SUPERVIEW", 13)] }

def e_ardupilotmega_GOPRO_VIDEO_SETTINGS_FLAGS : EnumDef := { name := "ardupilotmega.GOPRO_VIDEO_SETTINGS_FLAGS", form := Marshal.valueList [1], consts :=
  [("GOPRO_VIDEO_SETTINGS_TV_MODE", 1)] }

def e_ardupilotmega_HEADING_TYPE : EnumDef := { name := "ardupilotmega.HEADING_TYPE", form := Marshal.plain, consts :=
  [("HEADING_TYPE_COURSE_OVER_GROUND", 0), ("HEADING_TYPE_HEADING", 1), ("HEADING_TYPE_DEFAULT", 2)] }

def e_ardupilotmega_LED_CONTROL_PATTERN : EnumDef := { name := "ardupilotmega.LED_CONTROL_PATTERN", form := Marshal.plain, consts :=
  [("LED_CONTROL_PATTERN_OFF", 0), ("LED_CONTROL_PATTERN_FIRMWAREUPDATE", 1), ("LED_CONTROL_PATTERN_CUSTOM", 255)] }

def e_ardupilotmega_LIMITS_STATE : EnumDef := { name := "ardupilotmega.LIMITS_STATE", form := Marshal.plain, consts :=
  [("LIMITS_INIT", 0), ("LIMITS_DISABLED", 1), ("LIMITS_ENABLED", 2), ("LIMITS_TRIGGERED", 3), ("LIMITS_RECOVERING", 4), ("LIMITS_RECOVERED", 5)] }

def e_ardupilotmega_LIMIT_MODULE : EnumDef := { name := "ardupilotmega.LIMIT_MODULE", form := Marshal.valueList [1, 2, 4], consts :=
  [("LIMIT_GPSLOCK", 1), ("LIMIT_GEOFENCE", 2), ("LIMIT_ALTITUDE", 4)] }

def e_ardupilotmega_MAV_CMD : EnumDef := { name := "ardupilotmega.MAV_CMD", form := Marshal.plain, consts :=
  [("MAV_CMD_NAV_WAYPOINT", 16), ("MAV_CMD_NAV_LOITER_UNLIM", 17), ("MAV_CMD_NAV_LOITER_TURNS", 18), ("MAV_CMD_NAV_LOITER_TIME", 19), ("MAV_CMD_NAV_RETURN_TO_LAUNCH", 20), ("MAV_CMD_NAV_LAND", 21), ("MAV_CMD_NAV_TAKEOFF", 22), ("MAV_CMD_NAV_LAND_LOCAL", 23), ("MAV_CMD_NAV_TAKEOFF_LOCAL", 24), ("MAV_CMD_NAV_FOLLOW", 25), ("MAV_CMD_NAV_CONTINUE_AND_CHANGE_ALT", 30), ("MAV_CMD_NAV_LOITER_TO_ALT", 31), ("MAV_CMD_DO_FOLLOW", 32), ("MAV_CMD_DO_FOLLOW_REPOSITION", 33), ("MAV_CMD_DO_ORBIT", 34), ("MAV_CMD_NAV_ROI", 80), ("MAV_CMD_NAV_PATHPLANNING", 81), ("MAV_CMD_NAV_SPLINE_WAYPOINT", 82), ("MAV_CMD_NAV_VTOL_TAKEOFF", 84), ("MAV_CMD_NAV_VTOL_LAND", 85), ("MAV_CMD_NAV_GUIDED_ENABLE", 92), ("MAV_CMD_NAV_DELAY", 93), ("MAV_CMD_NAV_PAYLOAD_PLACE", 94), ("MAV_CMD_NAV_LAST", 95), ("MAV_CMD_CONDITION_DELAY", 112), ("MAV_CMD_CONDITION_CHANGE_ALT", 113), ("MAV_CMD_CONDITION_DISTANCE", 114), ("MAV_CMD_CONDITION_YAW", 115), ("MAV_CMD_CONDITION_LAST", 159), ("MAV_CMD_DO_SET_MODE", 176), ("MAV_CMD_DO_JUMP", 177), ("MAV_CMD_DO_CHANGE_SPEED", 178), ("MAV_CMD_DO_SET_HOME", 179), ("MAV_CMD_DO_SET_PARAMETER", 180), ("MAV_CMD_DO_SET_RELAY", 181), ("MAV_CMD_DO_REPEAT_RELAY", 182), ("MAV_CMD_DO_SET_SERVO", 183), ("MAV_CMD_DO_REPEAT_SERVO", 184), ("MAV_CMD_DO_FLIGHTTERMINATION", 185), ("MAV_CMD_DO_CHANGE_ALTITUDE", 186)] ++
  [("MAV_CMD_DO_SET_ACTUATOR", 187), ("MAV_CMD_DO_RETURN_PATH_START", 188), ("MAV_CMD_DO_LAND_START", 189), ("MAV_CMD_DO_RALLY_LAND", 190), ("MAV_CMD_DO_GO_AROUND", 191), ("MAV_CMD_DO_REPOSITION", 192), ("MAV_CMD_DO_PAUSE_CONTINUE", 193), ("MAV_CMD_DO_SET_REVERSE", 194), ("MAV_CMD_DO_SET_ROI_LOCATION", 195), ("MAV_CMD_DO_SET_ROI_WPNEXT_OFFSET", 196), ("MAV_CMD_DO_SET_ROI_NONE", 197), ("MAV_CMD_DO_SET_ROI_SYSID", 198), ("MAV_CMD_DO_CONTROL_VIDEO", 200), ("MAV_CMD_DO_SET_ROI", 201), ("MAV_CMD_DO_DIGICAM_CONFIGURE", 202), ("MAV_CMD_DO_DIGICAM_CONTROL", 203), ("MAV_CMD_DO_MOUNT_CONFIGURE", 204), ("MAV_CMD_DO_MOUNT_CONTROL", 205), ("MAV_CMD_DO_SET_CAM_TRIGG_DIST", 206), ("MAV_CMD_DO_FENCE_ENABLE", 207), ("MAV_CMD_DO_PARACHUTE", 208), ("MAV_CMD_DO_MOTOR_TEST", 209), ("MAV_CMD_DO_INVERTED_FLIGHT", 210), ("MAV_CMD_DO_GRIPPER", 211), ("MAV_CMD_DO_AUTOTUNE_ENABLE", 212), ("MAV_CMD_NAV_SET_YAW_SPEED", 213), ("MAV_CMD_DO_SET_CAM_TRIGG_INTERVAL", 214), ("MAV_CMD_DO_MOUNT_CONTROL_QUAT", 220), ("MAV_CMD_DO_GUIDED_MASTER", 221), ("MAV_CMD_DO_GUIDED_LIMITS", 222), ("MAV_CMD_DO_ENGINE_CONTROL", 223), ("MAV_CMD_DO_SET_MISSION_CURRENT", 224), ("MAV_CMD_DO_LAST", 240), ("MAV_CMD_PREFLIGHT_CALIBRATION", 241), ("MAV_CMD_PREFLIGHT_SET_SENSOR_OFFSETS", 242), ("MAV_CMD_PREFLIGHT_UAVCAN", 243), ("MAV_CMD_PREFLIGHT_STORAGE", 245), ("MAV_CMD_PREFLIGHT_REBOOT_SHUTDOWN", 246), ("MAV_CMD_OVERRIDE_GOTO", 252), ("MAV_CMD_OBLIQUE_SURVEY", 260)] ++
  [("MAV_CMD_DO_SET_STANDARD_MODE", 262), ("MAV_CMD_MISSION_START", 300), ("MAV_CMD_ACTUATOR_TEST", 310), ("MAV_CMD_CONFIGURE_ACTUATOR", 311), ("MAV_CMD_COMPONENT_ARM_DISARM", 400), ("MAV_CMD_RUN_PREARM_CHECKS", 401), ("MAV_CMD_ILLUMINATOR_ON_OFF", 405), ("MAV_CMD_DO_ILLUMINATOR_CONFIGURE", 406), ("MAV_CMD_GET_HOME_POSITION", 410), ("MAV_CMD_INJECT_FAILURE", 420), ("MAV_CMD_START_RX_PAIR", 500), ("MAV_CMD_GET_MESSAGE_INTERVAL", 510), ("MAV_CMD_SET_MESSAGE_INTERVAL", 511), ("MAV_CMD_REQUEST_MESSAGE", 512), ("MAV_CMD_REQUEST_PROTOCOL_VERSION", 519), ("MAV_CMD_REQUEST_AUTOPILOT_CAPABILITIES", 520), ("MAV_CMD_REQUEST_CAMERA_INFORMATION", 521), ("MAV_CMD_REQUEST_CAMERA_SETTINGS", 522), ("MAV_CMD_REQUEST_STORAGE_INFORMATION", 525), ("MAV_CMD_STORAGE_FORMAT", 526), ("MAV_CMD_REQUEST_CAMERA_CAPTURE_STATUS", 527), ("MAV_CMD_REQUEST_FLIGHT_INFORMATION", 528), ("MAV_CMD_RESET_CAMERA_SETTINGS", 529), ("MAV_CMD_SET_CAMERA_MODE", 530), ("MAV_CMD_SET_CAMERA_ZOOM", 531), ("MAV_CMD_SET_CAMERA_FOCUS", 532), ("MAV_CMD_SET_STORAGE_USAGE", 533), ("MAV_CMD_SET_CAMERA_SOURCE", 534), ("MAV_CMD_JUMP_TAG", 600), ("MAV_CMD_DO_JUMP_TAG", 601), ("MAV_CMD_DO_GIMBAL_MANAGER_PITCHYAW", 1000), ("MAV_CMD_DO_GIMBAL_MANAGER_CONFIGURE", 1001), ("MAV_CMD_IMAGE_START_CAPTURE", 2000), ("MAV_CMD_IMAGE_STOP_CAPTURE", 2001), ("MAV_CMD_REQUEST_CAMERA_IMAGE_CAPTURE", 2002), ("MAV_CMD_DO_TRIGGER_CONTROL", 2003), ("MAV_CMD_CAMERA_TRACK_POINT", 2004), ("MAV_CMD_CAMERA_TRACK_RECTANGLE", 2005), ("MAV_CMD_CAMERA_STOP_TRACKING", 2010), ("MAV_CMD_VIDEO_START_CAPTURE", 2500)] ++
  [("MAV_CMD_VIDEO_STOP_CAPTURE", 2501), ("MAV_CMD_VIDEO_START_STREAMING", 2502), ("MAV_CMD_VIDEO_STOP_STREAMING", 2503), ("MAV_CMD_REQUEST_VIDEO_STREAM_INFORMATION", 2504), ("MAV_CMD_REQUEST_VIDEO_STREAM_STATUS", 2505), ("MAV_CMD_LOGGING_START", 2510), ("MAV_CMD_LOGGING_STOP", 2511), ("MAV_CMD_AIRFRAME_CONFIGURATION", 2520), ("MAV_CMD_CONTROL_HIGH_LATENCY", 2600), ("MAV_CMD_PANORAMA_CREATE", 2800), ("MAV_CMD_DO_VTOL_TRANSITION", 3000), ("MAV_CMD_ARM_AUTHORIZATION_REQUEST", 3001), ("MAV_CMD_SET_GUIDED_SUBMODE_STANDARD", 4000), ("MAV_CMD_SET_GUIDED_SUBMODE_CIRCLE", 4001), ("MAV_CMD_CONDITION_GATE", 4501), ("MAV_CMD_NAV_FENCE_RETURN_POINT", 5000), ("MAV_CMD_NAV_FENCE_POLYGON_VERTEX_INCLUSION", 5001), ("MAV_CMD_NAV_FENCE_POLYGON_VERTEX_EXCLUSION", 5002), ("MAV_CMD_NAV_FENCE_CIRCLE_INCLUSION", 5003), ("MAV_CMD_NAV_FENCE_CIRCLE_EXCLUSION", 5004), ("MAV_CMD_NAV_RALLY_POINT", 5100), ("MAV_CMD_UAVCAN_GET_NODE_INFO", 5200), ("MAV_CMD_DO_SET_SAFETY_SWITCH_STATE", 5300), ("MAV_CMD_DO_ADSB_OUT_IDENT", 10001), ("MAV_CMD_PAYLOAD_PREPARE_DEPLOY", 30001), ("MAV_CMD_PAYLOAD_CONTROL_DEPLOY", 30002), ("MAV_CMD_FIXED_MAG_CAL_YAW", 42006), ("MAV_CMD_DO_WINCH", 42600), ("MAV_CMD_EXTERNAL_POSITION_ESTIMATE", 43003), ("MAV_CMD_WAYPOINT_USER_1", 31000), ("MAV_CMD_WAYPOINT_USER_2", 31001), ("MAV_CMD_WAYPOINT_USER_3", 31002), ("MAV_CMD_WAYPOINT_USER_4", 31003), ("MAV_CMD_WAYPOINT_USER_5", 31004), ("MAV_CMD_SPATIAL_USER_1", 31005), ("MAV_CMD_SPATIAL_USER_2", 31006), ("MAV_CMD_SPATIAL_USER_3", 31007), ("MAV_CMD_SPATIAL_USER_4", 31008), ("MAV_CMD_SPATIAL_USER_5", 31009), ("MAV_CMD_USER_1", 31010)] ++
  [("MAV_CMD_USER_2", 31011), ("MAV_CMD_USER_3", 31012), ("MAV_CMD_USER_4", 31013), ("MAV_CMD_USER_5", 31014), ("MAV_CMD_CAN_FORWARD", 32000), ("MAV_CMD_LOWEHEISER_SET_STATE", 10151), ("MAV_CMD_DO_SET_RESUME_REPEAT_DIST", 215), ("MAV_CMD_DO_SPRAYER", 216), ("MAV_CMD_DO_SEND_SCRIPT_MESSAGE", 217), ("MAV_CMD_DO_AUX_FUNCTION", 218), ("MAV_CMD_NAV_ALTITUDE_WAIT", 83), ("MAV_CMD_POWER_OFF_INITIATED", 42000), ("MAV_CMD_SOLO_BTN_FLY_CLICK", 42001), ("MAV_CMD_SOLO_BTN_FLY_HOLD", 42002), ("MAV_CMD_SOLO_BTN_PAUSE_CLICK", 42003), ("MAV_CMD_FIXED_MAG_CAL", 42004), ("MAV_CMD_FIXED_MAG_CAL_FIELD", 42005), ("MAV_CMD_SET_EKF_SOURCE_SET", 42007), ("MAV_CMD_DO_START_MAG_CAL", 42424), ("MAV_CMD_DO_ACCEPT_MAG_CAL", 42425), ("MAV_CMD_DO_CANCEL_MAG_CAL", 42426), ("MAV_CMD_ACCELCAL_VEHICLE_POS", 42429), ("MAV_CMD_DO_SEND_BANNER", 42428), ("MAV_CMD_SET_FACTORY_TEST_MODE", 42427), ("MAV_CMD_GIMBAL_RESET", 42501), ("MAV_CMD_GIMBAL_AXIS_CALIBRATION_STATUS", 42502), ("MAV_CMD_GIMBAL_REQUEST_AXIS_CALIBRATION", 42503), ("MAV_CMD_GIMBAL_FULL_RESET", 42505), ("MAV_CMD_FLASH_BOOTLOADER", 42650), ("MAV_CMD_BATTERY_RESET", 42651), ("MAV_CMD_DEBUG_TRAP", 42700), ("MAV_CMD_SCRIPTING", 42701), ("MAV_CMD_NAV_SCRIPT_TIME", 42702), ("MAV_CMD_NAV_ATTITUDE_TIME", 42703), ("MAV_CMD_GUIDED_CHANGE_SPEED", 43000), ("MAV_CMD_GUIDED_CHANGE_ALTITUDE", 43001), ("MAV_CMD_GUIDED_CHANGE_HEADING", 43002), ("MAV_CMD_SET_HAGL", 43005)] }

def e_ardupilotmega_MAV_CMD_DO_AUX_FUNCTION_SWITCH_LEVEL : EnumDef := { name := "ardupilotmega.MAV_CMD_DO_AUX_FUNCTION_SWITCH_LEVEL", form := Marshal.plain, consts :=
  [("MAV_CMD_DO_AUX_FUNCTION_SWITCH_LEVEL_LOW", 0), ("MAV_CMD_DO_AUX_FUNCTION_SWITCH_LEVEL_MIDDLE", 1), ("MAV_CMD_DO_AUX_FUNCTION_SWITCH_LEVEL_HIGH", 2)] }

def e_ardupilotmega_MAV_MODE_GIMBAL : EnumDef := { name := "ardupilotmega.MAV_MODE_GIMBAL", form := Marshal.plain, consts :=
  [("MAV_MODE_GIMBAL_UNINITIALIZED", 0), ("MAV_MODE_GIMBAL_CALIBRATING_PITCH", 1), ("MAV_MODE_GIMBAL_CALIBRATING_ROLL", 2), ("MAV_MODE_GIMBAL_CALIBRATING_YAW", 3), ("MAV_MODE_GIMBAL_INITIALIZED", 4), ("MAV_MODE_GIMBAL_ACTIVE", 5), ("MAV_MODE_GIMBAL_RATE_CMD_TIMEOUT", 6)] }

def e_ardupilotmega_MAV_REMOTE_LOG_DATA_BLOCK_COMMANDS : EnumDef := { name := "ardupilotmega.MAV_REMOTE_LOG_DATA_BLOCK_COMMANDS", form := Marshal.plain, consts :=
  [("MAV_REMOTE_LOG_DATA_BLOCK_STOP", 2147483645), ("MAV_REMOTE_LOG_DATA_BLOCK_START", 2147483646)] }

def e_ardupilotmega_MAV_REMOTE_LOG_DATA_BLOCK_STATUSES : EnumDef := { name := "ardupilotmega.MAV_REMOTE_LOG_DATA_BLOCK_STATUSES", form := Marshal.plain, consts :=
  [("MAV_REMOTE_LOG_DATA_BLOCK_NACK", 0), ("MAV_REMOTE_LOG_DATA_BLOCK_ACK", 1)] }

def e_ardupilotmega_OSD_PARAM_CONFIG_ERROR : EnumDef := { name := "ardupilotmega.OSD_PARAM_CONFIG_ERROR", form := Marshal.plain, consts :=
  [("OSD_PARAM_SUCCESS", 0), ("OSD_PARAM_INVALID_SCREEN", 1), ("OSD_PARAM_INVALID_PARAMETER_INDEX", 2), ("OSD_PARAM_INVALID_PARAMETER", 3)] }

def e_ardupilotmega_OSD_PARAM_CONFIG_TYPE : EnumDef := { name := "ardupilotmega.OSD_PARAM_CONFIG_TYPE", form := Marshal.plain, consts :=
  [("OSD_PARAM_NONE", 0), ("OSD_PARAM_SERIAL_PROTOCOL", 1), ("OSD_PARAM_SERVO_FUNCTION", 2), ("OSD_PARAM_AUX_FUNCTION", 3), ("OSD_PARAM_FLIGHT_MODE", 4), ("OSD_PARAM_FAILSAFE_ACTION", 5), ("OSD_PARAM_FAILSAFE_ACTION_1", 6), ("OSD_PARAM_FAILSAFE_ACTION_2", 7), ("OSD_PARAM_NUM_TYPES", 8)] }

def e_ardupilotmega_PID_TUNING_AXIS : EnumDef := { name := "ardupilotmega.PID_TUNING_AXIS", form := Marshal.plain, consts :=
  [("PID_TUNING_ROLL", 1), ("PID_TUNING_PITCH", 2), ("PID_TUNING_YAW", 3), ("PID_TUNING_ACCZ", 4), ("PID_TUNING_STEER", 5), ("PID_TUNING_LANDING", 6)] }

def e_ardupilotmega_PLANE_MODE : EnumDef := { name := "ardupilotmega.PLANE_MODE", form := Marshal.plain, consts :=
  [("PLANE_MODE_MANUAL", 0), ("PLANE_MODE_CIRCLE", 1), ("PLANE_MODE_STABILIZE", 2), ("PLANE_MODE_TRAINING", 3), ("PLANE_MODE_ACRO", 4), ("PLANE_MODE_FLY_BY_WIRE_A", 5), ("PLANE_MODE_FLY_BY_WIRE_B", 6), ("PLANE_MODE_CRUISE", 7), ("PLANE_MODE_AUTOTUNE", 8), ("PLANE_MODE_AUTO", 10), ("PLANE_MODE_RTL", 11), ("PLANE_MODE_LOITER", 12), ("PLANE_MODE_TAKEOFF", 13), ("PLANE_MODE_AVOID_ADSB", 14), ("PLANE_MODE_GUIDED", 15), ("PLANE_MODE_INITIALIZING", 16), ("PLANE_MODE_QSTABILIZE", 17), ("PLANE_MODE_QHOVER", 18), ("PLANE_MODE_QLOITER", 19), ("PLANE_MODE_QLAND", 20), ("PLANE_MODE_QRTL", 21), ("PLANE_MODE_QAUTOTUNE", 22), ("PLANE_MODE_QACRO", 23), ("PLANE_MODE_THERMAL", 24)] }

def e_ardupilotmega_RALLY_FLAGS : EnumDef := { name := "ardupilotmega.RALLY_FLAGS", form := Marshal.valueList [1, 2, 4, 24], consts :=
  [("FAVORABLE_WIND", 1), ("LAND_IMMEDIATELY", 2), ("ALT_FRAME_VALID", 4), ("ALT_FRAME", 24)] }

def e_ardupilotmega_ROVER_MODE : EnumDef := { name := "ardupilotmega.ROVER_MODE", form := Marshal.plain, consts :=
  [("ROVER_MODE_MANUAL", 0), ("ROVER_MODE_ACRO", 1), ("ROVER_MODE_STEERING", 3), ("ROVER_MODE_HOLD", 4), ("ROVER_MODE_LOITER", 5), ("ROVER_MODE_FOLLOW", 6), ("ROVER_MODE_SIMPLE", 7), ("ROVER_MODE_AUTO", 10), ("ROVER_MODE_RTL", 11), ("ROVER_MODE_SMART_RTL", 12), ("ROVER_MODE_GUIDED", 15), ("ROVER_MODE_INITIALIZING", 16)] }

def e_ardupilotmega_SCRIPTING_CMD : EnumDef := { name := "ardupilotmega.SCRIPTING_CMD", form := Marshal.plain, consts :=
  [("SCRIPTING_CMD_REPL_START", 0), ("SCRIPTING_CMD_REPL_STOP", 1), ("SCRIPTING_CMD_STOP", 2), ("SCRIPTING_CMD_STOP_AND_RESTART", 3)] }

def e_ardupilotmega_SECURE_COMMAND_OP : EnumDef := { name := "ardupilotmega.SECURE_COMMAND_OP", form := Marshal.plain, consts :=
  [("SECURE_COMMAND_GET_SESSION_KEY", 0), ("SECURE_COMMAND_GET_REMOTEID_SESSION_KEY", 1), ("SECURE_COMMAND_REMOVE_PUBLIC_KEYS", 2), ("SECURE_COMMAND_GET_PUBLIC_KEYS", 3), ("SECURE_COMMAND_SET_PUBLIC_KEYS", 4), ("SECURE_COMMAND_GET_REMOTEID_CONFIG", 5), ("SECURE_COMMAND_SET_REMOTEID_CONFIG", 6), ("SECURE_COMMAND_FLASH_BOOTLOADER", 7)] }

def e_ardupilotmega_SUB_MODE : EnumDef := { name := "ardupilotmega.SUB_MODE", form := Marshal.plain, consts :=
  [("SUB_MODE_STABILIZE", 0), ("SUB_MODE_ACRO", 1), ("SUB_MODE_ALT_HOLD", 2), ("SUB_MODE_AUTO", 3), ("SUB_MODE_GUIDED", 4), ("SUB_MODE_CIRCLE", 7), ("SUB_MODE_SURFACE", 9), ("SUB_MODE_POSHOLD", 16), ("SUB_MODE_MANUAL", 19)] }

def e_ardupilotmega_TRACKER_MODE : EnumDef := { name := "ardupilotmega.TRACKER_MODE", form := Marshal.plain, consts :=
  [("TRACKER_MODE_MANUAL", 0), ("TRACKER_MODE_STOP", 1), ("TRACKER_MODE_SCAN", 2), ("TRACKER_MODE_SERVO_TEST", 3), ("TRACKER_MODE_AUTO", 10), ("TRACKER_MODE_INITIALIZING", 16)] }

def e_asluav_GSM_LINK_TYPE : EnumDef := { name := "asluav.GSM_LINK_TYPE", form := Marshal.plain, consts :=
  [("GSM_LINK_TYPE_NONE", 0), ("GSM_LINK_TYPE_UNKNOWN", 1), ("GSM_LINK_TYPE_2G", 2), ("GSM_LINK_TYPE_3G", 3), ("GSM_LINK_TYPE_4G", 4)] }

def e_asluav_GSM_MODEM_TYPE : EnumDef := { name := "asluav.GSM_MODEM_TYPE", form := Marshal.plain, consts :=
  [("GSM_MODEM_TYPE_UNKNOWN", 0), ("GSM_MODEM_TYPE_HUAWEI_E3372", 1)] }

def enums_1 : List EnumDef := [e_ardupilotmega_GOPRO_PROTUNE_WHITE_BALANCE, e_ardupilotmega_GOPRO_REQUEST_STATUS, e_ardupilotmega_GOPRO_RESOLUTION, e_ardupilotmega_GOPRO_VIDEO_SETTINGS_FLAGS, e_ardupilotmega_HEADING_TYPE, e_ardupilotmega_LED_CONTROL_PATTERN, e_ardupilotmega_LIMITS_STATE, e_ardupilotmega_LIMIT_MODULE, e_ardupilotmega_MAV_CMD, e_ardupilotmega_MAV_CMD_DO_AUX_FUNCTION_SWITCH_LEVEL, e_ardupilotmega_MAV_MODE_GIMBAL, e_ardupilotmega_MAV_REMOTE_LOG_DATA_BLOCK_COMMANDS, e_ardupilotmega_MAV_REMOTE_LOG_DATA_BLOCK_STATUSES, e_ardupilotmega_OSD_PARAM_CONFIG_ERROR, e_ardupilotmega_OSD_PARAM_CONFIG_TYPE, e_ardupilotmega_PID_TUNING_AXIS, e_ardupilotmega_PLANE_MODE, e_ardupilotmega_RALLY_FLAGS, e_ardupilotmega_ROVER_MODE, e_ardupilotmega_SCRIPTING_CMD, e_ardupilotmega_SECURE_COMMAND_OP, e_ardupilotmega_SUB_MODE, e_ardupilotmega_TRACKER_MODE, e_asluav_GSM_LINK_TYPE, e_asluav_GSM_MODEM_TYPE]

end Mav.Gen
