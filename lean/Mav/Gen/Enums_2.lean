-- GENERATED by tools/extract from pkg/dialects/*/enum_*.go — do not edit
import Mav.Model.EnumText
namespace Mav.Gen
open Mav.EnumText

def e_asluav_MAV_CMD : EnumDef := { name := "asluav.MAV_CMD", form := Marshal.plain, consts :=
  [("MAV_CMD_NAV_WAYPOINT", 16), ("MAV_CMD_NAV_LOITER_UNLIM", 17), ("MAV_CMD_NAV_LOITER_TURNS", 18), ("MAV_CMD_NAV_LOITER_TIME", 19), ("MAV_CMD_NAV_RETURN_TO_LAUNCH", 20), ("MAV_CMD_NAV_LAND", 21), ("MAV_CMD_NAV_TAKEOFF", 22), ("MAV_CMD_NAV_LAND_LOCAL", 23), ("MAV_CMD_NAV_TAKEOFF_LOCAL", 24), ("MAV_CMD_NAV_FOLLOW", 25), ("MAV_CMD_NAV_CONTINUE_AND_CHANGE_ALT", 30), ("MAV_CMD_NAV_LOITER_TO_ALT", 31), ("MAV_CMD_DO_FOLLOW", 32), ("MAV_CMD_DO_FOLLOW_REPOSITION", 33), ("MAV_CMD_DO_ORBIT", 34), ("MAV_CMD_NAV_ROI", 80), ("MAV_CMD_NAV_PATHPLANNING", 81), ("MAV_CMD_NAV_SPLINE_WAYPOINT", 82), ("MAV_CMD_NAV_VTOL_TAKEOFF", 84), ("MAV_CMD_NAV_VTOL_LAND", 85), ("MAV_CMD_NAV_GUIDED_ENABLE", 92), ("MAV_CMD_NAV_DELAY", 93), ("MAV_CMD_NAV_PAYLOAD_PLACE", 94), ("MAV_CMD_NAV_LAST", 95), ("MAV_CMD_CONDITION_DELAY", 112), ("MAV_CMD_CONDITION_CHANGE_ALT", 113), ("MAV_CMD_CONDITION_DISTANCE", 114), ("MAV_CMD_CONDITION_YAW", 115), ("MAV_CMD_CONDITION_LAST", 159), ("MAV_CMD_DO_SET_MODE", 176), ("MAV_CMD_DO_JUMP", 177), ("MAV_CMD_DO_CHANGE_SPEED", 178), ("MAV_CMD_DO_SET_HOME", 179), ("MAV_CMD_DO_SET_PARAMETER", 180), ("MAV_CMD_DO_SET_RELAY", 181), ("MAV_CMD_DO_REPEAT_RELAY", 182), ("MAV_CMD_DO_SET_SERVO", 183), ("MAV_CMD_DO_REPEAT_SERVO", 184), ("MAV_CMD_DO_FLIGHTTERMINATION", 185), ("MAV_CMD_DO_CHANGE_ALTITUDE", 186)] ++
  [("MAV_CMD_DO_SET_ACTUATOR", 187), ("MAV_CMD_DO_RETURN_PATH_START", 188), ("MAV_CMD_DO_LAND_START", 189), ("MAV_CMD_DO_RALLY_LAND", 190), ("MAV_CMD_DO_GO_AROUND", 191), ("MAV_CMD_DO_REPOSITION", 192), ("MAV_CMD_DO_PAUSE_CONTINUE", 193), ("MAV_CMD_DO_SET_REVERSE", 194), ("MAV_CMD_DO_SET_ROI_LOCATION", 195), ("MAV_CMD_DO_SET_ROI_WPNEXT_OFFSET", 196), ("MAV_CMD_DO_SET_ROI_NONE", 197), ("MAV_CMD_DO_SET_ROI_SYSID", 198), ("MAV_CMD_DO_CONTROL_VIDEO", 200), ("MAV_CMD_DO_SET_ROI", 201), ("MAV_CMD_DO_DIGICAM_CONFIGURE", 202), ("MAV_CMD_DO_DIGICAM_CONTROL", 203), ("MAV_CMD_DO_MOUNT_CONFIGURE", 204), ("MAV_CMD_DO_MOUNT_CONTROL", 205), ("MAV_CMD_DO_SET_CAM_TRIGG_DIST", 206), ("MAV_CMD_DO_FENCE_ENABLE", 207), ("MAV_CMD_DO_PARACHUTE", 208), ("MAV_CMD_DO_MOTOR_TEST", 209), ("MAV_CMD_DO_INVERTED_FLIGHT", 210), ("MAV_CMD_DO_GRIPPER", 211), ("MAV_CMD_DO_AUTOTUNE_ENABLE", 212), ("MAV_CMD_NAV_SET_YAW_SPEED", 213), ("MAV_CMD_DO_SET_CAM_TRIGG_INTERVAL", 214), ("MAV_CMD_DO_MOUNT_CONTROL_QUAT", 220), ("MAV_CMD_DO_GUIDED_MASTER", 221), ("MAV_CMD_DO_GUIDED_LIMITS", 222), ("MAV_CMD_DO_ENGINE_CONTROL", 223), ("MAV_CMD_DO_SET_MISSION_CURRENT", 224), ("MAV_CMD_DO_LAST", 240), ("MAV_CMD_PREFLIGHT_CALIBRATION", 241), ("MAV_CMD_PREFLIGHT_SET_SENSOR_OFFSETS", 242), ("MAV_CMD_PREFLIGHT_UAVCAN", 243), ("MAV_CMD_PREFLIGHT_STORAGE", 245), ("MAV_CMD_PREFLIGHT_REBOOT_SHUTDOWN", 246), ("MAV_CMD_OVERRIDE_GOTO", 252), ("MAV_CMD_OBLIQUE_SURVEY", 260)] ++
  [("MAV_CMD_DO_SET_STANDARD_MODE", 262), ("MAV_CMD_MISSION_START", 300), ("MAV_CMD_ACTUATOR_TEST", 310), ("MAV_CMD_CONFIGURE_ACTUATOR", 311), ("MAV_CMD_COMPONENT_ARM_DISARM", 400), ("MAV_CMD_RUN_PREARM_CHECKS", 401), ("MAV_CMD_ILLUMINATOR_ON_OFF", 405), ("MAV_CMD_DO_ILLUMINATOR_CONFIGURE", 406), ("MAV_CMD_GET_HOME_POSITION", 410), ("MAV_CMD_INJECT_FAILURE", 420), ("MAV_CMD_START_RX_PAIR", 500), ("MAV_CMD_GET_MESSAGE_INTERVAL", 510), ("MAV_CMD_SET_MESSAGE_INTERVAL", 511), ("MAV_CMD_REQUEST_MESSAGE", 512), ("MAV_CMD_REQUEST_PROTOCOL_VERSION", 519), ("MAV_CMD_REQUEST_AUTOPILOT_CAPABILITIES", 520), ("MAV_CMD_REQUEST_CAMERA_INFORMATION", 521), ("MAV_CMD_REQUEST_CAMERA_SETTINGS", 522), ("MAV_CMD_REQUEST_STORAGE_INFORMATION", 525), ("MAV_CMD_STORAGE_FORMAT", 526), ("MAV_CMD_REQUEST_CAMERA_CAPTURE_STATUS", 527), ("MAV_CMD_REQUEST_FLIGHT_INFORMATION", 528), ("MAV_CMD_RESET_CAMERA_SETTINGS", 529), ("MAV_CMD_SET_CAMERA_MODE", 530), ("MAV_CMD_SET_CAMERA_ZOOM", 531), ("MAV_CMD_SET_CAMERA_FOCUS", 532), ("MAV_CMD_SET_STORAGE_USAGE", 533), ("MAV_CMD_SET_CAMERA_SOURCE", 534), ("MAV_CMD_JUMP_TAG", 600), ("MAV_CMD_DO_JUMP_TAG", 601), ("MAV_CMD_DO_GIMBAL_MANAGER_PITCHYAW", 1000), ("MAV_CMD_DO_GIMBAL_MANAGER_CONFIGURE", 1001), ("MAV_CMD_IMAGE_START_CAPTURE", 2000), ("MAV_CMD_IMAGE_STOP_CAPTURE", 2001), ("MAV_CMD_REQUEST_CAMERA_IMAGE_CAPTURE", 2002), ("MAV_CMD_DO_TRIGGER_CONTROL", 2003), ("MAV_CMD_CAMERA_TRACK_POINT", 2004), ("MAV_CMD_CAMERA_TRACK_RECTANGLE", 2005), ("MAV_CMD_CAMERA_STOP_TRACKING", 2010), ("MAV_CMD_VIDEO_START_CAPTURE", 2500)] ++
  [("MAV_CMD_VIDEO_STOP_CAPTURE", 2501), ("MAV_CMD_VIDEO_START_STREAMING", 2502), ("MAV_CMD_VIDEO_STOP_STREAMING", 2503), ("MAV_CMD_REQUEST_VIDEO_STREAM_INFORMATION", 2504), ("MAV_CMD_REQUEST_VIDEO_STREAM_STATUS", 2505), ("MAV_CMD_LOGGING_START", 2510), ("MAV_CMD_LOGGING_STOP", 2511), ("MAV_CMD_AIRFRAME_CONFIGURATION", 2520), ("MAV_CMD_CONTROL_HIGH_LATENCY", 2600), ("MAV_CMD_PANORAMA_CREATE", 2800), ("MAV_CMD_DO_VTOL_TRANSITION", 3000), ("MAV_CMD_ARM_AUTHORIZATION_REQUEST", 3001), ("MAV_CMD_SET_GUIDED_SUBMODE_STANDARD", 4000), ("MAV_CMD_SET_GUIDED_SUBMODE_CIRCLE", 4001), ("MAV_CMD_CONDITION_GATE", 4501), ("MAV_CMD_NAV_FENCE_RETURN_POINT", 5000), ("MAV_CMD_NAV_FENCE_POLYGON_VERTEX_INCLUSION", 5001), ("MAV_CMD_NAV_FENCE_POLYGON_VERTEX_EXCLUSION", 5002), ("MAV_CMD_NAV_FENCE_CIRCLE_INCLUSION", 5003), ("MAV_CMD_NAV_FENCE_CIRCLE_EXCLUSION", 5004), ("MAV_CMD_NAV_RALLY_POINT", 5100), ("MAV_CMD_UAVCAN_GET_NODE_INFO", 5200), ("MAV_CMD_DO_SET_SAFETY_SWITCH_STATE", 5300), ("MAV_CMD_DO_ADSB_OUT_IDENT", 10001), ("MAV_CMD_PAYLOAD_PREPARE_DEPLOY", 30001), ("MAV_CMD_PAYLOAD_CONTROL_DEPLOY", 30002), ("MAV_CMD_FIXED_MAG_CAL_YAW", 42006), ("MAV_CMD_DO_WINCH", 42600), ("MAV_CMD_EXTERNAL_POSITION_ESTIMATE", 43003), ("MAV_CMD_WAYPOINT_USER_1", 31000), ("MAV_CMD_WAYPOINT_USER_2", 31001), ("MAV_CMD_WAYPOINT_USER_3", 31002), ("MAV_CMD_WAYPOINT_USER_4", 31003), ("MAV_CMD_WAYPOINT_USER_5", 31004), ("MAV_CMD_SPATIAL_USER_1", 31005), ("MAV_CMD_SPATIAL_USER_2", 31006), ("MAV_CMD_SPATIAL_USER_3", 31007), ("MAV_CMD_SPATIAL_USER_4", 31008), ("MAV_CMD_SPATIAL_USER_5", 31009), ("MAV_CMD_USER_1", 31010)] ++
  [("MAV_CMD_USER_2", 31011), ("MAV_CMD_USER_3", 31012), ("MAV_CMD_USER_4", 31013), ("MAV_CMD_USER_5", 31014), ("MAV_CMD_CAN_FORWARD", 32000), ("MAV_CMD_RESET_MPPT", 40001), ("MAV_CMD_PAYLOAD_CONTROL", 40002)] }

def e_avssuas_AVSS_HORSEFLY_OPERATION_MODE : EnumDef := { name := "avssuas.AVSS_HORSEFLY_OPERATION_MODE", form := Marshal.plain, consts :=
  [("MODE_HORSEFLY_MANUAL_CTRL", 0), ("MODE_HORSEFLY_AUTO_TAKEOFF", 1), ("MODE_HORSEFLY_AUTO_LANDING", 2), ("MODE_HORSEFLY_NAVI_GO_HOME", 3), ("MODE_HORSEFLY_DROP", 4)] }

def e_avssuas_AVSS_M300_OPERATION_MODE : EnumDef := { name := "avssuas.AVSS_M300_OPERATION_MODE", form := Marshal.plain, consts :=
  [("MODE_M300_MANUAL_CTRL", 0), ("MODE_M300_ATTITUDE", 1), ("MODE_M300_P_GPS", 6), ("MODE_M300_HOTPOINT_MODE", 9), ("MODE_M300_ASSISTED_TAKEOFF", 10), ("MODE_M300_AUTO_TAKEOFF", 11), ("MODE_M300_AUTO_LANDING", 12), ("MODE_M300_NAVI_GO_HOME", 15), ("MODE_M300_NAVI_SDK_CTRL", 17), ("MODE_M300_S_SPORT", 31), ("MODE_M300_FORCE_AUTO_LANDING", 33), ("MODE_M300_T_TRIPOD", 38), ("MODE_M300_SEARCH_MODE", 40), ("MODE_M300_ENGINE_START", 41)] }

def e_avssuas_MAV_AVSS_COMMAND_FAILURE_REASON : EnumDef := { name := "avssuas.MAV_AVSS_COMMAND_FAILURE_REASON", form := Marshal.plain, consts :=
  [("PRS_NOT_STEADY", 1), ("PRS_DTM_NOT_ARMED", 2), ("PRS_OTM_NOT_ARMED", 3)] }

def e_avssuas_MAV_CMD : EnumDef := { name := "avssuas.MAV_CMD", form := Marshal.plain, consts :=
  [("MAV_CMD_NAV_WAYPOINT", 16), ("MAV_CMD_NAV_LOITER_UNLIM", 17), ("MAV_CMD_NAV_LOITER_TURNS", 18), ("MAV_CMD_NAV_LOITER_TIME", 19), ("MAV_CMD_NAV_RETURN_TO_LAUNCH", 20), ("MAV_CMD_NAV_LAND", 21), ("MAV_CMD_NAV_TAKEOFF", 22), ("MAV_CMD_NAV_LAND_LOCAL", 23), ("MAV_CMD_NAV_TAKEOFF_LOCAL", 24), ("MAV_CMD_NAV_FOLLOW", 25), ("MAV_CMD_NAV_CONTINUE_AND_CHANGE_ALT", 30), ("MAV_CMD_NAV_LOITER_TO_ALT", 31), ("MAV_CMD_DO_FOLLOW", 32), ("MAV_CMD_DO_FOLLOW_REPOSITION", 33), ("MAV_CMD_DO_ORBIT", 34), ("MAV_CMD_NAV_ROI", 80), ("MAV_CMD_NAV_PATHPLANNING", 81), ("MAV_CMD_NAV_SPLINE_WAYPOINT", 82), ("MAV_CMD_NAV_VTOL_TAKEOFF", 84), ("MAV_CMD_NAV_VTOL_LAND", 85), ("MAV_CMD_NAV_GUIDED_ENABLE", 92), ("MAV_CMD_NAV_DELAY", 93), ("MAV_CMD_NAV_PAYLOAD_PLACE", 94), ("MAV_CMD_NAV_LAST", 95), ("MAV_CMD_CONDITION_DELAY", 112), ("MAV_CMD_CONDITION_CHANGE_ALT", 113), ("MAV_CMD_CONDITION_DISTANCE", 114), ("MAV_CMD_CONDITION_YAW", 115), ("MAV_CMD_CONDITION_LAST", 159), ("MAV_CMD_DO_SET_MODE", 176), ("MAV_CMD_DO_JUMP", 177), ("MAV_CMD_DO_CHANGE_SPEED", 178), ("MAV_CMD_DO_SET_HOME", 179), ("MAV_CMD_DO_SET_PARAMETER", 180), ("MAV_CMD_DO_SET_RELAY", 181), ("MAV_CMD_DO_REPEAT_RELAY", 182), ("MAV_CMD_DO_SET_SERVO", 183), ("MAV_CMD_DO_REPEAT_SERVO", 184), ("MAV_CMD_DO_FLIGHTTERMINATION", 185), ("MAV_CMD_DO_CHANGE_ALTITUDE", 186)] ++
  [("MAV_CMD_DO_SET_ACTUATOR", 187), ("MAV_CMD_DO_RETURN_PATH_START", 188), ("MAV_CMD_DO_LAND_START", 189), ("MAV_CMD_DO_RALLY_LAND", 190), ("MAV_CMD_DO_GO_AROUND", 191), ("MAV_CMD_DO_REPOSITION", 192), ("MAV_CMD_DO_PAUSE_CONTINUE", 193), ("MAV_CMD_DO_SET_REVERSE", 194), ("MAV_CMD_DO_SET_ROI_LOCATION", 195), ("MAV_CMD_DO_SET_ROI_WPNEXT_OFFSET", 196), ("MAV_CMD_DO_SET_ROI_NONE", 197), ("MAV_CMD_DO_SET_ROI_SYSID", 198), ("MAV_CMD_DO_CONTROL_VIDEO", 200), ("MAV_CMD_DO_SET_ROI", 201), ("MAV_CMD_DO_DIGICAM_CONFIGURE", 202), ("MAV_CMD_DO_DIGICAM_CONTROL", 203), ("MAV_CMD_DO_MOUNT_CONFIGURE", 204), ("MAV_CMD_DO_MOUNT_CONTROL", 205), ("MAV_CMD_DO_SET_CAM_TRIGG_DIST", 206), ("MAV_CMD_DO_FENCE_ENABLE", 207), ("MAV_CMD_DO_PARACHUTE", 208), ("MAV_CMD_DO_MOTOR_TEST", 209), ("MAV_CMD_DO_INVERTED_FLIGHT", 210), ("MAV_CMD_DO_GRIPPER", 211), ("MAV_CMD_DO_AUTOTUNE_ENABLE", 212), ("MAV_CMD_NAV_SET_YAW_SPEED", 213), ("MAV_CMD_DO_SET_CAM_TRIGG_INTERVAL", 214), ("MAV_CMD_DO_MOUNT_CONTROL_QUAT", 220), ("MAV_CMD_DO_GUIDED_MASTER", 221), ("MAV_CMD_DO_GUIDED_LIMITS", 222), ("MAV_CMD_DO_ENGINE_CONTROL", 223), ("MAV_CMD_DO_SET_MISSION_CURRENT", 224), ("MAV_CMD_DO_LAST", 240), ("MAV_CMD_PREFLIGHT_CALIBRATION", 241), ("MAV_CMD_PREFLIGHT_SET_SENSOR_OFFSETS", 242), ("MAV_CMD_PREFLIGHT_UAVCAN", 243), ("MAV_CMD_PREFLIGHT_STORAGE", 245), ("MAV_CMD_PREFLIGHT_REBOOT_SHUTDOWN", 246), ("MAV_CMD_OVERRIDE_GOTO", 252), ("MAV_CMD_OBLIQUE_SURVEY", 260)] ++
  [("MAV_CMD_DO_SET_STANDARD_MODE", 262), ("MAV_CMD_MISSION_START", 300), ("MAV_CMD_ACTUATOR_TEST", 310), ("MAV_CMD_CONFIGURE_ACTUATOR", 311), ("MAV_CMD_COMPONENT_ARM_DISARM", 400), ("MAV_CMD_RUN_PREARM_CHECKS", 401), ("MAV_CMD_ILLUMINATOR_ON_OFF", 405), ("MAV_CMD_DO_ILLUMINATOR_CONFIGURE", 406), ("MAV_CMD_GET_HOME_POSITION", 410), ("MAV_CMD_INJECT_FAILURE", 420), ("MAV_CMD_START_RX_PAIR", 500), ("MAV_CMD_GET_MESSAGE_INTERVAL", 510), ("MAV_CMD_SET_MESSAGE_INTERVAL", 511), ("MAV_CMD_REQUEST_MESSAGE", 512), ("MAV_CMD_REQUEST_PROTOCOL_VERSION", 519), ("MAV_CMD_REQUEST_AUTOPILOT_CAPABILITIES", 520), ("MAV_CMD_REQUEST_CAMERA_INFORMATION", 521), ("MAV_CMD_REQUEST_CAMERA_SETTINGS", 522), ("MAV_CMD_REQUEST_STORAGE_INFORMATION", 525), ("MAV_CMD_STORAGE_FORMAT", 526), ("MAV_CMD_REQUEST_CAMERA_CAPTURE_STATUS", 527), ("MAV_CMD_REQUEST_FLIGHT_INFORMATION", 528), ("MAV_CMD_RESET_CAMERA_SETTINGS", 529), ("MAV_CMD_SET_CAMERA_MODE", 530), ("MAV_CMD_SET_CAMERA_ZOOM", 531), ("MAV_CMD_SET_CAMERA_FOCUS", 532), ("MAV_CMD_SET_STORAGE_USAGE", 533), ("MAV_CMD_SET_CAMERA_SOURCE", 534), ("MAV_CMD_JUMP_TAG", 600), ("MAV_CMD_DO_JUMP_TAG", 601), ("MAV_CMD_DO_GIMBAL_MANAGER_PITCHYAW", 1000), ("MAV_CMD_DO_GIMBAL_MANAGER_CONFIGURE", 1001), ("MAV_CMD_IMAGE_START_CAPTURE", 2000), ("MAV_CMD_IMAGE_STOP_CAPTURE", 2001), ("MAV_CMD_REQUEST_CAMERA_IMAGE_CAPTURE", 2002), ("MAV_CMD_DO_TRIGGER_CONTROL", 2003), ("MAV_CMD_CAMERA_TRACK_POINT", 2004), ("MAV_CMD_CAMERA_TRACK_RECTANGLE", 2005), ("MAV_CMD_CAMERA_STOP_TRACKING", 2010), ("MAV_CMD_VIDEO_START_CAPTURE", 2500)] ++
  [("MAV_CMD_VIDEO_STOP_CAPTURE", 2501), ("MAV_CMD_VIDEO_START_STREAMING", 2502), ("MAV_CMD_VIDEO_STOP_STREAMING", 2503), ("MAV_CMD_REQUEST_VIDEO_STREAM_INFORMATION", 2504), ("MAV_CMD_REQUEST_VIDEO_STREAM_STATUS", 2505), ("MAV_CMD_LOGGING_START", 2510), ("MAV_CMD_LOGGING_STOP", 2511), ("MAV_CMD_AIRFRAME_CONFIGURATION", 2520), ("MAV_CMD_CONTROL_HIGH_LATENCY", 2600), ("MAV_CMD_PANORAMA_CREATE", 2800), ("MAV_CMD_DO_VTOL_TRANSITION", 3000), ("MAV_CMD_ARM_AUTHORIZATION_REQUEST", 3001), ("MAV_CMD_SET_GUIDED_SUBMODE_STANDARD", 4000), ("MAV_CMD_SET_GUIDED_SUBMODE_CIRCLE", 4001), ("MAV_CMD_CONDITION_GATE", 4501), ("MAV_CMD_NAV_FENCE_RETURN_POINT", 5000), ("MAV_CMD_NAV_FENCE_POLYGON_VERTEX_INCLUSION", 5001), ("MAV_CMD_NAV_FENCE_POLYGON_VERTEX_EXCLUSION", 5002), ("MAV_CMD_NAV_FENCE_CIRCLE_INCLUSION", 5003), ("MAV_CMD_NAV_FENCE_CIRCLE_EXCLUSION", 5004), ("MAV_CMD_NAV_RALLY_POINT", 5100), ("MAV_CMD_UAVCAN_GET_NODE_INFO", 5200), ("MAV_CMD_DO_SET_SAFETY_SWITCH_STATE", 5300), ("MAV_CMD_DO_ADSB_OUT_IDENT", 10001), ("MAV_CMD_PAYLOAD_PREPARE_DEPLOY", 30001), ("MAV_CMD_PAYLOAD_CONTROL_DEPLOY", 30002), ("MAV_CMD_FIXED_MAG_CAL_YAW", 42006), ("MAV_CMD_DO_WINCH", 42600), ("MAV_CMD_EXTERNAL_POSITION_ESTIMATE", 43003), ("MAV_CMD_WAYPOINT_USER_1", 31000), ("MAV_CMD_WAYPOINT_USER_2", 31001), ("MAV_CMD_WAYPOINT_USER_3", 31002), ("MAV_CMD_WAYPOINT_USER_4", 31003), ("MAV_CMD_WAYPOINT_USER_5", 31004), ("MAV_CMD_SPATIAL_USER_1", 31005), ("MAV_CMD_SPATIAL_USER_2", 31006), ("MAV_CMD_SPATIAL_USER_3", 31007), ("MAV_CMD_SPATIAL_USER_4", 31008), ("MAV_CMD_SPATIAL_USER_5", 31009), ("MAV_CMD_USER_1", 31010)] ++
  [("MAV_CMD_USER_2", 31011), ("MAV_CMD_USER_3", 31012), ("MAV_CMD_USER_4", 31013), ("MAV_CMD_USER_5", 31014), ("MAV_CMD_CAN_FORWARD", 32000), ("MAV_CMD_PRS_SET_ARM", 60050), ("MAV_CMD_PRS_GET_ARM", 60051), ("MAV_CMD_PRS_GET_BATTERY", 60052), ("MAV_CMD_PRS_GET_ERR", 60053), ("MAV_CMD_PRS_SET_ARM_ALTI", 60070), ("MAV_CMD_PRS_GET_ARM_ALTI", 60071), ("MAV_CMD_PRS_SHUTDOWN", 60072)] }

def e_common_ACTUATOR_CONFIGURATION : EnumDef := { name := "common.ACTUATOR_CONFIGURATION", form := Marshal.plain, consts :=
  [("ACTUATOR_CONFIGURATION_NONE", 0), ("ACTUATOR_CONFIGURATION_BEEP", 1), ("ACTUATOR_CONFIGURATION_3D_MODE_ON", 2), ("ACTUATOR_CONFIGURATION_3D_MODE_OFF", 3), ("ACTUATOR_CONFIGURATION_SPIN_DIRECTION1", 4), ("ACTUATOR_CONFIGURATION_SPIN_DIRECTION2", 5)] }

def e_common_ACTUATOR_OUTPUT_FUNCTION : EnumDef := { name := "common.ACTUATOR_OUTPUT_FUNCTION", form := Marshal.plain, consts :=
  [("ACTUATOR_OUTPUT_FUNCTION_NONE", 0), ("ACTUATOR_OUTPUT_FUNCTION_MOTOR1", 1), ("ACTUATOR_OUTPUT_FUNCTION_MOTOR2", 2), ("ACTUATOR_OUTPUT_FUNCTION_MOTOR3", 3), ("ACTUATOR_OUTPUT_FUNCTION_MOTOR4", 4), ("ACTUATOR_OUTPUT_FUNCTION_MOTOR5", 5), ("ACTUATOR_OUTPUT_FUNCTION_MOTOR6", 6), ("ACTUATOR_OUTPUT_FUNCTION_MOTOR7", 7), ("ACTUATOR_OUTPUT_FUNCTION_MOTOR8", 8), ("ACTUATOR_OUTPUT_FUNCTION_MOTOR9", 9), ("ACTUATOR_OUTPUT_FUNCTION_MOTOR10", 10), ("ACTUATOR_OUTPUT_FUNCTION_MOTOR11", 11), ("ACTUATOR_OUTPUT_FUNCTION_MOTOR12", 12), ("ACTUATOR_OUTPUT_FUNCTION_MOTOR13", 13), ("ACTUATOR_OUTPUT_FUNCTION_MOTOR14", 14), ("ACTUATOR_OUTPUT_FUNCTION_MOTOR15", 15), ("ACTUATOR_OUTPUT_FUNCTION_MOTOR16", 16), ("ACTUATOR_OUTPUT_FUNCTION_SERVO1", 33), ("ACTUATOR_OUTPUT_FUNCTION_SERVO2", 34), ("ACTUATOR_OUTPUT_FUNCTION_SERVO3", 35), ("ACTUATOR_OUTPUT_FUNCTION_SERVO4", 36), ("ACTUATOR_OUTPUT_FUNCTION_SERVO5", 37), ("ACTUATOR_OUTPUT_FUNCTION_SERVO6", 38), ("ACTUATOR_OUTPUT_FUNCTION_SERVO7", 39), ("ACTUATOR_OUTPUT_FUNCTION_SERVO8", 40), ("ACTUATOR_OUTPUT_FUNCTION_SERVO9", 41), ("ACTUATOR_OUTPUT_FUNCTION_SERVO10", 42), ("ACTUATOR_OUTPUT_FUNCTION_SERVO11", 43), ("ACTUATOR_OUTPUT_FUNCTION_SERVO12", 44), ("ACTUATOR_OUTPUT_FUNCTION_SERVO13", 45), ("ACTUATOR_OUTPUT_FUNCTION_SERVO14", 46), ("ACTUATOR_OUTPUT_FUNCTION_SERVO15", 47), ("ACTUATOR_OUTPUT_FUNCTION_SERVO16", 48)] }

def e_common_ADSB_ALTITUDE_TYPE : EnumDef := { name := "common.ADSB_ALTITUDE_TYPE", form := Marshal.plain, consts :=
  [("ADSB_ALTITUDE_TYPE_PRESSURE_QNH", 0), ("ADSB_ALTITUDE_TYPE_GEOMETRIC", 1)] }

def e_common_ADSB_EMITTER_TYPE : EnumDef := { name := "common.ADSB_EMITTER_TYPE", form := Marshal.plain, consts :=
  [("ADSB_EMITTER_TYPE_NO_INFO", 0), ("ADSB_EMITTER_TYPE_LIGHT", 1), ("ADSB_EMITTER_TYPE_SMALL", 2), ("ADSB_EMITTER_TYPE_LARGE", 3), ("ADSB_EMITTER_TYPE_HIGH_VORTEX_LARGE", 4), ("ADSB_EMITTER_TYPE_HEAVY", 5), ("ADSB_EMITTER_TYPE_HIGHLY_MANUV", 6), ("ADSB_EMITTER_TYPE_ROTOCRAFT", 7), ("ADSB_EMITTER_TYPE_UNASSIGNED", 8), ("ADSB_EMITTER_TYPE_GLIDER", 9), ("ADSB_EMITTER_TYPE_LIGHTER_AIR", 10), ("ADSB_EMITTER_TYPE_PARACHUTE", 11), ("ADSB_EMITTER_TYPE_ULTRA_LIGHT", 12), ("ADSB_EMITTER_TYPE_UNASSIGNED2", 13), ("ADSB_EMITTER_TYPE_UAV", 14), ("ADSB_EMITTER_TYPE_SPACE", 15), ("ADSB_EMITTER_TYPE_UNASSGINED3", 16), ("ADSB_EMITTER_TYPE_EMERGENCY_SURFACE", 17), ("ADSB_EMITTER_TYPE_SERVICE_SURFACE", 18), ("ADSB_EMITTER_TYPE_POINT_OBSTACLE", 19)] }

def e_common_ADSB_FLAGS : EnumDef := { name := "common.ADSB_FLAGS", form := Marshal.valueList [1, 2, 4, 8, 16, 32, 64, 128, 256, 32768], consts :=
  [("ADSB_FLAGS_VALID_COORDS", 1), ("ADSB_FLAGS_VALID_ALTITUDE", 2), ("ADSB_FLAGS_VALID_HEADING", 4), ("ADSB_FLAGS_VALID_VELOCITY", 8), ("ADSB_FLAGS_VALID_CALLSIGN", 16), ("ADSB_FLAGS_VALID_SQUAWK", 32), ("ADSB_FLAGS_SIMULATED", 64), ("ADSB_FLAGS_VERTICAL_VELOCITY_VALID", 128), ("ADSB_FLAGS_BARO_VALID", 256), ("ADSB_FLAGS_SOURCE_UAT", 32768)] }

def e_common_AIS_FLAGS : EnumDef := { name := "common.AIS_FLAGS", form := Marshal.valueList [1, 2, 4, 8, 16, 32, 64, 128, 256, 512, 1024, 2048, 4096], consts :=
  [("AIS_FLAGS_POSITION_ACCURACY", 1), ("AIS_FLAGS_VALID_COG", 2), ("AIS_FLAGS_VALID_VELOCITY", 4), ("AIS_FLAGS_HIGH_VELOCITY", 8), ("AIS_FLAGS_VALID_TURN_RATE", 16), ("AIS_FLAGS_TURN_RATE_SIGN_ONLY", 32), ("AIS_FLAGS_VALID_DIMENSIONS", 64), ("AIS_FLAGS_LARGE_BOW_DIMENSION", 128), ("AIS_FLAGS_LARGE_STERN_DIMENSION", 256), ("AIS_FLAGS_LARGE_PORT_DIMENSION", 512), ("AIS_FLAGS_LARGE_STARBOARD_DIMENSION", 1024), ("AIS_FLAGS_VALID_CALLSIGN", 2048), ("AIS_FLAGS_VALID_NAME", 4096)] }

def e_common_AIS_NAV_STATUS : EnumDef := { name := "common.AIS_NAV_STATUS", form := Marshal.plain, consts :=
  [("UNDER_WAY", 0), ("AIS_NAV_ANCHORED", 1), ("AIS_NAV_UN_COMMANDED", 2), ("AIS_NAV_RESTRICTED_MANOEUVERABILITY", 3), ("AIS_NAV_DRAUGHT_CONSTRAINED", 4), ("AIS_NAV_MOORED", 5), ("AIS_NAV_AGROUND", 6), ("AIS_NAV_FISHING", 7), ("AIS_NAV_SAILING", 8), ("AIS_NAV_RESERVED_HSC", 9), ("AIS_NAV_RESERVED_WIG", 10), ("AIS_NAV_RESERVED_1", 11), ("AIS_NAV_RESERVED_2", 12), ("AIS_NAV_RESERVED_3", 13), ("AIS_NAV_AIS_SART", 14), ("AIS_NAV_UNKNOWN", 15)] }

def e_common_AIS_TYPE : EnumDef := { name := "common.AIS_TYPE", form := Marshal.plain, consts :=
  [("AIS_TYPE_UNKNOWN", 0), ("AIS_TYPE_RESERVED_1", 1), ("AIS_TYPE_RESERVED_2", 2), ("AIS_TYPE_RESERVED_3", 3), ("AIS_TYPE_RESERVED_4", 4), ("AIS_TYPE_RESERVED_5", 5), ("AIS_TYPE_RESERVED_6", 6), ("AIS_TYPE_RESERVED_7", 7), ("AIS_TYPE_RESERVED_8", 8), ("AIS_TYPE_RESERVED_9", 9), ("AIS_TYPE_RESERVED_10", 10), ("AIS_TYPE_RESERVED_11", 11), ("AIS_TYPE_RESERVED_12", 12), ("AIS_TYPE_RESERVED_13", 13), ("AIS_TYPE_RESERVED_14", 14), ("AIS_TYPE_RESERVED_15", 15), ("AIS_TYPE_RESERVED_16", 16), ("AIS_TYPE_RESERVED_17", 17), ("AIS_TYPE_RESERVED_18", 18), ("AIS_TYPE_RESERVED_19", 19), ("AIS_TYPE_WIG", 20), ("AIS_TYPE_WIG_HAZARDOUS_A", 21), ("AIS_TYPE_WIG_HAZARDOUS_B", 22), ("AIS_TYPE_WIG_HAZARDOUS_C", 23), ("AIS_TYPE_WIG_HAZARDOUS_D", 24), ("AIS_TYPE_WIG_RESERVED_1", 25), ("AIS_TYPE_WIG_RESERVED_2", 26), ("AIS_TYPE_WIG_RESERVED_3", 27), ("AIS_TYPE_WIG_RESERVED_4", 28), ("AIS_TYPE_WIG_RESERVED_5", 29), ("AIS_TYPE_FISHING", 30), ("AIS_TYPE_TOWING", 31), ("AIS_TYPE_TOWING_LARGE", 32), ("AIS_TYPE_DREDGING", 33), ("AIS_TYPE_DIVING", 34), ("AIS_TYPE_MILITARY", 35), ("AIS_TYPE_SAILING", 36), ("AIS_TYPE_PLEASURE", 37), ("AIS_TYPE_RESERVED_20", 38), ("AIS_TYPE_RESERVED_21", 39)] ++
  [("AIS_TYPE_HSC", 40), ("AIS_TYPE_HSC_HAZARDOUS_A", 41), ("AIS_TYPE_HSC_HAZARDOUS_B", 42), ("AIS_TYPE_HSC_HAZARDOUS_C", 43), ("AIS_TYPE_HSC_HAZARDOUS_D", 44), ("AIS_TYPE_HSC_RESERVED_1", 45), ("AIS_TYPE_HSC_RESERVED_2", 46), ("AIS_TYPE_HSC_RESERVED_3", 47), ("AIS_TYPE_HSC_RESERVED_4", 48), ("AIS_TYPE_HSC_UNKNOWN", 49), ("AIS_TYPE_PILOT", 50), ("AIS_TYPE_SAR", 51), ("AIS_TYPE_TUG", 52), ("AIS_TYPE_PORT_TENDER", 53), ("AIS_TYPE_ANTI_POLLUTION", 54), ("AIS_TYPE_LAW_ENFORCEMENT", 55), ("AIS_TYPE_SPARE_LOCAL_1", 56), ("AIS_TYPE_SPARE_LOCAL_2", 57), ("AIS_TYPE_MEDICAL_TRANSPORT", 58), ("AIS_TYPE_NONECOMBATANT", 59), ("AIS_TYPE_PASSENGER", 60), ("AIS_TYPE_PASSENGER_HAZARDOUS_A", 61), ("AIS_TYPE_PASSENGER_HAZARDOUS_B", 62), ("AIS_TYPE_PASSENGER_HAZARDOUS_C", 63), ("AIS_TYPE_PASSENGER_HAZARDOUS_D", 64), ("AIS_TYPE_PASSENGER_RESERVED_1", 65), ("AIS_TYPE_PASSENGER_RESERVED_2", 66), ("AIS_TYPE_PASSENGER_RESERVED_3", 67), ("AIS_TYPE_PASSENGER_RESERVED_4", 68), ("AIS_TYPE_PASSENGER_UNKNOWN", 69), ("AIS_TYPE_CARGO", 70), ("AIS_TYPE_CARGO_HAZARDOUS_A", 71), ("AIS_TYPE_CARGO_HAZARDOUS_B", 72), ("AIS_TYPE_CARGO_HAZARDOUS_C", 73), ("AIS_TYPE_CARGO_HAZARDOUS_D", 74), ("AIS_TYPE_CARGO_RESERVED_1", 75), ("AIS_TYPE_CARGO_RESERVED_2", 76), ("AIS_TYPE_CARGO_RESERVED_3", 77), ("AIS_TYPE_CARGO_RESERVED_4", 78), ("AIS_TYPE_CARGO_UNKNOWN", 79)] ++
  [("AIS_TYPE_TANKER", 80), ("AIS_TYPE_TANKER_HAZARDOUS_A", 81), ("AIS_TYPE_TANKER_HAZARDOUS_B", 82), ("AIS_TYPE_TANKER_HAZARDOUS_C", 83), ("AIS_TYPE_TANKER_HAZARDOUS_D", 84), ("AIS_TYPE_TANKER_RESERVED_1", 85), ("AIS_TYPE_TANKER_RESERVED_2", 86), ("AIS_TYPE_TANKER_RESERVED_3", 87), ("AIS_TYPE_TANKER_RESERVED_4", 88), ("AIS_TYPE_TANKER_UNKNOWN", 89), ("AIS_TYPE_OTHER", 90), ("AIS_TYPE_OTHER_HAZARDOUS_A", 91), ("AIS_TYPE_OTHER_HAZARDOUS_B", 92), ("AIS_TYPE_OTHER_HAZARDOUS_C", 93), ("AIS_TYPE_OTHER_HAZARDOUS_D", 94), ("AIS_TYPE_OTHER_RESERVED_1", 95), ("AIS_TYPE_OTHER_RESERVED_2", 96), ("AIS_TYPE_OTHER_RESERVED_3", 97), ("AIS_TYPE_OTHER_RESERVED_4", 98), ("AIS_TYPE_OTHER_UNKNOWN", 99)] }

def e_common_ATTITUDE_TARGET_TYPEMASK : EnumDef := { name := "common.ATTITUDE_TARGET_TYPEMASK", form := Marshal.valueList [1, 2, 4, 32, 64, 128], consts :=
  [("ATTITUDE_TARGET_TYPEMASK_BODY_ROLL_RATE_IGNORE", 1), ("ATTITUDE_TARGET_TYPEMASK_BODY_PITCH_RATE_IGNORE", 2), ("ATTITUDE_TARGET_TYPEMASK_BODY_YAW_RATE_IGNORE", 4), ("ATTITUDE_TARGET_TYPEMASK_THRUST_BODY_SET", 32), ("ATTITUDE_TARGET_TYPEMASK_THROTTLE_IGNORE", 64), ("ATTITUDE_TARGET_TYPEMASK_ATTITUDE_IGNORE", 128)] }

def e_common_AUTOTUNE_AXIS : EnumDef := { name := "common.AUTOTUNE_AXIS", form := Marshal.valueList [0, 1, 2, 4], consts :=
  [("AUTOTUNE_AXIS_DEFAULT", 0), ("AUTOTUNE_AXIS_ROLL", 1), ("AUTOTUNE_AXIS_PITCH", 2), ("AUTOTUNE_AXIS_YAW", 4)] }

def e_common_CAMERA_CAP_FLAGS : EnumDef := { name := "common.CAMERA_CAP_FLAGS", form := Marshal.valueList [1, 2, 4, 8, 16, 32, 64, 128, 256, 512, 1024, 2048, 4096], consts :=
  [("CAMERA_CAP_FLAGS_CAPTURE_VIDEO", 1), ("CAMERA_CAP_FLAGS_CAPTURE_IMAGE", 2), ("CAMERA_CAP_FLAGS_HAS_MODES", 4), ("CAMERA_CAP_FLAGS_CAN_CAPTURE_IMAGE_IN_VIDEO_MODE", 8), ("CAMERA_CAP_FLAGS_CAN_CAPTURE_VIDEO_IN_IMAGE_MODE", 16), ("CAMERA_CAP_FLAGS_HAS_IMAGE_SURVEY_MODE", 32), ("CAMERA_CAP_FLAGS_HAS_BASIC_ZOOM", 64), ("CAMERA_CAP_FLAGS_HAS_BASIC_FOCUS", 128), ("CAMERA_CAP_FLAGS_HAS_VIDEO_STREAM", 256), ("CAMERA_CAP_FLAGS_HAS_TRACKING_POINT", 512), ("CAMERA_CAP_FLAGS_HAS_TRACKING_RECTANGLE", 1024), ("CAMERA_CAP_FLAGS_HAS_TRACKING_GEO_STATUS", 2048), ("CAMERA_CAP_FLAGS_HAS_THERMAL_RANGE", 4096)] }

def e_common_CAMERA_MODE : EnumDef := { name := "common.CAMERA_MODE", form := Marshal.plain, consts :=
  [("CAMERA_MODE_IMAGE", 0), ("CAMERA_MODE_VIDEO", 1), ("CAMERA_MODE_IMAGE_SURVEY", 2)] }

def e_common_CAMERA_SOURCE : EnumDef := { name := "common.CAMERA_SOURCE", form := Marshal.plain, consts :=
  [("CAMERA_SOURCE_DEFAULT", 0), ("CAMERA_SOURCE_RGB", 1), ("CAMERA_SOURCE_IR", 2), ("CAMERA_SOURCE_NDVI", 3)] }

def e_common_CAMERA_TRACKING_MODE : EnumDef := { name := "common.CAMERA_TRACKING_MODE", form := Marshal.plain, consts :=
  [("CAMERA_TRACKING_MODE_NONE", 0), ("CAMERA_TRACKING_MODE_POINT", 1), ("CAMERA_TRACKING_MODE_RECTANGLE", 2)] }

def e_common_CAMERA_TRACKING_STATUS_FLAGS : EnumDef := { name := "common.CAMERA_TRACKING_STATUS_FLAGS", form := Marshal.plain, consts :=
  [("CAMERA_TRACKING_STATUS_FLAGS_IDLE", 0), ("CAMERA_TRACKING_STATUS_FLAGS_ACTIVE", 1), ("CAMERA_TRACKING_STATUS_FLAGS_ERROR", 2)] }

def e_common_CAMERA_TRACKING_TARGET_DATA : EnumDef := { name := "common.CAMERA_TRACKING_TARGET_DATA", form := Marshal.valueList [1, 2, 4], consts :=
  [("CAMERA_TRACKING_TARGET_DATA_EMBEDDED", 1), ("CAMERA_TRACKING_TARGET_DATA_RENDERED", 2), ("CAMERA_TRACKING_TARGET_DATA_IN_STATUS", 4)] }

def e_common_CAMERA_ZOOM_TYPE : EnumDef := { name := "common.CAMERA_ZOOM_TYPE", form := Marshal.plain, consts :=
  [("ZOOM_TYPE_STEP", 0), ("ZOOM_TYPE_CONTINUOUS", 1), ("ZOOM_TYPE_RANGE", 2), ("ZOOM_TYPE_FOCAL_LENGTH", 3), ("ZOOM_TYPE_HORIZONTAL_FOV", 4)] }

def e_common_CAN_FILTER_OP : EnumDef := { name := "common.CAN_FILTER_OP", form := Marshal.plain, consts :=
  [("CAN_FILTER_REPLACE", 0), ("CAN_FILTER_ADD", 1), ("CAN_FILTER_REMOVE", 2)] }

def e_common_CELLULAR_CONFIG_RESPONSE : EnumDef := { name := "common.CELLULAR_CONFIG_RESPONSE", form := Marshal.plain, consts :=
  [("CELLULAR_CONFIG_RESPONSE_ACCEPTED", 0), ("CELLULAR_CONFIG_RESPONSE_APN_ERROR", 1), ("CELLULAR_CONFIG_RESPONSE_PIN_ERROR", 2), ("CELLULAR_CONFIG_RESPONSE_REJECTED", 3), ("CELLULAR_CONFIG_BLOCKED_PUK_REQUIRED", 4)] }

def e_common_CELLULAR_NETWORK_FAILED_REASON : EnumDef := { name := "common.CELLULAR_NETWORK_FAILED_REASON", form := Marshal.plain, consts :=
  [("CELLULAR_NETWORK_FAILED_REASON_NONE", 0), ("CELLULAR_NETWORK_FAILED_REASON_UNKNOWN", 1), ("CELLULAR_NETWORK_FAILED_REASON_SIM_MISSING", 2), ("CELLULAR_NETWORK_FAILED_REASON_SIM_ERROR", 3)] }

def enums_2 : List EnumDef := [e_asluav_MAV_CMD, e_avssuas_AVSS_HORSEFLY_OPERATION_MODE, e_avssuas_AVSS_M300_OPERATION_MODE, e_avssuas_MAV_AVSS_COMMAND_FAILURE_REASON, e_avssuas_MAV_CMD, e_common_ACTUATOR_CONFIGURATION, e_common_ACTUATOR_OUTPUT_FUNCTION, e_common_ADSB_ALTITUDE_TYPE, e_common_ADSB_EMITTER_TYPE, e_common_ADSB_FLAGS, e_common_AIS_FLAGS, e_common_AIS_NAV_STATUS, e_common_AIS_TYPE, e_common_ATTITUDE_TARGET_TYPEMASK, e_common_AUTOTUNE_AXIS, e_common_CAMERA_CAP_FLAGS, e_common_CAMERA_MODE, e_common_CAMERA_SOURCE, e_common_CAMERA_TRACKING_MODE, e_common_CAMERA_TRACKING_STATUS_FLAGS, e_common_CAMERA_TRACKING_TARGET_DATA, e_common_CAMERA_ZOOM_TYPE, e_common_CAN_FILTER_OP, e_common_CELLULAR_CONFIG_RESPONSE, e_common_CELLULAR_NETWORK_FAILED_REASON]

end Mav.Gen
