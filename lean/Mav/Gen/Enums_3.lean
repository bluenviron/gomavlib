-- GENERATED by tools/extract from pkg/dialects/*/enum_*.go — do not edit
import Mav.Model.EnumText
namespace Mav.Gen
open Mav.EnumText

def e_common_CELLULAR_NETWORK_RADIO_TYPE : EnumDef := { name := "common.CELLULAR_NETWORK_RADIO_TYPE", form := Marshal.plain, consts :=
  [("CELLULAR_NETWORK_RADIO_TYPE_NONE", 0), ("CELLULAR_NETWORK_RADIO_TYPE_GSM", 1), ("CELLULAR_NETWORK_RADIO_TYPE_CDMA", 2), ("CELLULAR_NETWORK_RADIO_TYPE_WCDMA", 3), ("CELLULAR_NETWORK_RADIO_TYPE_LTE", 4)] }

def e_common_CELLULAR_STATUS_FLAG : EnumDef := { name := "common.CELLULAR_STATUS_FLAG", form := Marshal.plain, consts :=
  [("CELLULAR_STATUS_FLAG_UNKNOWN", 0), ("CELLULAR_STATUS_FLAG_FAILED", 1), ("CELLULAR_STATUS_FLAG_INITIALIZING", 2), ("CELLULAR_STATUS_FLAG_LOCKED", 3), ("CELLULAR_STATUS_FLAG_DISABLED", 4), ("CELLULAR_STATUS_FLAG_DISABLING", 5), ("CELLULAR_STATUS_FLAG_ENABLING", 6), ("CELLULAR_STATUS_FLAG_ENABLED", 7), ("CELLULAR_STATUS_FLAG_SEARCHING", 8), ("CELLULAR_STATUS_FLAG_REGISTERED", 9), ("CELLULAR_STATUS_FLAG_DISCONNECTING", 10), ("CELLULAR_STATUS_FLAG_CONNECTING", 11), ("CELLULAR_STATUS_FLAG_CONNECTED", 12)] }

def e_common_COMP_METADATA_TYPE : EnumDef := { name := "common.COMP_METADATA_TYPE", form := Marshal.plain, consts :=
  [("COMP_METADATA_TYPE_GENERAL", 0), ("COMP_METADATA_TYPE_PARAMETER", 1), ("COMP_METADATA_TYPE_COMMANDS", 2), ("COMP_METADATA_TYPE_PERIPHERALS", 3), ("COMP_METADATA_TYPE_EVENTS", 4), ("COMP_METADATA_TYPE_ACTUATORS", 5)] }

def e_common_ESC_CONNECTION_TYPE : EnumDef := { name := "common.ESC_CONNECTION_TYPE", form := Marshal.plain, consts :=
  [("ESC_CONNECTION_TYPE_PPM", 0), ("ESC_CONNECTION_TYPE_SERIAL", 1), ("ESC_CONNECTION_TYPE_ONESHOT", 2), ("ESC_CONNECTION_TYPE_I2C", 3), ("ESC_CONNECTION_TYPE_CAN", 4), ("ESC_CONNECTION_TYPE_DSHOT", 5)] }

def e_common_ESC_FAILURE_FLAGS : EnumDef := { name := "common.ESC_FAILURE_FLAGS", form := Marshal.valueList [1, 2, 4, 8, 16, 32, 64], consts :=
  [("ESC_FAILURE_OVER_CURRENT", 1), ("ESC_FAILURE_OVER_VOLTAGE", 2), ("ESC_FAILURE_OVER_TEMPERATURE", 4), ("ESC_FAILURE_OVER_RPM", 8), ("ESC_FAILURE_INCONSISTENT_CMD", 16), ("ESC_FAILURE_MOTOR_STUCK", 32), ("ESC_FAILURE_GENERIC", 64)] }

def e_common_ESTIMATOR_STATUS_FLAGS : EnumDef := { name := "common.ESTIMATOR_STATUS_FLAGS", form := Marshal.valueList [1, 2, 4, 8, 16, 32, 64, 128, 256, 512, 1024, 2048], consts :=
  [("ESTIMATOR_ATTITUDE", 1), ("ESTIMATOR_VELOCITY_HORIZ", 2), ("ESTIMATOR_VELOCITY_VERT", 4), ("ESTIMATOR_POS_HORIZ_REL", 8), ("ESTIMATOR_POS_HORIZ_ABS", 16), ("ESTIMATOR_POS_VERT_ABS", 32), ("ESTIMATOR_POS_VERT_AGL", 64), ("ESTIMATOR_CONST_POS_MODE", 128), ("ESTIMATOR_PRED_POS_HORIZ_REL", 256), ("ESTIMATOR_PRED_POS_HORIZ_ABS", 512), ("ESTIMATOR_GPS_GLITCH", 1024), ("ESTIMATOR_ACCEL_ERROR", 2048)] }

def e_common_FAILURE_TYPE : EnumDef := { name := "common.FAILURE_TYPE", form := Marshal.plain, consts :=
  [("FAILURE_TYPE_OK", 0), ("FAILURE_TYPE_OFF", 1), ("FAILURE_TYPE_STUCK", 2), ("FAILURE_TYPE_GARBAGE", 3), ("FAILURE_TYPE_WRONG", 4), ("FAILURE_TYPE_SLOW", 5), ("FAILURE_TYPE_DELAYED", 6), ("FAILURE_TYPE_INTERMITTENT", 7)] }

def e_common_FAILURE_UNIT : EnumDef := { name := "common.FAILURE_UNIT", form := Marshal.plain, consts :=
  [("FAILURE_UNIT_SENSOR_GYRO", 0), ("FAILURE_UNIT_SENSOR_ACCEL", 1), ("FAILURE_UNIT_SENSOR_MAG", 2), ("FAILURE_UNIT_SENSOR_BARO", 3), ("FAILURE_UNIT_SENSOR_GPS", 4), ("FAILURE_UNIT_SENSOR_OPTICAL_FLOW", 5), ("FAILURE_UNIT_SENSOR_VIO", 6), ("FAILURE_UNIT_SENSOR_DISTANCE_SENSOR", 7), ("FAILURE_UNIT_SENSOR_AIRSPEED", 8), ("FAILURE_UNIT_SYSTEM_BATTERY", 100), ("FAILURE_UNIT_SYSTEM_MOTOR", 101), ("FAILURE_UNIT_SYSTEM_SERVO", 102), ("FAILURE_UNIT_SYSTEM_AVOIDANCE", 103), ("FAILURE_UNIT_SYSTEM_RC_SIGNAL", 104), ("FAILURE_UNIT_SYSTEM_MAVLINK_SIGNAL", 105)] }

def e_common_FENCE_ACTION : EnumDef := { name := "common.FENCE_ACTION", form := Marshal.plain, consts :=
  [("FENCE_ACTION_NONE", 0), ("FENCE_ACTION_GUIDED", 1), ("FENCE_ACTION_REPORT", 2), ("FENCE_ACTION_GUIDED_THR_PASS", 3), ("FENCE_ACTION_RTL", 4), ("FENCE_ACTION_HOLD", 5), ("FENCE_ACTION_TERMINATE", 6), ("FENCE_ACTION_LAND", 7)] }

def e_common_FENCE_BREACH : EnumDef := { name := "common.FENCE_BREACH", form := Marshal.plain, consts :=
  [("FENCE_BREACH_NONE", 0), ("FENCE_BREACH_MINALT", 1), ("FENCE_BREACH_MAXALT", 2), ("FENCE_BREACH_BOUNDARY", 3)] }

def e_common_FENCE_MITIGATE : EnumDef := { name := "common.FENCE_MITIGATE", form := Marshal.plain, consts :=
  [("FENCE_MITIGATE_UNKNOWN", 0), ("FENCE_MITIGATE_NONE", 1), ("FENCE_MITIGATE_VEL_LIMIT", 2)] }

def e_common_FENCE_TYPE : EnumDef := { name := "common.FENCE_TYPE", form := Marshal.valueList [0, 1, 2, 4, 8], consts :=
  [("FENCE_TYPE_ALL", 0), ("FENCE_TYPE_ALT_MAX", 1), ("FENCE_TYPE_CIRCLE", 2), ("FENCE_TYPE_POLYGON", 4), ("FENCE_TYPE_ALT_MIN", 8)] }

def e_common_FIRMWARE_VERSION_TYPE : EnumDef := { name := "common.FIRMWARE_VERSION_TYPE", form := Marshal.plain, consts :=
  [("FIRMWARE_VERSION_TYPE_DEV", 0), ("FIRMWARE_VERSION_TYPE_ALPHA", 64), ("FIRMWARE_VERSION_TYPE_BETA", 128), ("FIRMWARE_VERSION_TYPE_RC", 192), ("FIRMWARE_VERSION_TYPE_OFFICIAL", 255)] }

def e_common_GIMBAL_DEVICE_CAP_FLAGS : EnumDef := { name := "common.GIMBAL_DEVICE_CAP_FLAGS", form := Marshal.valueList [1, 2, 4, 8, 16, 32, 64, 128, 256, 512, 1024, 2048, 4096, 8192], consts :=
  [("GIMBAL_DEVICE_CAP_FLAGS_HAS_RETRACT", 1), ("GIMBAL_DEVICE_CAP_FLAGS_HAS_NEUTRAL", 2), ("GIMBAL_DEVICE_CAP_FLAGS_HAS_ROLL_AXIS", 4), ("GIMBAL_DEVICE_CAP_FLAGS_HAS_ROLL_FOLLOW", 8), ("GIMBAL_DEVICE_CAP_FLAGS_HAS_ROLL_LOCK", 16), ("GIMBAL_DEVICE_CAP_FLAGS_HAS_PITCH_AXIS", 32), ("GIMBAL_DEVICE_CAP_FLAGS_HAS_PITCH_FOLLOW", 64), ("GIMBAL_DEVICE_CAP_FLAGS_HAS_PITCH_LOCK", 128), ("GIMBAL_DEVICE_CAP_FLAGS_HAS_YAW_AXIS", 256), ("GIMBAL_DEVICE_CAP_FLAGS_HAS_YAW_FOLLOW", 512), ("GIMBAL_DEVICE_CAP_FLAGS_HAS_YAW_LOCK", 1024), ("GIMBAL_DEVICE_CAP_FLAGS_SUPPORTS_INFINITE_YAW", 2048), ("GIMBAL_DEVICE_CAP_FLAGS_SUPPORTS_YAW_IN_EARTH_FRAME", 4096), ("GIMBAL_DEVICE_CAP_FLAGS_HAS_RC_INPUTS", 8192)] }

def e_common_GIMBAL_DEVICE_ERROR_FLAGS : EnumDef := { name := "common.GIMBAL_DEVICE_ERROR_FLAGS", form := Marshal.valueList [1, 2, 4, 8, 16, 32, 64, 128, 256, 512], consts :=
  [("GIMBAL_DEVICE_ERROR_FLAGS_AT_ROLL_LIMIT", 1), ("GIMBAL_DEVICE_ERROR_FLAGS_AT_PITCH_LIMIT", 2), ("GIMBAL_DEVICE_ERROR_FLAGS_AT_YAW_LIMIT", 4), ("GIMBAL_DEVICE_ERROR_FLAGS_ENCODER_ERROR", 8), ("GIMBAL_DEVICE_ERROR_FLAGS_POWER_ERROR", 16), ("GIMBAL_DEVICE_ERROR_FLAGS_MOTOR_ERROR", 32), ("GIMBAL_DEVICE_ERROR_FLAGS_SOFTWARE_ERROR", 64), ("GIMBAL_DEVICE_ERROR_FLAGS_COMMS_ERROR", 128), ("GIMBAL_DEVICE_ERROR_FLAGS_CALIBRATION_RUNNING", 256), ("GIMBAL_DEVICE_ERROR_FLAGS_NO_MANAGER", 512)] }

def e_common_GIMBAL_DEVICE_FLAGS : EnumDef := { name := "common.GIMBAL_DEVICE_FLAGS", form := Marshal.valueList [1, 2, 4, 8, 16, 32, 64, 128, 256, 512], consts :=
  [("GIMBAL_DEVICE_FLAGS_RETRACT", 1), ("GIMBAL_DEVICE_FLAGS_NEUTRAL", 2), ("GIMBAL_DEVICE_FLAGS_ROLL_LOCK", 4), ("GIMBAL_DEVICE_FLAGS_PITCH_LOCK", 8), ("GIMBAL_DEVICE_FLAGS_YAW_LOCK", 16), ("GIMBAL_DEVICE_FLAGS_YAW_IN_VEHICLE_FRAME", 32), ("GIMBAL_DEVICE_FLAGS_YAW_IN_EARTH_FRAME", 64), ("GIMBAL_DEVICE_FLAGS_ACCEPTS_YAW_IN_EARTH_FRAME", 128), ("GIMBAL_DEVICE_FLAGS_RC_EXCLUSIVE", 256), ("GIMBAL_DEVICE_FLAGS_RC_MIXED", 512)] }

def e_common_GIMBAL_MANAGER_CAP_FLAGS : EnumDef := { name := "common.GIMBAL_MANAGER_CAP_FLAGS", form := Marshal.valueList [1, 2, 4, 8, 16, 32, 64, 128, 256, 512, 1024, 2048, 4096, 8192, 65536, 131072], consts :=
  [("GIMBAL_MANAGER_CAP_FLAGS_HAS_RETRACT", 1), ("GIMBAL_MANAGER_CAP_FLAGS_HAS_NEUTRAL", 2), ("GIMBAL_MANAGER_CAP_FLAGS_HAS_ROLL_AXIS", 4), ("GIMBAL_MANAGER_CAP_FLAGS_HAS_ROLL_FOLLOW", 8), ("GIMBAL_MANAGER_CAP_FLAGS_HAS_ROLL_LOCK", 16), ("GIMBAL_MANAGER_CAP_FLAGS_HAS_PITCH_AXIS", 32), ("GIMBAL_MANAGER_CAP_FLAGS_HAS_PITCH_FOLLOW", 64), ("GIMBAL_MANAGER_CAP_FLAGS_HAS_PITCH_LOCK", 128), ("GIMBAL_MANAGER_CAP_FLAGS_HAS_YAW_AXIS", 256), ("GIMBAL_MANAGER_CAP_FLAGS_HAS_YAW_FOLLOW", 512), ("GIMBAL_MANAGER_CAP_FLAGS_HAS_YAW_LOCK", 1024), ("GIMBAL_MANAGER_CAP_FLAGS_SUPPORTS_INFINITE_YAW", 2048), ("GIMBAL_MANAGER_CAP_FLAGS_SUPPORTS_YAW_IN_EARTH_FRAME", 4096), ("GIMBAL_MANAGER_CAP_FLAGS_HAS_RC_INPUTS", 8192), ("GIMBAL_MANAGER_CAP_FLAGS_CAN_POINT_LOCATION_LOCAL", 65536), ("GIMBAL_MANAGER_CAP_FLAGS_CAN_POINT_LOCATION_GLOBAL", 131072)] }

def e_common_GIMBAL_MANAGER_FLAGS : EnumDef := { name := "common.GIMBAL_MANAGER_FLAGS", form := Marshal.valueList [1, 2, 4, 8, 16, 32, 64, 128, 256, 512], consts :=
  [("GIMBAL_MANAGER_FLAGS_RETRACT", 1), ("GIMBAL_MANAGER_FLAGS_NEUTRAL", 2), ("GIMBAL_MANAGER_FLAGS_ROLL_LOCK", 4), ("GIMBAL_MANAGER_FLAGS_PITCH_LOCK", 8), ("GIMBAL_MANAGER_FLAGS_YAW_LOCK", 16), ("GIMBAL_MANAGER_FLAGS_YAW_IN_VEHICLE_FRAME", 32), ("GIMBAL_MANAGER_FLAGS_YAW_IN_EARTH_FRAME", 64), ("GIMBAL_MANAGER_FLAGS_ACCEPTS_YAW_IN_EARTH_FRAME", 128), ("GIMBAL_MANAGER_FLAGS_RC_EXCLUSIVE", 256), ("GIMBAL_MANAGER_FLAGS_RC_MIXED", 512)] }

def e_common_GPS_FIX_TYPE : EnumDef := { name := "common.GPS_FIX_TYPE", form := Marshal.plain, consts :=
  [("GPS_FIX_TYPE_NO_GPS", 0), ("GPS_FIX_TYPE_NO_FIX", 1), ("GPS_FIX_TYPE_2D_FIX", 2), ("GPS_FIX_TYPE_3D_FIX", 3), ("GPS_FIX_TYPE_DGPS", 4), ("GPS_FIX_TYPE_RTK_FLOAT", 5), ("GPS_FIX_TYPE_RTK_FIXED", 6), ("GPS_FIX_TYPE_STATIC", 7), ("GPS_FIX_TYPE_PPP", 8)] }

def e_common_GPS_INPUT_IGNORE_FLAGS : EnumDef := { name := "common.GPS_INPUT_IGNORE_FLAGS", form := Marshal.valueList [1, 2, 4, 8, 16, 32, 64, 128], consts :=
  [("GPS_INPUT_IGNORE_FLAG_ALT", 1), ("GPS_INPUT_IGNORE_FLAG_HDOP", 2), ("GPS_INPUT_IGNORE_FLAG_VDOP", 4), ("GPS_INPUT_IGNORE_FLAG_VEL_HORIZ", 8), ("GPS_INPUT_IGNORE_FLAG_VEL_VERT", 16), ("GPS_INPUT_IGNORE_FLAG_SPEED_ACCURACY", 32), ("GPS_INPUT_IGNORE_FLAG_HORIZONTAL_ACCURACY", 64), ("GPS_INPUT_IGNORE_FLAG_VERTICAL_ACCURACY", 128)] }

def e_common_GRIPPER_ACTIONS : EnumDef := { name := "common.GRIPPER_ACTIONS", form := Marshal.plain, consts :=
  [("GRIPPER_ACTION_RELEASE", 0), ("GRIPPER_ACTION_GRAB", 1)] }

def e_common_HIGHRES_IMU_UPDATED_FLAGS : EnumDef := { name := "common.HIGHRES_IMU_UPDATED_FLAGS", form := Marshal.valueList [1, 2, 4, 8, 16, 32, 64, 128, 256, 512, 1024, 2048, 4096], consts :=
  [("HIGHRES_IMU_UPDATED_XACC", 1), ("HIGHRES_IMU_UPDATED_YACC", 2), ("HIGHRES_IMU_UPDATED_ZACC", 4), ("HIGHRES_IMU_UPDATED_XGYRO", 8), ("HIGHRES_IMU_UPDATED_YGYRO", 16), ("HIGHRES_IMU_UPDATED_ZGYRO", 32), ("HIGHRES_IMU_UPDATED_XMAG", 64), ("HIGHRES_IMU_UPDATED_YMAG", 128), ("HIGHRES_IMU_UPDATED_ZMAG", 256), ("HIGHRES_IMU_UPDATED_ABS_PRESSURE", 512), ("HIGHRES_IMU_UPDATED_DIFF_PRESSURE", 1024), ("HIGHRES_IMU_UPDATED_PRESSURE_ALT", 2048), ("HIGHRES_IMU_UPDATED_TEMPERATURE", 4096)] }

def e_common_HIL_SENSOR_UPDATED_FLAGS : EnumDef := { name := "common.HIL_SENSOR_UPDATED_FLAGS", form := Marshal.valueList [1, 2, 4, 8, 16, 32, 64, 128, 256, 512, 1024, 2048, 4096, 2147483648], consts :=
  [("HIL_SENSOR_UPDATED_XACC", 1), ("HIL_SENSOR_UPDATED_YACC", 2), ("HIL_SENSOR_UPDATED_ZACC", 4), ("HIL_SENSOR_UPDATED_XGYRO", 8), ("HIL_SENSOR_UPDATED_YGYRO", 16), ("HIL_SENSOR_UPDATED_ZGYRO", 32), ("HIL_SENSOR_UPDATED_XMAG", 64), ("HIL_SENSOR_UPDATED_YMAG", 128), ("HIL_SENSOR_UPDATED_ZMAG", 256), ("HIL_SENSOR_UPDATED_ABS_PRESSURE", 512), ("HIL_SENSOR_UPDATED_DIFF_PRESSURE", 1024), ("HIL_SENSOR_UPDATED_PRESSURE_ALT", 2048), ("HIL_SENSOR_UPDATED_TEMPERATURE", 4096), ("HIL_SENSOR_UPDATED_RESET", 2147483648)] }

def e_common_HL_FAILURE_FLAG : EnumDef := { name := "common.HL_FAILURE_FLAG", form := Marshal.valueList [1, 2, 4, 8, 16, 32, 64, 128, 256, 512, 1024, 2048, 4096, 8192], consts :=
  [("HL_FAILURE_FLAG_GPS", 1), ("HL_FAILURE_FLAG_DIFFERENTIAL_PRESSURE", 2), ("HL_FAILURE_FLAG_ABSOLUTE_PRESSURE", 4), ("HL_FAILURE_FLAG_3D_ACCEL", 8), ("HL_FAILURE_FLAG_3D_GYRO", 16), ("HL_FAILURE_FLAG_3D_MAG", 32), ("HL_FAILURE_FLAG_TERRAIN", 64), ("HL_FAILURE_FLAG_BATTERY", 128), ("HL_FAILURE_FLAG_RC_RECEIVER", 256), ("HL_FAILURE_FLAG_OFFBOARD_LINK", 512), ("HL_FAILURE_FLAG_ENGINE", 1024), ("HL_FAILURE_FLAG_GEOFENCE", 2048), ("HL_FAILURE_FLAG_ESTIMATOR", 4096), ("HL_FAILURE_FLAG_MISSION", 8192)] }

def e_common_ILLUMINATOR_ERROR_FLAGS : EnumDef := { name := "common.ILLUMINATOR_ERROR_FLAGS", form := Marshal.valueList [1, 2, 4], consts :=
  [("ILLUMINATOR_ERROR_FLAGS_THERMAL_THROTTLING", 1), ("ILLUMINATOR_ERROR_FLAGS_OVER_TEMPERATURE_SHUTDOWN", 2), ("ILLUMINATOR_ERROR_FLAGS_THERMISTOR_FAILURE", 4)] }

def enums_3 : List EnumDef := [e_common_CELLULAR_NETWORK_RADIO_TYPE, e_common_CELLULAR_STATUS_FLAG, e_common_COMP_METADATA_TYPE, e_common_ESC_CONNECTION_TYPE, e_common_ESC_FAILURE_FLAGS, e_common_ESTIMATOR_STATUS_FLAGS, e_common_FAILURE_TYPE, e_common_FAILURE_UNIT, e_common_FENCE_ACTION, e_common_FENCE_BREACH, e_common_FENCE_MITIGATE, e_common_FENCE_TYPE, e_common_FIRMWARE_VERSION_TYPE, e_common_GIMBAL_DEVICE_CAP_FLAGS, e_common_GIMBAL_DEVICE_ERROR_FLAGS, e_common_GIMBAL_DEVICE_FLAGS, e_common_GIMBAL_MANAGER_CAP_FLAGS, e_common_GIMBAL_MANAGER_FLAGS, e_common_GPS_FIX_TYPE, e_common_GPS_INPUT_IGNORE_FLAGS, e_common_GRIPPER_ACTIONS, e_common_HIGHRES_IMU_UPDATED_FLAGS, e_common_HIL_SENSOR_UPDATED_FLAGS, e_common_HL_FAILURE_FLAG, e_common_ILLUMINATOR_ERROR_FLAGS]

end Mav.Gen
