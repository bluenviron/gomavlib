-- GENERATED by tools/extract from pkg/dialects/*/enum_*.go — do not edit
import Mav.Model.EnumText
namespace Mav.Gen
open Mav.EnumText

def e_common_ILLUMINATOR_MODE : EnumDef := { name := "common.ILLUMINATOR_MODE", form := Marshal.plain, consts :=
  [("ILLUMINATOR_MODE_UNKNOWN", 0), ("ILLUMINATOR_MODE_INTERNAL_CONTROL", 1), ("ILLUMINATOR_MODE_EXTERNAL_SYNC", 2)] }

def e_common_LANDING_TARGET_TYPE : EnumDef := { name := "common.LANDING_TARGET_TYPE", form := Marshal.plain, consts :=
  [("LANDING_TARGET_TYPE_LIGHT_BEACON", 0), ("LANDING_TARGET_TYPE_RADIO_BEACON", 1), ("LANDING_TARGET_TYPE_VISION_FIDUCIAL", 2), ("LANDING_TARGET_TYPE_VISION_OTHER", 3)] }

def e_common_MAG_CAL_STATUS : EnumDef := { name := "common.MAG_CAL_STATUS", form := Marshal.plain, consts :=
  [("MAG_CAL_NOT_STARTED", 0), ("MAG_CAL_WAITING_TO_START", 1), ("MAG_CAL_RUNNING_STEP_ONE", 2), ("MAG_CAL_RUNNING_STEP_TWO", 3), ("MAG_CAL_SUCCESS", 4), ("MAG_CAL_FAILED", 5), ("MAG_CAL_BAD_ORIENTATION", 6), ("MAG_CAL_BAD_RADIUS", 7)] }

def e_common_MAVLINK_DATA_STREAM_TYPE : EnumDef := { name := "common.MAVLINK_DATA_STREAM_TYPE", form := Marshal.plain, consts :=
  [("MAVLINK_DATA_STREAM_IMG_JPEG", 0), ("MAVLINK_DATA_STREAM_IMG_BMP", 1), ("MAVLINK_DATA_STREAM_IMG_RAW8U", 2), ("MAVLINK_DATA_STREAM_IMG_RAW32U", 3), ("MAVLINK_DATA_STREAM_IMG_PGM", 4), ("MAVLINK_DATA_STREAM_IMG_PNG", 5)] }

def e_common_MAV_ARM_AUTH_DENIED_REASON : EnumDef := { name := "common.MAV_ARM_AUTH_DENIED_REASON", form := Marshal.plain, consts :=
  [("MAV_ARM_AUTH_DENIED_REASON_GENERIC", 0), ("MAV_ARM_AUTH_DENIED_REASON_NONE", 1), ("MAV_ARM_AUTH_DENIED_REASON_INVALID_WAYPOINT", 2), ("MAV_ARM_AUTH_DENIED_REASON_TIMEOUT", 3), ("MAV_ARM_AUTH_DENIED_REASON_AIRSPACE_IN_USE", 4), ("MAV_ARM_AUTH_DENIED_REASON_BAD_WEATHER", 5)] }

def e_common_MAV_BATTERY_CHARGE_STATE : EnumDef := { name := "common.MAV_BATTERY_CHARGE_STATE", form := Marshal.plain, consts :=
  [("MAV_BATTERY_CHARGE_STATE_UNDEFINED", 0), ("MAV_BATTERY_CHARGE_STATE_OK", 1), ("MAV_BATTERY_CHARGE_STATE_LOW", 2), ("MAV_BATTERY_CHARGE_STATE_CRITICAL", 3), ("MAV_BATTERY_CHARGE_STATE_EMERGENCY", 4), ("MAV_BATTERY_CHARGE_STATE_FAILED", 5), ("MAV_BATTERY_CHARGE_STATE_UNHEALTHY", 6), ("MAV_BATTERY_CHARGE_STATE_CHARGING", 7)] }

def e_common_MAV_BATTERY_FAULT : EnumDef := { name := "common.MAV_BATTERY_FAULT", form := Marshal.valueList [1, 2, 4, 8, 16, 32, 64, 128, 256], consts :=
  [("MAV_BATTERY_FAULT_DEEP_DISCHARGE", 1), ("MAV_BATTERY_FAULT_SPIKES", 2), ("MAV_BATTERY_FAULT_CELL_FAIL", 4), ("MAV_BATTERY_FAULT_OVER_CURRENT", 8), ("MAV_BATTERY_FAULT_OVER_TEMPERATURE", 16), ("MAV_BATTERY_FAULT_UNDER_TEMPERATURE", 32), ("MAV_BATTERY_FAULT_INCOMPATIBLE_VOLTAGE", 64), ("MAV_BATTERY_FAULT_INCOMPATIBLE_FIRMWARE", 128), ("BATTERY_FAULT_INCOMPATIBLE_CELLS_CONFIGURATION", 256)] }

def e_common_MAV_BATTERY_FUNCTION : EnumDef := { name := "common.MAV_BATTERY_FUNCTION", form := Marshal.plain, consts :=
  [("MAV_BATTERY_FUNCTION_UNKNOWN", 0), ("MAV_BATTERY_FUNCTION_ALL", 1), ("MAV_BATTERY_FUNCTION_PROPULSION", 2), ("MAV_BATTERY_FUNCTION_AVIONICS", 3), ("MAV_BATTERY_FUNCTION_PAYLOAD", 4)] }

def e_common_MAV_BATTERY_MODE : EnumDef := { name := "common.MAV_BATTERY_MODE", form := Marshal.plain, consts :=
  [("MAV_BATTERY_MODE_UNKNOWN", 0), ("MAV_BATTERY_MODE_AUTO_DISCHARGING", 1), ("MAV_BATTERY_MODE_HOT_SWAP", 2)] }

def e_common_MAV_BATTERY_TYPE : EnumDef := { name := "common.MAV_BATTERY_TYPE", form := Marshal.plain, consts :=
  [("MAV_BATTERY_TYPE_UNKNOWN", 0), ("MAV_BATTERY_TYPE_LIPO", 1), ("MAV_BATTERY_TYPE_LIFE", 2), ("MAV_BATTERY_TYPE_LION", 3), ("MAV_BATTERY_TYPE_NIMH", 4)] }

def e_common_MAV_CMD : EnumDef := { name := "common.MAV_CMD", form := Marshal.plain, consts :=
  [("MAV_CMD_NAV_WAYPOINT", 16), ("MAV_CMD_NAV_LOITER_UNLIM", 17), ("MAV_CMD_NAV_LOITER_TURNS", 18), ("MAV_CMD_NAV_LOITER_TIME", 19), ("MAV_CMD_NAV_RETURN_TO_LAUNCH", 20), ("MAV_CMD_NAV_LAND", 21), ("MAV_CMD_NAV_TAKEOFF", 22), ("MAV_CMD_NAV_LAND_LOCAL", 23), ("MAV_CMD_NAV_TAKEOFF_LOCAL", 24), ("MAV_CMD_NAV_FOLLOW", 25), ("MAV_CMD_NAV_CONTINUE_AND_CHANGE_ALT", 30), ("MAV_CMD_NAV_LOITER_TO_ALT", 31), ("MAV_CMD_DO_FOLLOW", 32), ("MAV_CMD_DO_FOLLOW_REPOSITION", 33), ("MAV_CMD_DO_ORBIT", 34), ("MAV_CMD_NAV_ROI", 80), ("MAV_CMD_NAV_PATHPLANNING", 81), ("MAV_CMD_NAV_SPLINE_WAYPOINT", 82), ("MAV_CMD_NAV_VTOL_TAKEOFF", 84), ("MAV_CMD_NAV_VTOL_LAND", 85), ("MAV_CMD_NAV_GUIDED_ENABLE", 92), ("MAV_CMD_NAV_DELAY", 93), ("MAV_CMD_NAV_PAYLOAD_PLACE", 94), ("MAV_CMD_NAV_LAST", 95), ("MAV_CMD_CONDITION_DELAY", 112), ("MAV_CMD_CONDITION_CHANGE_ALT", 113), ("MAV_CMD_CONDITION_DISTANCE", 114), ("MAV_CMD_CONDITION_YAW", 115), ("MAV_CMD_CONDITION_LAST", 159), ("MAV_CMD_DO_SET_MODE", 176), ("MAV_CMD_DO_JUMP", 177), ("MAV_CMD_DO_CHANGE_SPEED", 178), ("MAV_CMD_DO_SET_HOME", 179), ("MAV_CMD_DO_SET_PARAMETER", 180), ("MAV_CMD_DO_SET_RELAY", 181), ("MAV_CMD_DO_REPEAT_RELAY", 182), ("MAV_CMD_DO_SET_SERVO", 183), ("MAV_CMD_DO_REPEAT_SERVO", 184), ("MAV_CMD_DO_FLIGHTTERMINATION", 185), ("MAV_CMD_DO_CHANGE_ALTITUDE", 186)] ++
  [("MAV_CMD_DO_SET_ACTUATOR", 187), ("MAV_CMD_DO_RETURN_PATH_START", 188), ("MAV_CMD_DO_LAND_START", 189), ("MAV_CMD_DO_RALLY_LAND", 190), ("MAV_CMD_DO_GO_AROUND", 191), ("MAV_CMD_DO_REPOSITION", 192), ("MAV_CMD_DO_PAUSE_CONTINUE", 193), ("MAV_CMD_DO_SET_REVERSE", 194), ("MAV_CMD_DO_SET_ROI_LOCATION", 195), ("MAV_CMD_DO_SET_ROI_WPNEXT_OFFSET", 196), ("MAV_CMD_DO_SET_ROI_NONE", 197), ("MAV_CMD_DO_SET_ROI_SYSID", 198), ("MAV_CMD_DO_CONTROL_VIDEO", 200), ("MAV_CMD_DO_SET_ROI", 201), ("MAV_CMD_DO_DIGICAM_CONFIGURE", 202), ("MAV_CMD_DO_DIGICAM_CONTROL", 203), ("MAV_CMD_DO_MOUNT_CONFIGURE", 204), ("MAV_CMD_DO_MOUNT_CONTROL", 205), ("MAV_CMD_DO_SET_CAM_TRIGG_DIST", 206), ("MAV_CMD_DO_FENCE_ENABLE", 207), ("MAV_CMD_DO_PARACHUTE", 208), ("MAV_CMD_DO_MOTOR_TEST", 209), ("MAV_CMD_DO_INVERTED_FLIGHT", 210), ("MAV_CMD_DO_GRIPPER", 211), ("MAV_CMD_DO_AUTOTUNE_ENABLE", 212), ("MAV_CMD_NAV_SET_YAW_SPEED", 213), ("MAV_CMD_DO_SET_CAM_TRIGG_INTERVAL", 214), ("MAV_CMD_DO_MOUNT_CONTROL_QUAT", 220), ("MAV_CMD_DO_GUIDED_MASTER", 221), ("MAV_CMD_DO_GUIDED_LIMITS", 222), ("MAV_CMD_DO_ENGINE_CONTROL", 223), ("MAV_CMD_DO_SET_MISSION_CURRENT", 224), ("MAV_CMD_DO_LAST", 240), ("MAV_CMD_PREFLIGHT_CALIBRATION", 241), ("MAV_CMD_PREFLIGHT_SET_SENSOR_OFFSETS", 242), ("MAV_CMD_PREFLIGHT_UAVCAN", 243), ("MAV_CMD_PREFLIGHT_STORAGE", 245), ("MAV_CMD_PREFLIGHT_REBOOT_SHUTDOWN", 246), ("MAV_CMD_OVERRIDE_GOTO", 252), ("MAV_CMD_OBLIQUE_SURVEY", 260)] ++
  [("MAV_CMD_DO_SET_STANDARD_MODE", 262), ("MAV_CMD_MISSION_START", 300), ("MAV_CMD_ACTUATOR_TEST", 310), ("MAV_CMD_CONFIGURE_ACTUATOR", 311), ("MAV_CMD_COMPONENT_ARM_DISARM", 400), ("MAV_CMD_RUN_PREARM_CHECKS", 401), ("MAV_CMD_ILLUMINATOR_ON_OFF", 405), ("MAV_CMD_DO_ILLUMINATOR_CONFIGURE", 406), ("MAV_CMD_GET_HOME_POSITION", 410), ("MAV_CMD_INJECT_FAILURE", 420), ("MAV_CMD_START_RX_PAIR", 500), ("MAV_CMD_GET_MESSAGE_INTERVAL", 510), ("MAV_CMD_SET_MESSAGE_INTERVAL", 511), ("MAV_CMD_REQUEST_MESSAGE", 512), ("MAV_CMD_REQUEST_PROTOCOL_VERSION", 519), ("MAV_CMD_REQUEST_AUTOPILOT_CAPABILITIES", 520), ("MAV_CMD_REQUEST_CAMERA_INFORMATION", 521), ("MAV_CMD_REQUEST_CAMERA_SETTINGS", 522), ("MAV_CMD_REQUEST_STORAGE_INFORMATION", 525), ("MAV_CMD_STORAGE_FORMAT", 526), ("MAV_CMD_REQUEST_CAMERA_CAPTURE_STATUS", 527), ("MAV_CMD_REQUEST_FLIGHT_INFORMATION", 528), ("MAV_CMD_RESET_CAMERA_SETTINGS", 529), ("MAV_CMD_SET_CAMERA_MODE", 530), ("MAV_CMD_SET_CAMERA_ZOOM", 531), ("MAV_CMD_SET_CAMERA_FOCUS", 532), ("MAV_CMD_SET_STORAGE_USAGE", 533), ("MAV_CMD_SET_CAMERA_SOURCE", 534), ("MAV_CMD_JUMP_TAG", 600), ("MAV_CMD_DO_JUMP_TAG", 601), ("MAV_CMD_DO_GIMBAL_MANAGER_PITCHYAW", 1000), ("MAV_CMD_DO_GIMBAL_MANAGER_CONFIGURE", 1001), ("MAV_CMD_IMAGE_START_CAPTURE", 2000), ("MAV_CMD_IMAGE_STOP_CAPTURE", 2001), ("MAV_CMD_REQUEST_CAMERA_IMAGE_CAPTURE", 2002), ("MAV_CMD_DO_TRIGGER_CONTROL", 2003), ("MAV_CMD_CAMERA_TRACK_POINT", 2004), ("MAV_CMD_CAMERA_TRACK_RECTANGLE", 2005), ("MAV_CMD_CAMERA_STOP_TRACKING", 2010), ("MAV_CMD_VIDEO_START_CAPTURE", 2500)] ++
  [("MAV_CMD_VIDEO_STOP_CAPTURE", 2501), ("MAV_CMD_VIDEO_START_STREAMING", 2502), ("MAV_CMD_VIDEO_STOP_STREAMING", 2503), ("MAV_CMD_REQUEST_VIDEO_STREAM_INFORMATION", 2504), ("MAV_CMD_REQUEST_VIDEO_STREAM_STATUS", 2505), ("MAV_CMD_LOGGING_START", 2510), ("MAV_CMD_LOGGING_STOP", 2511), ("MAV_CMD_AIRFRAME_CONFIGURATION", 2520), ("MAV_CMD_CONTROL_HIGH_LATENCY", 2600), ("MAV_CMD_PANORAMA_CREATE", 2800), ("MAV_CMD_DO_VTOL_TRANSITION", 3000), ("MAV_CMD_ARM_AUTHORIZATION_REQUEST", 3001), ("MAV_CMD_SET_GUIDED_SUBMODE_STANDARD", 4000), ("MAV_CMD_SET_GUIDED_SUBMODE_CIRCLE", 4001), ("MAV_CMD_CONDITION_GATE", 4501), ("MAV_CMD_NAV_FENCE_RETURN_POINT", 5000), ("MAV_CMD_NAV_FENCE_POLYGON_VERTEX_INCLUSION", 5001), ("MAV_CMD_NAV_FENCE_POLYGON_VERTEX_EXCLUSION", 5002), ("MAV_CMD_NAV_FENCE_CIRCLE_INCLUSION", 5003), ("MAV_CMD_NAV_FENCE_CIRCLE_EXCLUSION", 5004), ("MAV_CMD_NAV_RALLY_POINT", 5100), ("MAV_CMD_UAVCAN_GET_NODE_INFO", 5200), ("MAV_CMD_DO_SET_SAFETY_SWITCH_STATE", 5300), ("MAV_CMD_DO_ADSB_OUT_IDENT", 10001), ("MAV_CMD_PAYLOAD_PREPARE_DEPLOY", 30001), ("MAV_CMD_PAYLOAD_CONTROL_DEPLOY", 30002), ("MAV_CMD_FIXED_MAG_CAL_YAW", 42006), ("MAV_CMD_DO_WINCH", 42600), ("MAV_CMD_EXTERNAL_POSITION_ESTIMATE", 43003), ("MAV_CMD_WAYPOINT_USER_1", 31000), ("MAV_CMD_WAYPOINT_USER_2", 31001), ("MAV_CMD_WAYPOINT_USER_3", 31002), ("MAV_CMD_WAYPOINT_USER_4", 31003), ("MAV_CMD_WAYPOINT_USER_5", 31004), ("MAV_CMD_SPATIAL_USER_1", 31005), ("MAV_CMD_SPATIAL_USER_2", 31006), ("MAV_CMD_SPATIAL_USER_3", 31007), ("MAV_CMD_SPATIAL_USER_4", 31008), ("MAV_CMD_SPATIAL_USER_5", 31009), ("MAV_CMD_USER_1", 31010)] ++
  [("MAV_CMD_USER_2", 31011), ("MAV_CMD_USER_3", 31012), ("MAV_CMD_USER_4", 31013), ("MAV_CMD_USER_5", 31014), ("MAV_CMD_CAN_FORWARD", 32000)] }

def e_common_MAV_COLLISION_ACTION : EnumDef := { name := "common.MAV_COLLISION_ACTION", form := Marshal.plain, consts :=
  [("MAV_COLLISION_ACTION_NONE", 0), ("MAV_COLLISION_ACTION_REPORT", 1), ("MAV_COLLISION_ACTION_ASCEND_OR_DESCEND", 2), ("MAV_COLLISION_ACTION_MOVE_HORIZONTALLY", 3), ("MAV_COLLISION_ACTION_MOVE_PERPENDICULAR", 4), ("MAV_COLLISION_ACTION_RTL", 5), ("MAV_COLLISION_ACTION_HOVER", 6)] }

def e_common_MAV_COLLISION_SRC : EnumDef := { name := "common.MAV_COLLISION_SRC", form := Marshal.plain, consts :=
  [("MAV_COLLISION_SRC_ADSB", 0), ("MAV_COLLISION_SRC_MAVLINK_GPS_GLOBAL_INT", 1)] }

def e_common_MAV_COLLISION_THREAT_LEVEL : EnumDef := { name := "common.MAV_COLLISION_THREAT_LEVEL", form := Marshal.plain, consts :=
  [("MAV_COLLISION_THREAT_LEVEL_NONE", 0), ("MAV_COLLISION_THREAT_LEVEL_LOW", 1), ("MAV_COLLISION_THREAT_LEVEL_HIGH", 2)] }

def e_common_MAV_DATA_STREAM : EnumDef := { name := "common.MAV_DATA_STREAM", form := Marshal.plain, consts :=
  [("MAV_DATA_STREAM_ALL", 0), ("MAV_DATA_STREAM_RAW_SENSORS", 1), ("MAV_DATA_STREAM_EXTENDED_STATUS", 2), ("MAV_DATA_STREAM_RC_CHANNELS", 3), ("MAV_DATA_STREAM_RAW_CONTROLLER", 4), ("MAV_DATA_STREAM_POSITION", 6), ("MAV_DATA_STREAM_EXTRA1", 10), ("MAV_DATA_STREAM_EXTRA2", 11), ("MAV_DATA_STREAM_EXTRA3", 12)] }

def e_common_MAV_DISTANCE_SENSOR : EnumDef := { name := "common.MAV_DISTANCE_SENSOR", form := Marshal.plain, consts :=
  [("MAV_DISTANCE_SENSOR_LASER", 0), ("MAV_DISTANCE_SENSOR_ULTRASOUND", 1), ("MAV_DISTANCE_SENSOR_INFRARED", 2), ("MAV_DISTANCE_SENSOR_RADAR", 3), ("MAV_DISTANCE_SENSOR_UNKNOWN", 4)] }

def e_common_MAV_DO_REPOSITION_FLAGS : EnumDef := { name := "common.MAV_DO_REPOSITION_FLAGS", form := Marshal.valueList [1], consts :=
  [("MAV_DO_REPOSITION_FLAGS_CHANGE_MODE", 1)] }

def e_common_MAV_ESTIMATOR_TYPE : EnumDef := { name := "common.MAV_ESTIMATOR_TYPE", form := Marshal.plain, consts :=
  [("MAV_ESTIMATOR_TYPE_UNKNOWN", 0), ("MAV_ESTIMATOR_TYPE_NAIVE", 1), ("MAV_ESTIMATOR_TYPE_VISION", 2), ("MAV_ESTIMATOR_TYPE_VIO", 3), ("MAV_ESTIMATOR_TYPE_GPS", 4), ("MAV_ESTIMATOR_TYPE_GPS_INS", 5), ("MAV_ESTIMATOR_TYPE_MOCAP", 6), ("MAV_ESTIMATOR_TYPE_LIDAR", 7), ("MAV_ESTIMATOR_TYPE_AUTOPILOT", 8)] }

def e_common_MAV_EVENT_CURRENT_SEQUENCE_FLAGS : EnumDef := { name := "common.MAV_EVENT_CURRENT_SEQUENCE_FLAGS", form := Marshal.plain, consts :=
  [("MAV_EVENT_CURRENT_SEQUENCE_FLAGS_RESET", 1)] }

def e_common_MAV_EVENT_ERROR_REASON : EnumDef := { name := "common.MAV_EVENT_ERROR_REASON", form := Marshal.plain, consts :=
  [("MAV_EVENT_ERROR_REASON_UNAVAILABLE", 0)] }

def e_common_MAV_FRAME : EnumDef := { name := "common.MAV_FRAME", form := Marshal.plain, consts :=
  [("MAV_FRAME_GLOBAL", 0), ("MAV_FRAME_LOCAL_NED", 1), ("MAV_FRAME_MISSION", 2), ("MAV_FRAME_GLOBAL_RELATIVE_ALT", 3), ("MAV_FRAME_LOCAL_ENU", 4), ("MAV_FRAME_GLOBAL_INT", 5), ("MAV_FRAME_GLOBAL_RELATIVE_ALT_INT", 6), ("MAV_FRAME_LOCAL_OFFSET_NED", 7), ("MAV_FRAME_BODY_NED", 8), ("MAV_FRAME_BODY_OFFSET_NED", 9), ("MAV_FRAME_GLOBAL_TERRAIN_ALT", 10), ("MAV_FRAME_GLOBAL_TERRAIN_ALT_INT", 11), ("MAV_FRAME_BODY_FRD", 12), ("MAV_FRAME_RESERVED_13", 13), ("MAV_FRAME_RESERVED_14", 14), ("MAV_FRAME_RESERVED_15", 15), ("MAV_FRAME_RESERVED_16", 16), ("MAV_FRAME_RESERVED_17", 17), ("MAV_FRAME_RESERVED_18", 18), ("MAV_FRAME_RESERVED_19", 19), ("MAV_FRAME_LOCAL_FRD", 20), ("MAV_FRAME_LOCAL_FLU", 21)] }

def e_common_MAV_FTP_ERR : EnumDef := { name := "common.MAV_FTP_ERR", form := Marshal.plain, consts :=
  [("MAV_FTP_ERR_NONE", 0), ("MAV_FTP_ERR_FAIL", 1), ("MAV_FTP_ERR_FAILERRNO", 2), ("MAV_FTP_ERR_INVALIDDATASIZE", 3), ("MAV_FTP_ERR_INVALIDSESSION", 4), ("MAV_FTP_ERR_NOSESSIONSAVAILABLE", 5), ("MAV_FTP_ERR_EOF", 6), ("MAV_FTP_ERR_UNKNOWNCOMMAND", 7), ("MAV_FTP_ERR_FILEEXISTS", 8), ("MAV_FTP_ERR_FILEPROTECTED", 9), ("MAV_FTP_ERR_FILENOTFOUND", 10)] }

def e_common_MAV_FTP_OPCODE : EnumDef := { name := "common.MAV_FTP_OPCODE", form := Marshal.plain, consts :=
  [("MAV_FTP_OPCODE_NONE", 0), ("MAV_FTP_OPCODE_TERMINATESESSION", 1), ("MAV_FTP_OPCODE_RESETSESSION", 2), ("MAV_FTP_OPCODE_LISTDIRECTORY", 3), ("MAV_FTP_OPCODE_OPENFILERO", 4), ("MAV_FTP_OPCODE_READFILE", 5), ("MAV_FTP_OPCODE_CREATEFILE", 6), ("MAV_FTP_OPCODE_WRITEFILE", 7), ("MAV_FTP_OPCODE_REMOVEFILE", 8), ("MAV_FTP_OPCODE_CREATEDIRECTORY", 9), ("MAV_FTP_OPCODE_REMOVEDIRECTORY", 10), ("MAV_FTP_OPCODE_OPENFILEWO", 11), ("MAV_FTP_OPCODE_TRUNCATEFILE", 12), ("MAV_FTP_OPCODE_RENAME", 13), ("MAV_FTP_OPCODE_CALCFILECRC", 14), ("MAV_FTP_OPCODE_BURSTREADFILE", 15), ("MAV_FTP_OPCODE_ACK", 128), ("MAV_FTP_OPCODE_NAK", 129)] }

def e_common_MAV_FUEL_TYPE : EnumDef := { name := "common.MAV_FUEL_TYPE", form := Marshal.plain, consts :=
  [("MAV_FUEL_TYPE_UNKNOWN", 0), ("MAV_FUEL_TYPE_LIQUID", 1), ("MAV_FUEL_TYPE_GAS", 2)] }

def e_common_MAV_GENERATOR_STATUS_FLAG : EnumDef := { name := "common.MAV_GENERATOR_STATUS_FLAG", form := Marshal.valueList [1, 2, 4, 8, 16, 32, 64, 128, 256, 512, 1024, 2048, 4096, 8192, 16384, 32768, 65536, 131072, 262144, 524288, 1048576, 2097152, 4194304], consts :=
  [("MAV_GENERATOR_STATUS_FLAG_OFF", 1), ("MAV_GENERATOR_STATUS_FLAG_READY", 2), ("MAV_GENERATOR_STATUS_FLAG_GENERATING", 4), ("MAV_GENERATOR_STATUS_FLAG_CHARGING", 8), ("MAV_GENERATOR_STATUS_FLAG_REDUCED_POWER", 16), ("MAV_GENERATOR_STATUS_FLAG_MAXPOWER", 32), ("MAV_GENERATOR_STATUS_FLAG_OVERTEMP_WARNING", 64), ("MAV_GENERATOR_STATUS_FLAG_OVERTEMP_FAULT", 128), ("MAV_GENERATOR_STATUS_FLAG_ELECTRONICS_OVERTEMP_WARNING", 256), ("MAV_GENERATOR_STATUS_FLAG_ELECTRONICS_OVERTEMP_FAULT", 512), ("MAV_GENERATOR_STATUS_FLAG_ELECTRONICS_FAULT", 1024), ("MAV_GENERATOR_STATUS_FLAG_POWERSOURCE_FAULT", 2048), ("MAV_GENERATOR_STATUS_FLAG_COMMUNICATION_WARNING", 4096), ("MAV_GENERATOR_STATUS_FLAG_COOLING_WARNING", 8192), ("MAV_GENERATOR_STATUS_FLAG_POWER_RAIL_FAULT", 16384), ("MAV_GENERATOR_STATUS_FLAG_OVERCURRENT_FAULT", 32768), ("MAV_GENERATOR_STATUS_FLAG_BATTERY_OVERCHARGE_CURRENT_FAULT", 65536), ("MAV_GENERATOR_STATUS_FLAG_OVERVOLTAGE_FAULT", 131072), ("MAV_GENERATOR_STATUS_FLAG_BATTERY_UNDERVOLT_FAULT", 262144), ("MAV_GENERATOR_STATUS_FLAG_START_INHIBITED", 524288), ("MAV_GENERATOR_STATUS_FLAG_MAINTENANCE_REQUIRED", 1048576), ("MAV_GENERATOR_STATUS_FLAG_WARMING_UP", 2097152), ("MAV_GENERATOR_STATUS_FLAG_IDLE", 4194304)] }

def enums_4 : List EnumDef := [e_common_ILLUMINATOR_MODE, e_common_LANDING_TARGET_TYPE, e_common_MAG_CAL_STATUS, e_common_MAVLINK_DATA_STREAM_TYPE, e_common_MAV_ARM_AUTH_DENIED_REASON, e_common_MAV_BATTERY_CHARGE_STATE, e_common_MAV_BATTERY_FAULT, e_common_MAV_BATTERY_FUNCTION, e_common_MAV_BATTERY_MODE, e_common_MAV_BATTERY_TYPE, e_common_MAV_CMD, e_common_MAV_COLLISION_ACTION, e_common_MAV_COLLISION_SRC, e_common_MAV_COLLISION_THREAT_LEVEL, e_common_MAV_DATA_STREAM, e_common_MAV_DISTANCE_SENSOR, e_common_MAV_DO_REPOSITION_FLAGS, e_common_MAV_ESTIMATOR_TYPE, e_common_MAV_EVENT_CURRENT_SEQUENCE_FLAGS, e_common_MAV_EVENT_ERROR_REASON, e_common_MAV_FRAME, e_common_MAV_FTP_ERR, e_common_MAV_FTP_OPCODE, e_common_MAV_FUEL_TYPE, e_common_MAV_GENERATOR_STATUS_FLAG]

end Mav.Gen
