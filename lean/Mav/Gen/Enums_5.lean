-- GENERATED by tools/extract from pkg/dialects/*/enum_*.go — do not edit
import Mav.Model.EnumText
namespace Mav.Gen
open Mav.EnumText

def e_common_MAV_GOTO : EnumDef := { name := "common.MAV_GOTO", form := Marshal.plain, consts :=
  [("MAV_GOTO_DO_HOLD", 0), ("MAV_GOTO_DO_CONTINUE", 1), ("MAV_GOTO_HOLD_AT_CURRENT_POSITION", 2), ("MAV_GOTO_HOLD_AT_SPECIFIED_POSITION", 3)] }

def e_common_MAV_LANDED_STATE : EnumDef := { name := "common.MAV_LANDED_STATE", form := Marshal.plain, consts :=
  [("MAV_LANDED_STATE_UNDEFINED", 0), ("MAV_LANDED_STATE_ON_GROUND", 1), ("MAV_LANDED_STATE_IN_AIR", 2), ("MAV_LANDED_STATE_TAKEOFF", 3), ("MAV_LANDED_STATE_LANDING", 4)] }

def e_common_MAV_MISSION_RESULT : EnumDef := { name := "common.MAV_MISSION_RESULT", form := Marshal.plain, consts :=
  [("MAV_MISSION_ACCEPTED", 0), ("MAV_MISSION_ERROR", 1), ("MAV_MISSION_UNSUPPORTED_FRAME", 2), ("MAV_MISSION_UNSUPPORTED", 3), ("MAV_MISSION_NO_SPACE", 4), ("MAV_MISSION_INVALID", 5), ("MAV_MISSION_INVALID_PARAM1", 6), ("MAV_MISSION_INVALID_PARAM2", 7), ("MAV_MISSION_INVALID_PARAM3", 8), ("MAV_MISSION_INVALID_PARAM4", 9), ("MAV_MISSION_INVALID_PARAM5_X", 10), ("MAV_MISSION_INVALID_PARAM6_Y", 11), ("MAV_MISSION_INVALID_PARAM7", 12), ("MAV_MISSION_INVALID_SEQUENCE", 13), ("MAV_MISSION_DENIED", 14), ("MAV_MISSION_OPERATION_CANCELLED", 15)] }

def e_common_MAV_MISSION_TYPE : EnumDef := { name := "common.MAV_MISSION_TYPE", form := Marshal.plain, consts :=
  [("MAV_MISSION_TYPE_MISSION", 0), ("MAV_MISSION_TYPE_FENCE", 1), ("MAV_MISSION_TYPE_RALLY", 2), ("MAV_MISSION_TYPE_ALL", 255)] }

def e_common_MAV_MODE : EnumDef := { name := "common.MAV_MODE", form := Marshal.plain, consts :=
  [("MAV_MODE_PREFLIGHT", 0), ("MAV_MODE_STABILIZE_DISARMED", 80), ("MAV_MODE_STABILIZE_ARMED", 208), ("MAV_MODE_MANUAL_DISARMED", 64), ("MAV_MODE_MANUAL_ARMED", 192), ("MAV_MODE_GUIDED_DISARMED", 88), ("MAV_MODE_GUIDED_ARMED", 216), ("MAV_MODE_AUTO_DISARMED", 92), ("MAV_MODE_AUTO_ARMED", 220), ("MAV_MODE_TEST_DISARMED", 66), ("MAV_MODE_TEST_ARMED", 194)] }

def e_common_MAV_MODE_PROPERTY : EnumDef := { name := "common.MAV_MODE_PROPERTY", form := Marshal.valueList [1, 2, 4], consts :=
  [("MAV_MODE_PROPERTY_ADVANCED", 1), ("MAV_MODE_PROPERTY_NOT_USER_SELECTABLE", 2), ("MAV_MODE_PROPERTY_AUTO_MODE", 4)] }

def e_common_MAV_MOUNT_MODE : EnumDef := { name := "common.MAV_MOUNT_MODE", form := Marshal.plain, consts :=
  [("MAV_MOUNT_MODE_RETRACT", 0), ("MAV_MOUNT_MODE_NEUTRAL", 1), ("MAV_MOUNT_MODE_MAVLINK_TARGETING", 2), ("MAV_MOUNT_MODE_RC_TARGETING", 3), ("MAV_MOUNT_MODE_GPS_POINT", 4), ("MAV_MOUNT_MODE_SYSID_TARGET", 5), ("MAV_MOUNT_MODE_HOME_LOCATION", 6)] }

def e_common_MAV_ODID_ARM_STATUS : EnumDef := { name := "common.MAV_ODID_ARM_STATUS", form := Marshal.plain, consts :=
  [("MAV_ODID_ARM_STATUS_GOOD_TO_ARM", 0), ("MAV_ODID_ARM_STATUS_PRE_ARM_FAIL_GENERIC", 1)] }

def e_common_MAV_ODID_AUTH_TYPE : EnumDef := { name := "common.MAV_ODID_AUTH_TYPE", form := Marshal.plain, consts :=
  [("MAV_ODID_AUTH_TYPE_NONE", 0), ("MAV_ODID_AUTH_TYPE_UAS_ID_SIGNATURE", 1), ("MAV_ODID_AUTH_TYPE_OPERATOR_ID_SIGNATURE", 2), ("MAV_ODID_AUTH_TYPE_MESSAGE_SET_SIGNATURE", 3), ("MAV_ODID_AUTH_TYPE_NETWORK_REMOTE_ID", 4), ("MAV_ODID_AUTH_TYPE_SPECIFIC_AUTHENTICATION", 5)] }

def e_common_MAV_ODID_CATEGORY_EU : EnumDef := { name := "common.MAV_ODID_CATEGORY_EU", form := Marshal.plain, consts :=
  [("MAV_ODID_CATEGORY_EU_UNDECLARED", 0), ("MAV_ODID_CATEGORY_EU_OPEN", 1), ("MAV_ODID_CATEGORY_EU_SPECIFIC", 2), ("MAV_ODID_CATEGORY_EU_CERTIFIED", 3)] }

def e_common_MAV_ODID_CLASSIFICATION_TYPE : EnumDef := { name := "common.MAV_ODID_CLASSIFICATION_TYPE", form := Marshal.plain, consts :=
  [("MAV_ODID_CLASSIFICATION_TYPE_UNDECLARED", 0), ("MAV_ODID_CLASSIFICATION_TYPE_EU", 1)] }

def e_common_MAV_ODID_CLASS_EU : EnumDef := { name := "common.MAV_ODID_CLASS_EU", form := Marshal.plain, consts :=
  [("MAV_ODID_CLASS_EU_UNDECLARED", 0), ("MAV_ODID_CLASS_EU_CLASS_0", 1), ("MAV_ODID_CLASS_EU_CLASS_1", 2), ("MAV_ODID_CLASS_EU_CLASS_2", 3), ("MAV_ODID_CLASS_EU_CLASS_3", 4), ("MAV_ODID_CLASS_EU_CLASS_4", 5), ("MAV_ODID_CLASS_EU_CLASS_5", 6), ("MAV_ODID_CLASS_EU_CLASS_6", 7)] }

def e_common_MAV_ODID_DESC_TYPE : EnumDef := { name := "common.MAV_ODID_DESC_TYPE", form := Marshal.plain, consts :=
  [("MAV_ODID_DESC_TYPE_TEXT", 0), ("MAV_ODID_DESC_TYPE_EMERGENCY", 1), ("MAV_ODID_DESC_TYPE_EXTENDED_STATUS", 2)] }

def e_common_MAV_ODID_HEIGHT_REF : EnumDef := { name := "common.MAV_ODID_HEIGHT_REF", form := Marshal.plain, consts :=
  [("MAV_ODID_HEIGHT_REF_OVER_TAKEOFF", 0), ("MAV_ODID_HEIGHT_REF_OVER_GROUND", 1)] }

def e_common_MAV_ODID_HOR_ACC : EnumDef := { name := "common.MAV_ODID_HOR_ACC", form := Marshal.plain, consts :=
  [("MAV_ODID_HOR_ACC_UNKNOWN", 0), ("MAV_ODID_HOR_ACC_10NM", 1), ("MAV_ODID_HOR_ACC_4NM", 2), ("MAV_ODID_HOR_ACC_2NM", 3), ("MAV_ODID_HOR_ACC_1NM", 4), ("MAV_ODID_HOR_ACC_0_5NM", 5), ("MAV_ODID_HOR_ACC_0_3NM", 6), ("MAV_ODID_HOR_ACC_0_1NM", 7), ("MAV_ODID_HOR_ACC_0_05NM", 8), ("MAV_ODID_HOR_ACC_30_METER", 9), ("MAV_ODID_HOR_ACC_10_METER", 10), ("MAV_ODID_HOR_ACC_3_METER", 11), ("MAV_ODID_HOR_ACC_1_METER", 12)] }

def e_common_MAV_ODID_ID_TYPE : EnumDef := { name := "common.MAV_ODID_ID_TYPE", form := Marshal.plain, consts :=
  [("MAV_ODID_ID_TYPE_NONE", 0), ("MAV_ODID_ID_TYPE_SERIAL_NUMBER", 1), ("MAV_ODID_ID_TYPE_CAA_REGISTRATION_ID", 2), ("MAV_ODID_ID_TYPE_UTM_ASSIGNED_UUID", 3), ("MAV_ODID_ID_TYPE_SPECIFIC_SESSION_ID", 4)] }

def e_common_MAV_ODID_OPERATOR_ID_TYPE : EnumDef := { name := "common.MAV_ODID_OPERATOR_ID_TYPE", form := Marshal.plain, consts :=
  [("MAV_ODID_OPERATOR_ID_TYPE_CAA", 0)] }

def e_common_MAV_ODID_OPERATOR_LOCATION_TYPE : EnumDef := { name := "common.MAV_ODID_OPERATOR_LOCATION_TYPE", form := Marshal.plain, consts :=
  [("MAV_ODID_OPERATOR_LOCATION_TYPE_TAKEOFF", 0), ("MAV_ODID_OPERATOR_LOCATION_TYPE_LIVE_GNSS", 1), ("MAV_ODID_OPERATOR_LOCATION_TYPE_FIXED", 2)] }

def e_common_MAV_ODID_SPEED_ACC : EnumDef := { name := "common.MAV_ODID_SPEED_ACC", form := Marshal.plain, consts :=
  [("MAV_ODID_SPEED_ACC_UNKNOWN", 0), ("MAV_ODID_SPEED_ACC_10_METERS_PER_SECOND", 1), ("MAV_ODID_SPEED_ACC_3_METERS_PER_SECOND", 2), ("MAV_ODID_SPEED_ACC_1_METERS_PER_SECOND", 3), ("MAV_ODID_SPEED_ACC_0_3_METERS_PER_SECOND", 4)] }

def e_common_MAV_ODID_STATUS : EnumDef := { name := "common.MAV_ODID_STATUS", form := Marshal.plain, consts :=
  [("MAV_ODID_STATUS_UNDECLARED", 0), ("MAV_ODID_STATUS_GROUND", 1), ("MAV_ODID_STATUS_AIRBORNE", 2), ("MAV_ODID_STATUS_EMERGENCY", 3), ("MAV_ODID_STATUS_REMOTE_ID_SYSTEM_FAILURE", 4)] }

def e_common_MAV_ODID_TIME_ACC : EnumDef := { name := "common.MAV_ODID_TIME_ACC", form := Marshal.plain, consts :=
  [("MAV_ODID_TIME_ACC_UNKNOWN", 0), ("MAV_ODID_TIME_ACC_0_1_SECOND", 1), ("MAV_ODID_TIME_ACC_0_2_SECOND", 2), ("MAV_ODID_TIME_ACC_0_3_SECOND", 3), ("MAV_ODID_TIME_ACC_0_4_SECOND", 4), ("MAV_ODID_TIME_ACC_0_5_SECOND", 5), ("MAV_ODID_TIME_ACC_0_6_SECOND", 6), ("MAV_ODID_TIME_ACC_0_7_SECOND", 7), ("MAV_ODID_TIME_ACC_0_8_SECOND", 8), ("MAV_ODID_TIME_ACC_0_9_SECOND", 9), ("MAV_ODID_TIME_ACC_1_0_SECOND", 10), ("MAV_ODID_TIME_ACC_1_1_SECOND", 11), ("MAV_ODID_TIME_ACC_1_2_SECOND", 12), ("MAV_ODID_TIME_ACC_1_3_SECOND", 13), ("MAV_ODID_TIME_ACC_1_4_SECOND", 14), ("MAV_ODID_TIME_ACC_1_5_SECOND", 15)] }

def e_common_MAV_ODID_UA_TYPE : EnumDef := { name := "common.MAV_ODID_UA_TYPE", form := Marshal.plain, consts :=
  [("MAV_ODID_UA_TYPE_NONE", 0), ("MAV_ODID_UA_TYPE_AEROPLANE", 1), ("MAV_ODID_UA_TYPE_HELICOPTER_OR_MULTIROTOR", 2), ("MAV_ODID_UA_TYPE_GYROPLANE", 3), ("MAV_ODID_UA_TYPE_HYBRID_LIFT", 4), ("MAV_ODID_UA_TYPE_ORNITHOPTER", 5), ("MAV_ODID_UA_TYPE_GLIDER", 6), ("MAV_ODID_UA_TYPE_KITE", 7), ("MAV_ODID_UA_TYPE_FREE_BALLOON", 8), ("MAV_ODID_UA_TYPE_CAPTIVE_BALLOON", 9), ("MAV_ODID_UA_TYPE_AIRSHIP", 10), ("MAV_ODID_UA_TYPE_FREE_FALL_PARACHUTE", 11), ("MAV_ODID_UA_TYPE_ROCKET", 12), ("MAV_ODID_UA_TYPE_TETHERED_POWERED_AIRCRAFT", 13), ("MAV_ODID_UA_TYPE_GROUND_OBSTACLE", 14), ("MAV_ODID_UA_TYPE_OTHER", 15)] }

def e_common_MAV_ODID_VER_ACC : EnumDef := { name := "common.MAV_ODID_VER_ACC", form := Marshal.plain, consts :=
  [("MAV_ODID_VER_ACC_UNKNOWN", 0), ("MAV_ODID_VER_ACC_150_METER", 1), ("MAV_ODID_VER_ACC_45_METER", 2), ("MAV_ODID_VER_ACC_25_METER", 3), ("MAV_ODID_VER_ACC_10_METER", 4), ("MAV_ODID_VER_ACC_3_METER", 5), ("MAV_ODID_VER_ACC_1_METER", 6)] }

def e_common_MAV_PARAM_EXT_TYPE : EnumDef := { name := "common.MAV_PARAM_EXT_TYPE", form := Marshal.plain, consts :=
  [("MAV_PARAM_EXT_TYPE_UINT8", 1), ("MAV_PARAM_EXT_TYPE_INT8", 2), ("MAV_PARAM_EXT_TYPE_UINT16", 3), ("MAV_PARAM_EXT_TYPE_INT16", 4), ("MAV_PARAM_EXT_TYPE_UINT32", 5), ("MAV_PARAM_EXT_TYPE_INT32", 6), ("MAV_PARAM_EXT_TYPE_UINT64", 7), ("MAV_PARAM_EXT_TYPE_INT64", 8), ("MAV_PARAM_EXT_TYPE_REAL32", 9), ("MAV_PARAM_EXT_TYPE_REAL64", 10), ("MAV_PARAM_EXT_TYPE_CUSTOM", 11)] }

def e_common_MAV_PARAM_TYPE : EnumDef := { name := "common.MAV_PARAM_TYPE", form := Marshal.plain, consts :=
  [("MAV_PARAM_TYPE_UINT8", 1), ("MAV_PARAM_TYPE_INT8", 2), ("MAV_PARAM_TYPE_UINT16", 3), ("MAV_PARAM_TYPE_INT16", 4), ("MAV_PARAM_TYPE_UINT32", 5), ("MAV_PARAM_TYPE_INT32", 6), ("MAV_PARAM_TYPE_UINT64", 7), ("MAV_PARAM_TYPE_INT64", 8), ("MAV_PARAM_TYPE_REAL32", 9), ("MAV_PARAM_TYPE_REAL64", 10)] }

def enums_5 : List EnumDef := [e_common_MAV_GOTO, e_common_MAV_LANDED_STATE, e_common_MAV_MISSION_RESULT, e_common_MAV_MISSION_TYPE, e_common_MAV_MODE, e_common_MAV_MODE_PROPERTY, e_common_MAV_MOUNT_MODE, e_common_MAV_ODID_ARM_STATUS, e_common_MAV_ODID_AUTH_TYPE, e_common_MAV_ODID_CATEGORY_EU, e_common_MAV_ODID_CLASSIFICATION_TYPE, e_common_MAV_ODID_CLASS_EU, e_common_MAV_ODID_DESC_TYPE, e_common_MAV_ODID_HEIGHT_REF, e_common_MAV_ODID_HOR_ACC, e_common_MAV_ODID_ID_TYPE, e_common_MAV_ODID_OPERATOR_ID_TYPE, e_common_MAV_ODID_OPERATOR_LOCATION_TYPE, e_common_MAV_ODID_SPEED_ACC, e_common_MAV_ODID_STATUS, e_common_MAV_ODID_TIME_ACC, e_common_MAV_ODID_UA_TYPE, e_common_MAV_ODID_VER_ACC, e_common_MAV_PARAM_EXT_TYPE, e_common_MAV_PARAM_TYPE]

end Mav.Gen
