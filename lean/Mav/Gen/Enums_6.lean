-- GENERATED by tools/extract from pkg/dialects/*/enum_*.go — do not edit
import Mav.Model.EnumText
namespace Mav.Gen
open Mav.EnumText

def e_common_MAV_POWER_STATUS : EnumDef := { name := "common.MAV_POWER_STATUS", form := Marshal.valueList [1, 2, 4, 8, 16, 32], consts :=
  [("MAV_POWER_STATUS_BRICK_VALID", 1), ("MAV_POWER_STATUS_SERVO_VALID", 2), ("MAV_POWER_STATUS_USB_CONNECTED", 4), ("MAV_POWER_STATUS_PERIPH_OVERCURRENT", 8), ("MAV_POWER_STATUS_PERIPH_HIPOWER_OVERCURRENT", 16), ("MAV_POWER_STATUS_CHANGED", 32)] }

def e_common_MAV_PROTOCOL_CAPABILITY : EnumDef := { name := "common.MAV_PROTOCOL_CAPABILITY", form := Marshal.valueList [1, 2, 4, 8, 16, 32, 64, 128, 256, 512, 1024, 2048, 4096, 8192, 16384, 32768, 65536, 131072, 262144, 524288], consts :=
  [("MAV_PROTOCOL_CAPABILITY_MISSION_FLOAT", 1), ("MAV_PROTOCOL_CAPABILITY_PARAM_FLOAT", 2), ("MAV_PROTOCOL_CAPABILITY_MISSION_INT", 4), ("MAV_PROTOCOL_CAPABILITY_COMMAND_INT", 8), ("MAV_PROTOCOL_CAPABILITY_PARAM_ENCODE_BYTEWISE", 16), ("MAV_PROTOCOL_CAPABILITY_FTP", 32), ("MAV_PROTOCOL_CAPABILITY_SET_ATTITUDE_TARGET", 64), ("MAV_PROTOCOL_CAPABILITY_SET_POSITION_TARGET_LOCAL_NED", 128), ("MAV_PROTOCOL_CAPABILITY_SET_POSITION_TARGET_GLOBAL_INT", 256), ("MAV_PROTOCOL_CAPABILITY_TERRAIN", 512), ("MAV_PROTOCOL_CAPABILITY_RESERVED3", 1024), ("MAV_PROTOCOL_CAPABILITY_FLIGHT_TERMINATION", 2048), ("MAV_PROTOCOL_CAPABILITY_COMPASS_CALIBRATION", 4096), ("MAV_PROTOCOL_CAPABILITY_MAVLINK2", 8192), ("MAV_PROTOCOL_CAPABILITY_MISSION_FENCE", 16384), ("MAV_PROTOCOL_CAPABILITY_MISSION_RALLY", 32768), ("MAV_PROTOCOL_CAPABILITY_RESERVED2", 65536), ("MAV_PROTOCOL_CAPABILITY_PARAM_ENCODE_C_CAST", 131072), ("MAV_PROTOCOL_CAPABILITY_COMPONENT_IMPLEMENTS_GIMBAL_MANAGER", 262144), ("MAV_PROTOCOL_CAPABILITY_COMPONENT_ACCEPTS_GCS_CONTROL", 524288)] }

def e_common_MAV_RESULT : EnumDef := { name := "common.MAV_RESULT", form := Marshal.plain, consts :=
  [("MAV_RESULT_ACCEPTED", 0), ("MAV_RESULT_TEMPORARILY_REJECTED", 1), ("MAV_RESULT_DENIED", 2), ("MAV_RESULT_UNSUPPORTED", 3), ("MAV_RESULT_FAILED", 4), ("MAV_RESULT_IN_PROGRESS", 5), ("MAV_RESULT_CANCELLED", 6), ("MAV_RESULT_COMMAND_LONG_ONLY", 7), ("MAV_RESULT_COMMAND_INT_ONLY", 8), ("MAV_RESULT_COMMAND_UNSUPPORTED_MAV_FRAME", 9)] }

def e_common_MAV_ROI : EnumDef := { name := "common.MAV_ROI", form := Marshal.plain, consts :=
  [("MAV_ROI_NONE", 0), ("MAV_ROI_WPNEXT", 1), ("MAV_ROI_WPINDEX", 2), ("MAV_ROI_LOCATION", 3), ("MAV_ROI_TARGET", 4)] }

def e_common_MAV_SENSOR_ORIENTATION : EnumDef := { name := "common.MAV_SENSOR_ORIENTATION", form := Marshal.plain, consts :=
  [("MAV_SENSOR_ROTATION_NONE", 0), ("MAV_SENSOR_ROTATION_YAW_45", 1), ("MAV_SENSOR_ROTATION_YAW_90", 2), ("MAV_SENSOR_ROTATION_YAW_135", 3), ("MAV_SENSOR_ROTATION_YAW_180", 4), ("MAV_SENSOR_ROTATION_YAW_225", 5), ("MAV_SENSOR_ROTATION_YAW_270", 6), ("MAV_SENSOR_ROTATION_YAW_315", 7), ("MAV_SENSOR_ROTATION_ROLL_180", 8), ("MAV_SENSOR_ROTATION_ROLL_180_YAW_45", 9), ("MAV_SENSOR_ROTATION_ROLL_180_YAW_90", 10), ("MAV_SENSOR_ROTATION_ROLL_180_YAW_135", 11), ("MAV_SENSOR_ROTATION_PITCH_180", 12), ("MAV_SENSOR_ROTATION_ROLL_180_YAW_225", 13), ("MAV_SENSOR_ROTATION_ROLL_180_YAW_270", 14), ("MAV_SENSOR_ROTATION_ROLL_180_YAW_315", 15), ("MAV_SENSOR_ROTATION_ROLL_90", 16), ("MAV_SENSOR_ROTATION_ROLL_90_YAW_45", 17), ("MAV_SENSOR_ROTATION_ROLL_90_YAW_90", 18), ("MAV_SENSOR_ROTATION_ROLL_90_YAW_135", 19), ("MAV_SENSOR_ROTATION_ROLL_270", 20), ("MAV_SENSOR_ROTATION_ROLL_270_YAW_45", 21), ("MAV_SENSOR_ROTATION_ROLL_270_YAW_90", 22), ("MAV_SENSOR_ROTATION_ROLL_270_YAW_135", 23), ("MAV_SENSOR_ROTATION_PITCH_90", 24), ("MAV_SENSOR_ROTATION_PITCH_270", 25), ("MAV_SENSOR_ROTATION_PITCH_180_YAW_90", 26), ("MAV_SENSOR_ROTATION_PITCH_180_YAW_270", 27), ("MAV_SENSOR_ROTATION_ROLL_90_PITCH_90", 28), ("MAV_SENSOR_ROTATION_ROLL_180_PITCH_90", 29), ("MAV_SENSOR_ROTATION_ROLL_270_PITCH_90", 30), ("MAV_SENSOR_ROTATION_ROLL_90_PITCH_180", 31), ("MAV_SENSOR_ROTATION_ROLL_270_PITCH_180", 32), ("MAV_SENSOR_ROTATION_ROLL_90_PITCH_270", 33), ("MAV_SENSOR_ROTATION_ROLL_180_PITCH_270", 34), ("MAV_SENSOR_ROTATION_ROLL_270_PITCH_270", 35), ("MAV_SENSOR_ROTATION_ROLL_90_PITCH_180_YAW_90", 36), ("MAV_SENSOR_ROTATION_ROLL_90_YAW_270", 37), ("MAV_SENSOR_ROTATION_ROLL_90_PITCH_68_YAW_293", 38), ("MAV_SENSOR_ROTATION_PITCH_315", 39)] ++
  [("MAV_SENSOR_ROTATION_ROLL_90_PITCH_315", 40), ("MAV_SENSOR_ROTATION_CUSTOM", 100)] }

def e_common_MAV_SEVERITY : EnumDef := { name := "common.MAV_SEVERITY", form := Marshal.plain, consts :=
  [("MAV_SEVERITY_EMERGENCY", 0), ("MAV_SEVERITY_ALERT", 1), ("MAV_SEVERITY_CRITICAL", 2), ("MAV_SEVERITY_ERROR", 3), ("MAV_SEVERITY_WARNING", 4), ("MAV_SEVERITY_NOTICE", 5), ("MAV_SEVERITY_INFO", 6), ("MAV_SEVERITY_DEBUG", 7)] }

def e_common_MAV_STANDARD_MODE : EnumDef := { name := "common.MAV_STANDARD_MODE", form := Marshal.plain, consts :=
  [("MAV_STANDARD_MODE_NON_STANDARD", 0), ("MAV_STANDARD_MODE_POSITION_HOLD", 1), ("MAV_STANDARD_MODE_ORBIT", 2), ("MAV_STANDARD_MODE_CRUISE", 3), ("MAV_STANDARD_MODE_ALTITUDE_HOLD", 4), ("MAV_STANDARD_MODE_SAFE_RECOVERY", 5), ("MAV_STANDARD_MODE_MISSION", 6), ("MAV_STANDARD_MODE_LAND", 7), ("MAV_STANDARD_MODE_TAKEOFF", 8)] }

def e_common_MAV_SYS_STATUS_SENSOR : EnumDef := { name := "common.MAV_SYS_STATUS_SENSOR", form := Marshal.valueList [1, 2, 4, 8, 16, 32, 64, 128, 256, 512, 1024, 2048, 4096, 8192, 16384, 32768, 65536, 131072, 262144, 524288, 1048576, 2097152, 4194304, 8388608, 16777216, 33554432, 67108864, 134217728, 268435456, 536870912, 1073741824, 2147483648], consts :=
  [("MAV_SYS_STATUS_SENSOR_3D_GYRO", 1), ("MAV_SYS_STATUS_SENSOR_3D_ACCEL", 2), ("MAV_SYS_STATUS_SENSOR_3D_MAG", 4), ("MAV_SYS_STATUS_SENSOR_ABSOLUTE_PRESSURE", 8), ("MAV_SYS_STATUS_SENSOR_DIFFERENTIAL_PRESSURE", 16), ("MAV_SYS_STATUS_SENSOR_GPS", 32), ("MAV_SYS_STATUS_SENSOR_OPTICAL_FLOW", 64), ("MAV_SYS_STATUS_SENSOR_VISION_POSITION", 128), ("MAV_SYS_STATUS_SENSOR_LASER_POSITION", 256), ("MAV_SYS_STATUS_SENSOR_EXTERNAL_GROUND_TRUTH", 512), ("MAV_SYS_STATUS_SENSOR_ANGULAR_RATE_CONTROL", 1024), ("MAV_SYS_STATUS_SENSOR_ATTITUDE_STABILIZATION", 2048), ("MAV_SYS_STATUS_SENSOR_YAW_POSITION", 4096), ("MAV_SYS_STATUS_SENSOR_Z_ALTITUDE_CONTROL", 8192), ("MAV_SYS_STATUS_SENSOR_XY_POSITION_CONTROL", 16384), ("MAV_SYS_STATUS_SENSOR_MOTOR_OUTPUTS", 32768), ("MAV_SYS_STATUS_SENSOR_RC_RECEIVER", 65536), ("MAV_SYS_STATUS_SENSOR_3D_GYRO2", 131072), ("MAV_SYS_STATUS_SENSOR_3D_ACCEL2", 262144), ("MAV_SYS_STATUS_SENSOR_3D_MAG2", 524288), ("MAV_SYS_STATUS_GEOFENCE", 1048576), ("MAV_SYS_STATUS_AHRS", 2097152), ("MAV_SYS_STATUS_TERRAIN", 4194304), ("MAV_SYS_STATUS_REVERSE_MOTOR", 8388608), ("MAV_SYS_STATUS_LOGGING", 16777216), ("MAV_SYS_STATUS_SENSOR_BATTERY", 33554432), ("MAV_SYS_STATUS_SENSOR_PROXIMITY", 67108864), ("MAV_SYS_STATUS_SENSOR_SATCOM", 134217728), ("MAV_SYS_STATUS_PREARM_CHECK", 268435456), ("MAV_SYS_STATUS_OBSTACLE_AVOIDANCE", 536870912), ("MAV_SYS_STATUS_SENSOR_PROPULSION", 1073741824), ("MAV_SYS_STATUS_EXTENSION_USED", 2147483648)] }

def e_common_MAV_SYS_STATUS_SENSOR_EXTENDED : EnumDef := { name := "common.MAV_SYS_STATUS_SENSOR_EXTENDED", form := Marshal.valueList [1], consts :=
  [("MAV_SYS_STATUS_RECOVERY_SYSTEM", 1)] }

def e_common_MAV_TUNNEL_PAYLOAD_TYPE : EnumDef := { name := "common.MAV_TUNNEL_PAYLOAD_TYPE", form := Marshal.plain, consts :=
  [("MAV_TUNNEL_PAYLOAD_TYPE_UNKNOWN", 0), ("MAV_TUNNEL_PAYLOAD_TYPE_STORM32_RESERVED0", 200), ("MAV_TUNNEL_PAYLOAD_TYPE_STORM32_RESERVED1", 201), ("MAV_TUNNEL_PAYLOAD_TYPE_STORM32_RESERVED2", 202), ("MAV_TUNNEL_PAYLOAD_TYPE_STORM32_RESERVED3", 203), ("MAV_TUNNEL_PAYLOAD_TYPE_STORM32_RESERVED4", 204), ("MAV_TUNNEL_PAYLOAD_TYPE_STORM32_RESERVED5", 205), ("MAV_TUNNEL_PAYLOAD_TYPE_STORM32_RESERVED6", 206), ("MAV_TUNNEL_PAYLOAD_TYPE_STORM32_RESERVED7", 207), ("MAV_TUNNEL_PAYLOAD_TYPE_STORM32_RESERVED8", 208), ("MAV_TUNNEL_PAYLOAD_TYPE_STORM32_RESERVED9", 209), ("MAV_TUNNEL_PAYLOAD_TYPE_MODALAI_REMOTE_OSD", 210), ("MAV_TUNNEL_PAYLOAD_TYPE_MODALAI_ESC_UART_PASSTHRU", 211), ("MAV_TUNNEL_PAYLOAD_TYPE_MODALAI_IO_UART_PASSTHRU", 212)] }

def e_common_MAV_VTOL_STATE : EnumDef := { name := "common.MAV_VTOL_STATE", form := Marshal.plain, consts :=
  [("MAV_VTOL_STATE_UNDEFINED", 0), ("MAV_VTOL_STATE_TRANSITION_TO_FW", 1), ("MAV_VTOL_STATE_TRANSITION_TO_MC", 2), ("MAV_VTOL_STATE_MC", 3), ("MAV_VTOL_STATE_FW", 4)] }

def e_common_MAV_WINCH_STATUS_FLAG : EnumDef := { name := "common.MAV_WINCH_STATUS_FLAG", form := Marshal.valueList [1, 2, 4, 8, 16, 32, 64, 128, 256, 512, 1024, 2048, 4096, 8192], consts :=
  [("MAV_WINCH_STATUS_HEALTHY", 1), ("MAV_WINCH_STATUS_FULLY_RETRACTED", 2), ("MAV_WINCH_STATUS_MOVING", 4), ("MAV_WINCH_STATUS_CLUTCH_ENGAGED", 8), ("MAV_WINCH_STATUS_LOCKED", 16), ("MAV_WINCH_STATUS_DROPPING", 32), ("MAV_WINCH_STATUS_ARRESTING", 64), ("MAV_WINCH_STATUS_GROUND_SENSE", 128), ("MAV_WINCH_STATUS_RETRACTING", 256), ("MAV_WINCH_STATUS_REDELIVER", 512), ("MAV_WINCH_STATUS_ABANDON_LINE", 1024), ("MAV_WINCH_STATUS_LOCKING", 2048), ("MAV_WINCH_STATUS_LOAD_LINE", 4096), ("MAV_WINCH_STATUS_LOAD_PAYLOAD", 8192)] }

def e_common_MISSION_STATE : EnumDef := { name := "common.MISSION_STATE", form := Marshal.plain, consts :=
  [("MISSION_STATE_UNKNOWN", 0), ("MISSION_STATE_NO_MISSION", 1), ("MISSION_STATE_NOT_STARTED", 2), ("MISSION_STATE_ACTIVE", 3), ("MISSION_STATE_PAUSED", 4), ("MISSION_STATE_COMPLETE", 5)] }

def e_common_MOTOR_TEST_ORDER : EnumDef := { name := "common.MOTOR_TEST_ORDER", form := Marshal.plain, consts :=
  [("MOTOR_TEST_ORDER_DEFAULT", 0), ("MOTOR_TEST_ORDER_SEQUENCE", 1), ("MOTOR_TEST_ORDER_BOARD", 2)] }

def e_common_MOTOR_TEST_THROTTLE_TYPE : EnumDef := { name := "common.MOTOR_TEST_THROTTLE_TYPE", form := Marshal.plain, consts :=
  [("MOTOR_TEST_THROTTLE_PERCENT", 0), ("MOTOR_TEST_THROTTLE_PWM", 1), ("MOTOR_TEST_THROTTLE_PILOT", 2), ("MOTOR_TEST_COMPASS_CAL", 3)] }

def e_common_NAV_VTOL_LAND_OPTIONS : EnumDef := { name := "common.NAV_VTOL_LAND_OPTIONS", form := Marshal.plain, consts :=
  [("NAV_VTOL_LAND_OPTIONS_DEFAULT", 0), ("NAV_VTOL_LAND_OPTIONS_FW_DESCENT", 1), ("NAV_VTOL_LAND_OPTIONS_HOVER_DESCENT", 2)] }

def e_common_ORBIT_YAW_BEHAVIOUR : EnumDef := { name := "common.ORBIT_YAW_BEHAVIOUR", form := Marshal.plain, consts :=
  [("ORBIT_YAW_BEHAVIOUR_HOLD_FRONT_TO_CIRCLE_CENTER", 0), ("ORBIT_YAW_BEHAVIOUR_HOLD_INITIAL_HEADING", 1), ("ORBIT_YAW_BEHAVIOUR_UNCONTROLLED", 2), ("ORBIT_YAW_BEHAVIOUR_HOLD_FRONT_TANGENT_TO_CIRCLE", 3), ("ORBIT_YAW_BEHAVIOUR_RC_CONTROLLED", 4), ("ORBIT_YAW_BEHAVIOUR_UNCHANGED", 5)] }

def e_common_PARACHUTE_ACTION : EnumDef := { name := "common.PARACHUTE_ACTION", form := Marshal.plain, consts :=
  [("PARACHUTE_DISABLE", 0), ("PARACHUTE_ENABLE", 1), ("PARACHUTE_RELEASE", 2)] }

def e_common_PARAM_ACK : EnumDef := { name := "common.PARAM_ACK", form := Marshal.plain, consts :=
  [("PARAM_ACK_ACCEPTED", 0), ("PARAM_ACK_VALUE_UNSUPPORTED", 1), ("PARAM_ACK_FAILED", 2), ("PARAM_ACK_IN_PROGRESS", 3)] }

def e_common_POSITION_TARGET_TYPEMASK : EnumDef := { name := "common.POSITION_TARGET_TYPEMASK", form := Marshal.valueList [1, 2, 4, 8, 16, 32, 64, 128, 256, 512, 1024, 2048], consts :=
  [("POSITION_TARGET_TYPEMASK_X_IGNORE", 1), ("POSITION_TARGET_TYPEMASK_Y_IGNORE", 2), ("POSITION_TARGET_TYPEMASK_Z_IGNORE", 4), ("POSITION_TARGET_TYPEMASK_VX_IGNORE", 8), ("POSITION_TARGET_TYPEMASK_VY_IGNORE", 16), ("POSITION_TARGET_TYPEMASK_VZ_IGNORE", 32), ("POSITION_TARGET_TYPEMASK_AX_IGNORE", 64), ("POSITION_TARGET_TYPEMASK_AY_IGNORE", 128), ("POSITION_TARGET_TYPEMASK_AZ_IGNORE", 256), ("POSITION_TARGET_TYPEMASK_FORCE_SET", 512), ("POSITION_TARGET_TYPEMASK_YAW_IGNORE", 1024), ("POSITION_TARGET_TYPEMASK_YAW_RATE_IGNORE", 2048)] }

def e_common_PRECISION_LAND_MODE : EnumDef := { name := "common.PRECISION_LAND_MODE", form := Marshal.plain, consts :=
  [("PRECISION_LAND_MODE_DISABLED", 0), ("PRECISION_LAND_MODE_OPPORTUNISTIC", 1), ("PRECISION_LAND_MODE_REQUIRED", 2)] }

def e_common_PREFLIGHT_STORAGE_MISSION_ACTION : EnumDef := { name := "common.PREFLIGHT_STORAGE_MISSION_ACTION", form := Marshal.plain, consts :=
  [("MISSION_READ_PERSISTENT", 0), ("MISSION_WRITE_PERSISTENT", 1), ("MISSION_RESET_DEFAULT", 2)] }

def e_common_PREFLIGHT_STORAGE_PARAMETER_ACTION : EnumDef := { name := "common.PREFLIGHT_STORAGE_PARAMETER_ACTION", form := Marshal.plain, consts :=
  [("PARAM_READ_PERSISTENT", 0), ("PARAM_WRITE_PERSISTENT", 1), ("PARAM_RESET_CONFIG_DEFAULT", 2), ("PARAM_RESET_SENSOR_DEFAULT", 3), ("PARAM_RESET_ALL_DEFAULT", 4)] }

def e_common_RC_SUB_TYPE : EnumDef := { name := "common.RC_SUB_TYPE", form := Marshal.plain, consts :=
  [("RC_SUB_TYPE_SPEKTRUM_DSM2", 0), ("RC_SUB_TYPE_SPEKTRUM_DSMX", 1), ("RC_SUB_TYPE_SPEKTRUM_DSMX8", 2)] }

def e_common_RC_TYPE : EnumDef := { name := "common.RC_TYPE", form := Marshal.plain, consts :=
  [("RC_TYPE_SPEKTRUM", 0), ("RC_TYPE_CRSF", 1)] }

def enums_6 : List EnumDef := [e_common_MAV_POWER_STATUS, e_common_MAV_PROTOCOL_CAPABILITY, e_common_MAV_RESULT, e_common_MAV_ROI, e_common_MAV_SENSOR_ORIENTATION, e_common_MAV_SEVERITY, e_common_MAV_STANDARD_MODE, e_common_MAV_SYS_STATUS_SENSOR, e_common_MAV_SYS_STATUS_SENSOR_EXTENDED, e_common_MAV_TUNNEL_PAYLOAD_TYPE, e_common_MAV_VTOL_STATE, e_common_MAV_WINCH_STATUS_FLAG, e_common_MISSION_STATE, e_common_MOTOR_TEST_ORDER, e_common_MOTOR_TEST_THROTTLE_TYPE, e_common_NAV_VTOL_LAND_OPTIONS, e_common_ORBIT_YAW_BEHAVIOUR, e_common_PARACHUTE_ACTION, e_common_PARAM_ACK, e_common_POSITION_TARGET_TYPEMASK, e_common_PRECISION_LAND_MODE, e_common_PREFLIGHT_STORAGE_MISSION_ACTION, e_common_PREFLIGHT_STORAGE_PARAMETER_ACTION, e_common_RC_SUB_TYPE, e_common_RC_TYPE]

end Mav.Gen
