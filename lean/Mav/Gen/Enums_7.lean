-- GENERATED by tools/extract from pkg/dialects/*/enum_*.go — do not edit
import Mav.Model.EnumText
namespace Mav.Gen
open Mav.EnumText

def e_common_RTK_BASELINE_COORDINATE_SYSTEM : EnumDef := { name := "common.RTK_BASELINE_COORDINATE_SYSTEM", form := Marshal.plain, consts :=
  [("RTK_BASELINE_COORDINATE_SYSTEM_ECEF", 0), ("RTK_BASELINE_COORDINATE_SYSTEM_NED", 1)] }

def e_common_SAFETY_SWITCH_STATE : EnumDef := { name := "common.SAFETY_SWITCH_STATE", form := Marshal.plain, consts :=
  [("SAFETY_SWITCH_STATE_SAFE", 0), ("SAFETY_SWITCH_STATE_DANGEROUS", 1)] }

def e_common_SERIAL_CONTROL_DEV : EnumDef := { name := "common.SERIAL_CONTROL_DEV", form := Marshal.plain, consts :=
  [("SERIAL_CONTROL_DEV_TELEM1", 0), ("SERIAL_CONTROL_DEV_TELEM2", 1), ("SERIAL_CONTROL_DEV_GPS1", 2), ("SERIAL_CONTROL_DEV_GPS2", 3), ("SERIAL_CONTROL_DEV_SHELL", 10), ("SERIAL_CONTROL_SERIAL0", 100), ("SERIAL_CONTROL_SERIAL1", 101), ("SERIAL_CONTROL_SERIAL2", 102), ("SERIAL_CONTROL_SERIAL3", 103), ("SERIAL_CONTROL_SERIAL4", 104), ("SERIAL_CONTROL_SERIAL5", 105), ("SERIAL_CONTROL_SERIAL6", 106), ("SERIAL_CONTROL_SERIAL7", 107), ("SERIAL_CONTROL_SERIAL8", 108), ("SERIAL_CONTROL_SERIAL9", 109)] }

def e_common_SERIAL_CONTROL_FLAG : EnumDef := { name := "common.SERIAL_CONTROL_FLAG", form := Marshal.valueList [1, 2, 4, 8, 16], consts :=
  [("SERIAL_CONTROL_FLAG_REPLY", 1), ("SERIAL_CONTROL_FLAG_RESPOND", 2), ("SERIAL_CONTROL_FLAG_EXCLUSIVE", 4), ("SERIAL_CONTROL_FLAG_BLOCKING", 8), ("SERIAL_CONTROL_FLAG_MULTI", 16)] }

def e_common_SET_FOCUS_TYPE : EnumDef := { name := "common.SET_FOCUS_TYPE", form := Marshal.plain, consts :=
  [("FOCUS_TYPE_STEP", 0), ("FOCUS_TYPE_CONTINUOUS", 1), ("FOCUS_TYPE_RANGE", 2), ("FOCUS_TYPE_METERS", 3), ("FOCUS_TYPE_AUTO", 4), ("FOCUS_TYPE_AUTO_SINGLE", 5), ("FOCUS_TYPE_AUTO_CONTINUOUS", 6)] }

def e_common_SPEED_TYPE : EnumDef := { name := "common.SPEED_TYPE", form := Marshal.plain, consts :=
  [("SPEED_TYPE_AIRSPEED", 0), ("SPEED_TYPE_GROUNDSPEED", 1), ("SPEED_TYPE_CLIMB_SPEED", 2), ("SPEED_TYPE_DESCENT_SPEED", 3)] }

def e_common_STORAGE_STATUS : EnumDef := { name := "common.STORAGE_STATUS", form := Marshal.plain, consts :=
  [("STORAGE_STATUS_EMPTY", 0), ("STORAGE_STATUS_UNFORMATTED", 1), ("STORAGE_STATUS_READY", 2), ("STORAGE_STATUS_NOT_SUPPORTED", 3)] }

def e_common_STORAGE_TYPE : EnumDef := { name := "common.STORAGE_TYPE", form := Marshal.plain, consts :=
  [("STORAGE_TYPE_UNKNOWN", 0), ("STORAGE_TYPE_USB_STICK", 1), ("STORAGE_TYPE_SD", 2), ("STORAGE_TYPE_MICROSD", 3), ("STORAGE_TYPE_CF", 4), ("STORAGE_TYPE_CFE", 5), ("STORAGE_TYPE_XQD", 6), ("STORAGE_TYPE_HD", 7), ("STORAGE_TYPE_OTHER", 254)] }

def e_common_STORAGE_USAGE_FLAG : EnumDef := { name := "common.STORAGE_USAGE_FLAG", form := Marshal.valueList [1, 2, 4, 8], consts :=
  [("STORAGE_USAGE_FLAG_SET", 1), ("STORAGE_USAGE_FLAG_PHOTO", 2), ("STORAGE_USAGE_FLAG_VIDEO", 4), ("STORAGE_USAGE_FLAG_LOGS", 8)] }

def e_common_TUNE_FORMAT : EnumDef := { name := "common.TUNE_FORMAT", form := Marshal.plain, consts :=
  [("TUNE_FORMAT_QBASIC1_1", 1), ("TUNE_FORMAT_MML_MODERN", 2)] }

def e_common_UAVCAN_NODE_HEALTH : EnumDef := { name := "common.UAVCAN_NODE_HEALTH", form := Marshal.plain, consts :=
  [("UAVCAN_NODE_HEALTH_OK", 0), ("UAVCAN_NODE_HEALTH_WARNING", 1), ("UAVCAN_NODE_HEALTH_ERROR", 2), ("UAVCAN_NODE_HEALTH_CRITICAL", 3)] }

def e_common_UAVCAN_NODE_MODE : EnumDef := { name := "common.UAVCAN_NODE_MODE", form := Marshal.plain, consts :=
  [("UAVCAN_NODE_MODE_OPERATIONAL", 0), ("UAVCAN_NODE_MODE_INITIALIZATION", 1), ("UAVCAN_NODE_MODE_MAINTENANCE", 2), ("UAVCAN_NODE_MODE_SOFTWARE_UPDATE", 3), ("UAVCAN_NODE_MODE_OFFLINE", 7)] }

def e_common_UTM_DATA_AVAIL_FLAGS : EnumDef := { name := "common.UTM_DATA_AVAIL_FLAGS", form := Marshal.valueList [1, 2, 4, 8, 16, 32, 64, 128], consts :=
  [("UTM_DATA_AVAIL_FLAGS_TIME_VALID", 1), ("UTM_DATA_AVAIL_FLAGS_UAS_ID_AVAILABLE", 2), ("UTM_DATA_AVAIL_FLAGS_POSITION_AVAILABLE", 4), ("UTM_DATA_AVAIL_FLAGS_ALTITUDE_AVAILABLE", 8), ("UTM_DATA_AVAIL_FLAGS_RELATIVE_ALTITUDE_AVAILABLE", 16), ("UTM_DATA_AVAIL_FLAGS_HORIZONTAL_VELO_AVAILABLE", 32), ("UTM_DATA_AVAIL_FLAGS_VERTICAL_VELO_AVAILABLE", 64), ("UTM_DATA_AVAIL_FLAGS_NEXT_WAYPOINT_AVAILABLE", 128)] }

def e_common_UTM_FLIGHT_STATE : EnumDef := { name := "common.UTM_FLIGHT_STATE", form := Marshal.plain, consts :=
  [("UTM_FLIGHT_STATE_UNKNOWN", 1), ("UTM_FLIGHT_STATE_GROUND", 2), ("UTM_FLIGHT_STATE_AIRBORNE", 3), ("UTM_FLIGHT_STATE_EMERGENCY", 16), ("UTM_FLIGHT_STATE_NOCTRL", 32)] }

def e_common_VIDEO_STREAM_ENCODING : EnumDef := { name := "common.VIDEO_STREAM_ENCODING", form := Marshal.plain, consts :=
  [("VIDEO_STREAM_ENCODING_UNKNOWN", 0), ("VIDEO_STREAM_ENCODING_H264", 1), ("VIDEO_STREAM_ENCODING_H265", 2)] }

def e_common_VIDEO_STREAM_STATUS_FLAGS : EnumDef := { name := "common.VIDEO_STREAM_STATUS_FLAGS", form := Marshal.valueList [1, 2, 4], consts :=
  [("VIDEO_STREAM_STATUS_FLAGS_RUNNING", 1), ("VIDEO_STREAM_STATUS_FLAGS_THERMAL", 2), ("VIDEO_STREAM_STATUS_FLAGS_THERMAL_RANGE_ENABLED", 4)] }

def e_common_VIDEO_STREAM_TYPE : EnumDef := { name := "common.VIDEO_STREAM_TYPE", form := Marshal.plain, consts :=
  [("VIDEO_STREAM_TYPE_RTSP", 0), ("VIDEO_STREAM_TYPE_RTPUDP", 1), ("VIDEO_STREAM_TYPE_TCP_MPEG", 2), ("VIDEO_STREAM_TYPE_MPEG_TS", 3)] }

def e_common_VTOL_TRANSITION_HEADING : EnumDef := { name := "common.VTOL_TRANSITION_HEADING", form := Marshal.plain, consts :=
  [("VTOL_TRANSITION_HEADING_VEHICLE_DEFAULT", 0), ("VTOL_TRANSITION_HEADING_NEXT_WAYPOINT", 1), ("VTOL_TRANSITION_HEADING_TAKEOFF", 2), ("VTOL_TRANSITION_HEADING_SPECIFIED", 3), ("VTOL_TRANSITION_HEADING_ANY", 4)] }

def e_common_WIFI_CONFIG_AP_MODE : EnumDef := { name := "common.WIFI_CONFIG_AP_MODE", form := Marshal.plain, consts :=
  [("WIFI_CONFIG_AP_MODE_UNDEFINED", 0), ("WIFI_CONFIG_AP_MODE_AP", 1), ("WIFI_CONFIG_AP_MODE_STATION", 2), ("WIFI_CONFIG_AP_MODE_DISABLED", 3)] }

def e_common_WIFI_CONFIG_AP_RESPONSE : EnumDef := { name := "common.WIFI_CONFIG_AP_RESPONSE", form := Marshal.plain, consts :=
  [("WIFI_CONFIG_AP_RESPONSE_UNDEFINED", 0), ("WIFI_CONFIG_AP_RESPONSE_ACCEPTED", 1), ("WIFI_CONFIG_AP_RESPONSE_REJECTED", 2), ("WIFI_CONFIG_AP_RESPONSE_MODE_ERROR", 3), ("WIFI_CONFIG_AP_RESPONSE_SSID_ERROR", 4), ("WIFI_CONFIG_AP_RESPONSE_PASSWORD_ERROR", 5)] }

def e_common_WINCH_ACTIONS : EnumDef := { name := "common.WINCH_ACTIONS", form := Marshal.plain, consts :=
  [("WINCH_RELAXED", 0), ("WINCH_RELATIVE_LENGTH_CONTROL", 1), ("WINCH_RATE_CONTROL", 2), ("WINCH_LOCK", 3), ("WINCH_DELIVER", 4), ("WINCH_HOLD", 5), ("WINCH_RETRACT", 6), ("WINCH_LOAD_LINE", 7), ("WINCH_ABANDON_LINE", 8), ("WINCH_LOAD_PAYLOAD", 9)] }

def e_csairlink_AIRLINK_AUTH_RESPONSE_TYPE : EnumDef := { name := "csairlink.AIRLINK_AUTH_RESPONSE_TYPE", form := Marshal.plain, consts :=
  [("AIRLINK_ERROR_LOGIN_OR_PASS", 0), ("AIRLINK_AUTH_OK", 1)] }

def e_csairlink_AIRLINK_EYE_GS_HOLE_PUSH_RESP_TYPE : EnumDef := { name := "csairlink.AIRLINK_EYE_GS_HOLE_PUSH_RESP_TYPE", form := Marshal.plain, consts :=
  [("AIRLINK_HPR_PARTNER_NOT_READY", 0), ("AIRLINK_HPR_PARTNER_READY", 1)] }

def e_csairlink_AIRLINK_EYE_HOLE_PUSH_TYPE : EnumDef := { name := "csairlink.AIRLINK_EYE_HOLE_PUSH_TYPE", form := Marshal.plain, consts :=
  [("AIRLINK_HP_NOT_PENETRATED", 0), ("AIRLINK_HP_BROKEN", 1)] }

def e_csairlink_AIRLINK_EYE_IP_VERSION : EnumDef := { name := "csairlink.AIRLINK_EYE_IP_VERSION", form := Marshal.plain, consts :=
  [("AIRLINK_IP_V4", 0), ("AIRLINK_IP_V6", 1)] }

def enums_7 : List EnumDef := [e_common_RTK_BASELINE_COORDINATE_SYSTEM, e_common_SAFETY_SWITCH_STATE, e_common_SERIAL_CONTROL_DEV, e_common_SERIAL_CONTROL_FLAG, e_common_SET_FOCUS_TYPE, e_common_SPEED_TYPE, e_common_STORAGE_STATUS, e_common_STORAGE_TYPE, e_common_STORAGE_USAGE_FLAG, e_common_TUNE_FORMAT, e_common_UAVCAN_NODE_HEALTH, e_common_UAVCAN_NODE_MODE, e_common_UTM_DATA_AVAIL_FLAGS, e_common_UTM_FLIGHT_STATE, e_common_VIDEO_STREAM_ENCODING, e_common_VIDEO_STREAM_STATUS_FLAGS, e_common_VIDEO_STREAM_TYPE, e_common_VTOL_TRANSITION_HEADING, e_common_WIFI_CONFIG_AP_MODE, e_common_WIFI_CONFIG_AP_RESPONSE, e_common_WINCH_ACTIONS, e_csairlink_AIRLINK_AUTH_RESPONSE_TYPE, e_csairlink_AIRLINK_EYE_GS_HOLE_PUSH_RESP_TYPE, e_csairlink_AIRLINK_EYE_HOLE_PUSH_TYPE, e_csairlink_AIRLINK_EYE_IP_VERSION]

end Mav.Gen
