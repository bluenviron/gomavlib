-- GENERATED by tools/extract from pkg/dialects/*/enum_*.go — do not edit
import Mav.Model.EnumText
namespace Mav.Gen
open Mav.EnumText

def e_csairlink_AIRLINK_EYE_TURN_INIT_TYPE : EnumDef := { name := "csairlink.AIRLINK_EYE_TURN_INIT_TYPE", form := Marshal.plain, consts :=
  [("AIRLINK_TURN_INIT_START", 0), ("AIRLINK_TURN_INIT_OK", 1), ("AIRLINK_TURN_INIT_BAD", 2)] }

def e_development_AIRSPEED_SENSOR_FLAGS : EnumDef := { name := "development.AIRSPEED_SENSOR_FLAGS", form := Marshal.valueList [1, 2], consts :=
  [("AIRSPEED_SENSOR_UNHEALTHY", 1), ("AIRSPEED_SENSOR_USING", 2)] }

def e_development_GCS_CONTROL_STATUS_FLAGS : EnumDef := { name := "development.GCS_CONTROL_STATUS_FLAGS", form := Marshal.valueList [1, 2], consts :=
  [("GCS_CONTROL_STATUS_FLAGS_SYSTEM_MANAGER", 1), ("GCS_CONTROL_STATUS_FLAGS_TAKEOVER_ALLOWED", 2)] }

def e_development_GPS_AUTHENTICATION_STATE : EnumDef := { name := "development.GPS_AUTHENTICATION_STATE", form := Marshal.plain, consts :=
  [("GPS_AUTHENTICATION_STATE_UNKNOWN", 0), ("GPS_AUTHENTICATION_STATE_INITIALIZING", 1), ("GPS_AUTHENTICATION_STATE_ERROR", 2), ("GPS_AUTHENTICATION_STATE_OK", 3), ("GPS_AUTHENTICATION_STATE_DISABLED", 4)] }

def e_development_GPS_JAMMING_STATE : EnumDef := { name := "development.GPS_JAMMING_STATE", form := Marshal.plain, consts :=
  [("GPS_JAMMING_STATE_UNKNOWN", 0), ("GPS_JAMMING_STATE_OK", 1), ("GPS_JAMMING_STATE_MITIGATED", 2), ("GPS_JAMMING_STATE_DETECTED", 3)] }

def e_development_GPS_RAIM_STATE : EnumDef := { name := "development.GPS_RAIM_STATE", form := Marshal.plain, consts :=
  [("GPS_RAIM_STATE_UNKNOWN", 0), ("GPS_RAIM_STATE_DISABLED", 1), ("GPS_RAIM_STATE_OK", 2), ("GPS_RAIM_STATE_FAILED", 3)] }

def e_development_GPS_SPOOFING_STATE : EnumDef := { name := "development.GPS_SPOOFING_STATE", form := Marshal.plain, consts :=
  [("GPS_SPOOFING_STATE_UNKNOWN", 0), ("GPS_SPOOFING_STATE_OK", 1), ("GPS_SPOOFING_STATE_MITIGATED", 2), ("GPS_SPOOFING_STATE_DETECTED", 3)] }

def e_development_GPS_SYSTEM_ERROR_FLAGS : EnumDef := { name := "development.GPS_SYSTEM_ERROR_FLAGS", form := Marshal.valueList [1, 2, 4, 8, 16, 32, 64], consts :=
  [("GPS_SYSTEM_ERROR_INCOMING_CORRECTIONS", 1), ("GPS_SYSTEM_ERROR_CONFIGURATION", 2), ("GPS_SYSTEM_ERROR_SOFTWARE", 4), ("GPS_SYSTEM_ERROR_ANTENNA", 8), ("GPS_SYSTEM_ERROR_EVENT_CONGESTION", 16), ("GPS_SYSTEM_ERROR_CPU_OVERLOAD", 32), ("GPS_SYSTEM_ERROR_OUTPUT_CONGESTION", 64)] }

def e_development_MAV_BATTERY_STATUS_FLAGS : EnumDef := { name := "development.MAV_BATTERY_STATUS_FLAGS", form := Marshal.valueList [1, 2, 4, 8, 16, 32, 64, 128, 256, 512, 1024, 2048, 4096, 8192, 16384, 32768, 65536, 131072, 262144, 2147483648], consts :=
  [("MAV_BATTERY_STATUS_FLAGS_NOT_READY_TO_USE", 1), ("MAV_BATTERY_STATUS_FLAGS_CHARGING", 2), ("MAV_BATTERY_STATUS_FLAGS_CELL_BALANCING", 4), ("MAV_BATTERY_STATUS_FLAGS_FAULT_CELL_IMBALANCE", 8), ("MAV_BATTERY_STATUS_FLAGS_AUTO_DISCHARGING", 16), ("MAV_BATTERY_STATUS_FLAGS_REQUIRES_SERVICE", 32), ("MAV_BATTERY_STATUS_FLAGS_BAD_BATTERY", 64), ("MAV_BATTERY_STATUS_FLAGS_PROTECTIONS_ENABLED", 128), ("MAV_BATTERY_STATUS_FLAGS_FAULT_PROTECTION_SYSTEM", 256), ("MAV_BATTERY_STATUS_FLAGS_FAULT_OVER_VOLT", 512), ("MAV_BATTERY_STATUS_FLAGS_FAULT_UNDER_VOLT", 1024), ("MAV_BATTERY_STATUS_FLAGS_FAULT_OVER_TEMPERATURE", 2048), ("MAV_BATTERY_STATUS_FLAGS_FAULT_UNDER_TEMPERATURE", 4096), ("MAV_BATTERY_STATUS_FLAGS_FAULT_OVER_CURRENT", 8192), ("MAV_BATTERY_STATUS_FLAGS_FAULT_SHORT_CIRCUIT", 16384), ("MAV_BATTERY_STATUS_FLAGS_FAULT_INCOMPATIBLE_VOLTAGE", 32768), ("MAV_BATTERY_STATUS_FLAGS_FAULT_INCOMPATIBLE_FIRMWARE", 65536), ("MAV_BATTERY_STATUS_FLAGS_FAULT_INCOMPATIBLE_CELLS_CONFIGURATION", 131072), ("MAV_BATTERY_STATUS_FLAGS_CAPACITY_RELATIVE_TO_FULL", 262144), ("MAV_BATTERY_STATUS_FLAGS_EXTENDED", 2147483648)] }

def e_development_MAV_CMD : EnumDef := { name := "development.MAV_CMD", form := Marshal.plain, consts :=
  [("MAV_CMD_NAV_WAYPOINT", 16), ("MAV_CMD_NAV_LOITER_UNLIM", 17), ("MAV_CMD_NAV_LOITER_TURNS", 18), ("MAV_CMD_NAV_LOITER_TIME", 19), ("MAV_CMD_NAV_RETURN_TO_LAUNCH", 20), ("MAV_CMD_NAV_LAND", 21), ("MAV_CMD_NAV_TAKEOFF", 22), ("MAV_CMD_NAV_LAND_LOCAL", 23), ("MAV_CMD_NAV_TAKEOFF_LOCAL", 24), ("MAV_CMD_NAV_FOLLOW", 25), ("MAV_CMD_NAV_CONTINUE_AND_CHANGE_ALT", 30), ("MAV_CMD_NAV_LOITER_TO_ALT", 31), ("MAV_CMD_DO_FOLLOW", 32), ("MAV_CMD_DO_FOLLOW_REPOSITION", 33), ("MAV_CMD_DO_ORBIT", 34), ("MAV_CMD_NAV_ROI", 80), ("MAV_CMD_NAV_PATHPLANNING", 81), ("MAV_CMD_NAV_SPLINE_WAYPOINT", 82), ("MAV_CMD_NAV_VTOL_TAKEOFF", 84), ("MAV_CMD_NAV_VTOL_LAND", 85), ("MAV_CMD_NAV_GUIDED_ENABLE", 92), ("MAV_CMD_NAV_DELAY", 93), ("MAV_CMD_NAV_PAYLOAD_PLACE", 94), ("MAV_CMD_NAV_LAST", 95), ("MAV_CMD_CONDITION_DELAY", 112), ("MAV_CMD_CONDITION_CHANGE_ALT", 113), ("MAV_CMD_CONDITION_DISTANCE", 114), ("MAV_CMD_CONDITION_YAW", 115), ("MAV_CMD_CONDITION_LAST", 159), ("MAV_CMD_DO_SET_MODE", 176), ("MAV_CMD_DO_JUMP", 177), ("MAV_CMD_DO_CHANGE_SPEED", 178), ("MAV_CMD_DO_SET_HOME", 179), ("MAV_CMD_DO_SET_PARAMETER", 180), ("MAV_CMD_DO_SET_RELAY", 181), ("MAV_CMD_DO_REPEAT_RELAY", 182), ("MAV_CMD_DO_SET_SERVO", 183), ("MAV_CMD_DO_REPEAT_SERVO", 184), ("MAV_CMD_DO_FLIGHTTERMINATION", 185), ("MAV_CMD_DO_CHANGE_ALTITUDE", 186)] ++
  [("MAV_CMD_DO_SET_ACTUATOR", 187), ("MAV_CMD_DO_RETURN_PATH_START", 188), ("MAV_CMD_DO_LAND_START", 189), ("MAV_CMD_DO_RALLY_LAND", 190), ("MAV_CMD_DO_GO_AROUND", 191), ("MAV_CMD_DO_REPOSITION", 192), ("MAV_CMD_DO_PAUSE_CONTINUE", 193), ("MAV_CMD_DO_SET_REVERSE", 194), ("MAV_CMD_DO_SET_ROI_LOCATION", 195), ("MAV_CMD_DO_SET_ROI_WPNEXT_OFFSET", 196), ("MAV_CMD_DO_SET_ROI_NONE", 197), ("MAV_CMD_DO_SET_ROI_SYSID", 198), ("MAV_CMD_DO_CONTROL_VIDEO", 200), ("MAV_CMD_DO_SET_ROI", 201), ("MAV_CMD_DO_DIGICAM_CONFIGURE", 202), ("MAV_CMD_DO_DIGICAM_CONTROL", 203), ("MAV_CMD_DO_MOUNT_CONFIGURE", 204), ("MAV_CMD_DO_MOUNT_CONTROL", 205), ("MAV_CMD_DO_SET_CAM_TRIGG_DIST", 206), ("MAV_CMD_DO_FENCE_ENABLE", 207), ("MAV_CMD_DO_PARACHUTE", 208), ("MAV_CMD_DO_MOTOR_TEST", 209), ("MAV_CMD_DO_INVERTED_FLIGHT", 210), ("MAV_CMD_DO_GRIPPER", 211), ("MAV_CMD_DO_AUTOTUNE_ENABLE", 212), ("MAV_CMD_NAV_SET_YAW_SPEED", 213), ("MAV_CMD_DO_SET_CAM_TRIGG_INTERVAL", 214), ("MAV_CMD_DO_MOUNT_CONTROL_QUAT", 220), ("MAV_CMD_DO_GUIDED_MASTER", 221), ("MAV_CMD_DO_GUIDED_LIMITS", 222), ("MAV_CMD_DO_ENGINE_CONTROL", 223), ("MAV_CMD_DO_SET_MISSION_CURRENT", 224), ("MAV_CMD_DO_LAST", 240), ("MAV_CMD_PREFLIGHT_CALIBRATION", 241), ("MAV_CMD_PREFLIGHT_SET_SENSOR_OFFSETS", 242), ("MAV_CMD_PREFLIGHT_UAVCAN", 243), ("MAV_CMD_PREFLIGHT_STORAGE", 245), ("MAV_CMD_PREFLIGHT_REBOOT_SHUTDOWN", 246), ("MAV_CMD_OVERRIDE_GOTO", 252), ("MAV_CMD_OBLIQUE_SURVEY", 260)] ++
  [("MAV_CMD_DO_SET_STANDARD_MODE", 262), ("MAV_CMD_MISSION_START", 300), ("MAV_CMD_ACTUATOR_TEST", 310), ("MAV_CMD_CONFIGURE_ACTUATOR", 311), ("MAV_CMD_COMPONENT_ARM_DISARM", 400), ("MAV_CMD_RUN_PREARM_CHECKS", 401), ("MAV_CMD_ILLUMINATOR_ON_OFF", 405), ("MAV_CMD_DO_ILLUMINATOR_CONFIGURE", 406), ("MAV_CMD_GET_HOME_POSITION", 410), ("MAV_CMD_INJECT_FAILURE", 420), ("MAV_CMD_START_RX_PAIR", 500), ("MAV_CMD_GET_MESSAGE_INTERVAL", 510), ("MAV_CMD_SET_MESSAGE_INTERVAL", 511), ("MAV_CMD_REQUEST_MESSAGE", 512), ("MAV_CMD_REQUEST_PROTOCOL_VERSION", 519), ("MAV_CMD_REQUEST_AUTOPILOT_CAPABILITIES", 520), ("MAV_CMD_REQUEST_CAMERA_INFORMATION", 521), ("MAV_CMD_REQUEST_CAMERA_SETTINGS", 522), ("MAV_CMD_REQUEST_STORAGE_INFORMATION", 525), ("MAV_CMD_STORAGE_FORMAT", 526), ("MAV_CMD_REQUEST_CAMERA_CAPTURE_STATUS", 527), ("MAV_CMD_REQUEST_FLIGHT_INFORMATION", 528), ("MAV_CMD_RESET_CAMERA_SETTINGS", 529), ("MAV_CMD_SET_CAMERA_MODE", 530), ("MAV_CMD_SET_CAMERA_ZOOM", 531), ("MAV_CMD_SET_CAMERA_FOCUS", 532), ("MAV_CMD_SET_STORAGE_USAGE", 533), ("MAV_CMD_SET_CAMERA_SOURCE", 534), ("MAV_CMD_JUMP_TAG", 600), ("MAV_CMD_DO_JUMP_TAG", 601), ("MAV_CMD_DO_GIMBAL_MANAGER_PITCHYAW", 1000), ("MAV_CMD_DO_GIMBAL_MANAGER_CONFIGURE", 1001), ("MAV_CMD_IMAGE_START_CAPTURE", 2000), ("MAV_CMD_IMAGE_STOP_CAPTURE", 2001), ("MAV_CMD_REQUEST_CAMERA_IMAGE_CAPTURE", 2002), ("MAV_CMD_DO_TRIGGER_CONTROL", 2003), ("MAV_CMD_CAMERA_TRACK_POINT", 2004), ("MAV_CMD_CAMERA_TRACK_RECTANGLE", 2005), ("MAV_CMD_CAMERA_STOP_TRACKING", 2010), ("MAV_CMD_VIDEO_START_CAPTURE", 2500)] ++
  [("MAV_CMD_VIDEO_STOP_CAPTURE", 2501), ("MAV_CMD_VIDEO_START_STREAMING", 2502), ("MAV_CMD_VIDEO_STOP_STREAMING", 2503), ("MAV_CMD_REQUEST_VIDEO_STREAM_INFORMATION", 2504), ("MAV_CMD_REQUEST_VIDEO_STREAM_STATUS", 2505), ("MAV_CMD_LOGGING_START", 2510), ("MAV_CMD_LOGGING_STOP", 2511), ("MAV_CMD_AIRFRAME_CONFIGURATION", 2520), ("MAV_CMD_CONTROL_HIGH_LATENCY", 2600), ("MAV_CMD_PANORAMA_CREATE", 2800), ("MAV_CMD_DO_VTOL_TRANSITION", 3000), ("MAV_CMD_ARM_AUTHORIZATION_REQUEST", 3001), ("MAV_CMD_SET_GUIDED_SUBMODE_STANDARD", 4000), ("MAV_CMD_SET_GUIDED_SUBMODE_CIRCLE", 4001), ("MAV_CMD_CONDITION_GATE", 4501), ("MAV_CMD_NAV_FENCE_RETURN_POINT", 5000), ("MAV_CMD_NAV_FENCE_POLYGON_VERTEX_INCLUSION", 5001), ("MAV_CMD_NAV_FENCE_POLYGON_VERTEX_EXCLUSION", 5002), ("MAV_CMD_NAV_FENCE_CIRCLE_INCLUSION", 5003), ("MAV_CMD_NAV_FENCE_CIRCLE_EXCLUSION", 5004), ("MAV_CMD_NAV_RALLY_POINT", 5100), ("MAV_CMD_UAVCAN_GET_NODE_INFO", 5200), ("MAV_CMD_DO_SET_SAFETY_SWITCH_STATE", 5300), ("MAV_CMD_DO_ADSB_OUT_IDENT", 10001), ("MAV_CMD_PAYLOAD_PREPARE_DEPLOY", 30001), ("MAV_CMD_PAYLOAD_CONTROL_DEPLOY", 30002), ("MAV_CMD_FIXED_MAG_CAL_YAW", 42006), ("MAV_CMD_DO_WINCH", 42600), ("MAV_CMD_EXTERNAL_POSITION_ESTIMATE", 43003), ("MAV_CMD_WAYPOINT_USER_1", 31000), ("MAV_CMD_WAYPOINT_USER_2", 31001), ("MAV_CMD_WAYPOINT_USER_3", 31002), ("MAV_CMD_WAYPOINT_USER_4", 31003), ("MAV_CMD_WAYPOINT_USER_5", 31004), ("MAV_CMD_SPATIAL_USER_1", 31005), ("MAV_CMD_SPATIAL_USER_2", 31006), ("MAV_CMD_SPATIAL_USER_3", 31007), ("MAV_CMD_SPATIAL_USER_4", 31008), ("MAV_CMD_SPATIAL_USER_5", 31009), ("MAV_CMD_USER_1", 31010)] ++
  [("MAV_CMD_USER_2", 31011), ("MAV_CMD_USER_3", 31012), ("MAV_CMD_USER_4", 31013), ("MAV_CMD_USER_5", 31014), ("MAV_CMD_CAN_FORWARD", 32000), ("MAV_CMD_DO_FIGURE_EIGHT", 35), ("MAV_CMD_DO_UPGRADE", 247), ("MAV_CMD_SET_AT_S_PARAM", 550), ("MAV_CMD_DO_SET_SYS_CMP_ID", 610), ("MAV_CMD_ODID_SET_EMERGENCY", 12900), ("MAV_CMD_EXTERNAL_WIND_ESTIMATE", 43004), ("MAV_CMD_REQUEST_OPERATOR_CONTROL", 32100)] }

def e_development_RADIO_RC_CHANNELS_FLAGS : EnumDef := { name := "development.RADIO_RC_CHANNELS_FLAGS", form := Marshal.valueList [1, 2], consts :=
  [("RADIO_RC_CHANNELS_FLAGS_FAILSAFE", 1), ("RADIO_RC_CHANNELS_FLAGS_OUTDATED", 2)] }

def e_development_TARGET_ABSOLUTE_SENSOR_CAPABILITY_FLAGS : EnumDef := { name := "development.TARGET_ABSOLUTE_SENSOR_CAPABILITY_FLAGS", form := Marshal.valueList [1, 2, 4, 8, 16], consts :=
  [("TARGET_ABSOLUTE_SENSOR_CAPABILITY_POSITION", 1), ("TARGET_ABSOLUTE_SENSOR_CAPABILITY_VELOCITY", 2), ("TARGET_ABSOLUTE_SENSOR_CAPABILITY_ACCELERATION", 4), ("TARGET_ABSOLUTE_SENSOR_CAPABILITY_ATTITUDE", 8), ("TARGET_ABSOLUTE_SENSOR_CAPABILITY_RATES", 16)] }

def e_development_TARGET_OBS_FRAME : EnumDef := { name := "development.TARGET_OBS_FRAME", form := Marshal.plain, consts :=
  [("TARGET_OBS_FRAME_LOCAL_NED", 0), ("TARGET_OBS_FRAME_BODY_FRD", 1), ("TARGET_OBS_FRAME_LOCAL_OFFSET_NED", 2), ("TARGET_OBS_FRAME_OTHER", 3)] }

def e_icarous_ICAROUS_FMS_STATE : EnumDef := { name := "icarous.ICAROUS_FMS_STATE", form := Marshal.plain, consts :=
  [("ICAROUS_FMS_STATE_IDLE", 0), ("ICAROUS_FMS_STATE_TAKEOFF", 1), ("ICAROUS_FMS_STATE_CLIMB", 2), ("ICAROUS_FMS_STATE_CRUISE", 3), ("ICAROUS_FMS_STATE_APPROACH", 4), ("ICAROUS_FMS_STATE_LAND", 5)] }

def e_icarous_ICAROUS_TRACK_BAND_TYPES : EnumDef := { name := "icarous.ICAROUS_TRACK_BAND_TYPES", form := Marshal.plain, consts :=
  [("ICAROUS_TRACK_BAND_TYPE_NONE", 0), ("ICAROUS_TRACK_BAND_TYPE_NEAR", 1), ("ICAROUS_TRACK_BAND_TYPE_RECOVERY", 2)] }

def e_loweheiser_MAV_CMD : EnumDef := { name := "loweheiser.MAV_CMD", form := Marshal.plain, consts :=
  [("MAV_CMD_LOWEHEISER_SET_STATE", 10151)] }

def e_matrixpilot_MAV_CMD : EnumDef := { name := "matrixpilot.MAV_CMD", form := Marshal.plain, consts :=
  [("MAV_CMD_NAV_WAYPOINT", 16), ("MAV_CMD_NAV_LOITER_UNLIM", 17), ("MAV_CMD_NAV_LOITER_TURNS", 18), ("MAV_CMD_NAV_LOITER_TIME", 19), ("MAV_CMD_NAV_RETURN_TO_LAUNCH", 20), ("MAV_CMD_NAV_LAND", 21), ("MAV_CMD_NAV_TAKEOFF", 22), ("MAV_CMD_NAV_LAND_LOCAL", 23), ("MAV_CMD_NAV_TAKEOFF_LOCAL", 24), ("MAV_CMD_NAV_FOLLOW", 25), ("MAV_CMD_NAV_CONTINUE_AND_CHANGE_ALT", 30), ("MAV_CMD_NAV_LOITER_TO_ALT", 31), ("MAV_CMD_DO_FOLLOW", 32), ("MAV_CMD_DO_FOLLOW_REPOSITION", 33), ("MAV_CMD_DO_ORBIT", 34), ("MAV_CMD_NAV_ROI", 80), ("MAV_CMD_NAV_PATHPLANNING", 81), ("MAV_CMD_NAV_SPLINE_WAYPOINT", 82), ("MAV_CMD_NAV_VTOL_TAKEOFF", 84), ("MAV_CMD_NAV_VTOL_LAND", 85), ("MAV_CMD_NAV_GUIDED_ENABLE", 92), ("MAV_CMD_NAV_DELAY", 93), ("MAV_CMD_NAV_PAYLOAD_PLACE", 94), ("MAV_CMD_NAV_LAST", 95), ("MAV_CMD_CONDITION_DELAY", 112), ("MAV_CMD_CONDITION_CHANGE_ALT", 113), ("MAV_CMD_CONDITION_DISTANCE", 114), ("MAV_CMD_CONDITION_YAW", 115), ("MAV_CMD_CONDITION_LAST", 159), ("MAV_CMD_DO_SET_MODE", 176), ("MAV_CMD_DO_JUMP", 177), ("MAV_CMD_DO_CHANGE_SPEED", 178), ("MAV_CMD_DO_SET_HOME", 179), ("MAV_CMD_DO_SET_PARAMETER", 180), ("MAV_CMD_DO_SET_RELAY", 181), ("MAV_CMD_DO_REPEAT_RELAY", 182), ("MAV_CMD_DO_SET_SERVO", 183), ("MAV_CMD_DO_REPEAT_SERVO", 184), ("MAV_CMD_DO_FLIGHTTERMINATION", 185), ("MAV_CMD_DO_CHANGE_ALTITUDE", 186)] ++
  [("MAV_CMD_DO_SET_ACTUATOR", 187), ("MAV_CMD_DO_RETURN_PATH_START", 188), ("MAV_CMD_DO_LAND_START", 189), ("MAV_CMD_DO_RALLY_LAND", 190), ("MAV_CMD_DO_GO_AROUND", 191), ("MAV_CMD_DO_REPOSITION", 192), ("MAV_CMD_DO_PAUSE_CONTINUE", 193), ("MAV_CMD_DO_SET_REVERSE", 194), ("MAV_CMD_DO_SET_ROI_LOCATION", 195), ("MAV_CMD_DO_SET_ROI_WPNEXT_OFFSET", 196), ("MAV_CMD_DO_SET_ROI_NONE", 197), ("MAV_CMD_DO_SET_ROI_SYSID", 198), ("MAV_CMD_DO_CONTROL_VIDEO", 200), ("MAV_CMD_DO_SET_ROI", 201), ("MAV_CMD_DO_DIGICAM_CONFIGURE", 202), ("MAV_CMD_DO_DIGICAM_CONTROL", 203), ("MAV_CMD_DO_MOUNT_CONFIGURE", 204), ("MAV_CMD_DO_MOUNT_CONTROL", 205), ("MAV_CMD_DO_SET_CAM_TRIGG_DIST", 206), ("MAV_CMD_DO_FENCE_ENABLE", 207), ("MAV_CMD_DO_PARACHUTE", 208), ("MAV_CMD_DO_MOTOR_TEST", 209), ("MAV_CMD_DO_INVERTED_FLIGHT", 210), ("MAV_CMD_DO_GRIPPER", 211), ("MAV_CMD_DO_AUTOTUNE_ENABLE", 212), ("MAV_CMD_NAV_SET_YAW_SPEED", 213), ("MAV_CMD_DO_SET_CAM_TRIGG_INTERVAL", 214), ("MAV_CMD_DO_MOUNT_CONTROL_QUAT", 220), ("MAV_CMD_DO_GUIDED_MASTER", 221), ("MAV_CMD_DO_GUIDED_LIMITS", 222), ("MAV_CMD_DO_ENGINE_CONTROL", 223), ("MAV_CMD_DO_SET_MISSION_CURRENT", 224), ("MAV_CMD_DO_LAST", 240), ("MAV_CMD_PREFLIGHT_CALIBRATION", 241), ("MAV_CMD_PREFLIGHT_SET_SENSOR_OFFSETS", 242), ("MAV_CMD_PREFLIGHT_UAVCAN", 243), ("MAV_CMD_PREFLIGHT_STORAGE", 245), ("MAV_CMD_PREFLIGHT_REBOOT_SHUTDOWN", 246), ("MAV_CMD_OVERRIDE_GOTO", 252), ("MAV_CMD_OBLIQUE_SURVEY", 260)] ++
  [("MAV_CMD_DO_SET_STANDARD_MODE", 262), ("MAV_CMD_MISSION_START", 300), ("MAV_CMD_ACTUATOR_TEST", 310), ("MAV_CMD_CONFIGURE_ACTUATOR", 311), ("MAV_CMD_COMPONENT_ARM_DISARM", 400), ("MAV_CMD_RUN_PREARM_CHECKS", 401), ("MAV_CMD_ILLUMINATOR_ON_OFF", 405), ("MAV_CMD_DO_ILLUMINATOR_CONFIGURE", 406), ("MAV_CMD_GET_HOME_POSITION", 410), ("MAV_CMD_INJECT_FAILURE", 420), ("MAV_CMD_START_RX_PAIR", 500), ("MAV_CMD_GET_MESSAGE_INTERVAL", 510), ("MAV_CMD_SET_MESSAGE_INTERVAL", 511), ("MAV_CMD_REQUEST_MESSAGE", 512), ("MAV_CMD_REQUEST_PROTOCOL_VERSION", 519), ("MAV_CMD_REQUEST_AUTOPILOT_CAPABILITIES", 520), ("MAV_CMD_REQUEST_CAMERA_INFORMATION", 521), ("MAV_CMD_REQUEST_CAMERA_SETTINGS", 522), ("MAV_CMD_REQUEST_STORAGE_INFORMATION", 525), ("MAV_CMD_STORAGE_FORMAT", 526), ("MAV_CMD_REQUEST_CAMERA_CAPTURE_STATUS", 527), ("MAV_CMD_REQUEST_FLIGHT_INFORMATION", 528), ("MAV_CMD_RESET_CAMERA_SETTINGS", 529), ("MAV_CMD_SET_CAMERA_MODE", 530), ("MAV_CMD_SET_CAMERA_ZOOM", 531), ("MAV_CMD_SET_CAMERA_FOCUS", 532), ("MAV_CMD_SET_STORAGE_USAGE", 533), ("MAV_CMD_SET_CAMERA_SOURCE", 534), ("MAV_CMD_JUMP_TAG", 600), ("MAV_CMD_DO_JUMP_TAG", 601), ("MAV_CMD_DO_GIMBAL_MANAGER_PITCHYAW", 1000), ("MAV_CMD_DO_GIMBAL_MANAGER_CONFIGURE", 1001), ("MAV_CMD_IMAGE_START_CAPTURE", 2000), ("MAV_CMD_IMAGE_STOP_CAPTURE", 2001), ("MAV_CMD_REQUEST_CAMERA_IMAGE_CAPTURE", 2002), ("MAV_CMD_DO_TRIGGER_CONTROL", 2003), ("MAV_CMD_CAMERA_TRACK_POINT", 2004), ("MAV_CMD_CAMERA_TRACK_RECTANGLE", 2005), ("MAV_CMD_CAMERA_STOP_TRACKING", 2010), ("MAV_CMD_VIDEO_START_CAPTURE", 2500)] ++
  [("MAV_CMD_VIDEO_STOP_CAPTURE", 2501), ("MAV_CMD_VIDEO_START_STREAMING", 2502), ("MAV_CMD_VIDEO_STOP_STREAMING", 2503), ("MAV_CMD_REQUEST_VIDEO_STREAM_INFORMATION", 2504), ("MAV_CMD_REQUEST_VIDEO_STREAM_STATUS", 2505), ("MAV_CMD_LOGGING_START", 2510), ("MAV_CMD_LOGGING_STOP", 2511), ("MAV_CMD_AIRFRAME_CONFIGURATION", 2520), ("MAV_CMD_CONTROL_HIGH_LATENCY", 2600), ("MAV_CMD_PANORAMA_CREATE", 2800), ("MAV_CMD_DO_VTOL_TRANSITION", 3000), ("MAV_CMD_ARM_AUTHORIZATION_REQUEST", 3001), ("MAV_CMD_SET_GUIDED_SUBMODE_STANDARD", 4000), ("MAV_CMD_SET_GUIDED_SUBMODE_CIRCLE", 4001), ("MAV_CMD_CONDITION_GATE", 4501), ("MAV_CMD_NAV_FENCE_RETURN_POINT", 5000), ("MAV_CMD_NAV_FENCE_POLYGON_VERTEX_INCLUSION", 5001), ("MAV_CMD_NAV_FENCE_POLYGON_VERTEX_EXCLUSION", 5002), ("MAV_CMD_NAV_FENCE_CIRCLE_INCLUSION", 5003), ("MAV_CMD_NAV_FENCE_CIRCLE_EXCLUSION", 5004), ("MAV_CMD_NAV_RALLY_POINT", 5100), ("MAV_CMD_UAVCAN_GET_NODE_INFO", 5200), ("MAV_CMD_DO_SET_SAFETY_SWITCH_STATE", 5300), ("MAV_CMD_DO_ADSB_OUT_IDENT", 10001), ("MAV_CMD_PAYLOAD_PREPARE_DEPLOY", 30001), ("MAV_CMD_PAYLOAD_CONTROL_DEPLOY", 30002), ("MAV_CMD_FIXED_MAG_CAL_YAW", 42006), ("MAV_CMD_DO_WINCH", 42600), ("MAV_CMD_EXTERNAL_POSITION_ESTIMATE", 43003), ("MAV_CMD_WAYPOINT_USER_1", 31000), ("MAV_CMD_WAYPOINT_USER_2", 31001), ("MAV_CMD_WAYPOINT_USER_3", 31002), ("MAV_CMD_WAYPOINT_USER_4", 31003), ("MAV_CMD_WAYPOINT_USER_5", 31004), ("MAV_CMD_SPATIAL_USER_1", 31005), ("MAV_CMD_SPATIAL_USER_2", 31006), ("MAV_CMD_SPATIAL_USER_3", 31007), ("MAV_CMD_SPATIAL_USER_4", 31008), ("MAV_CMD_SPATIAL_USER_5", 31009), ("MAV_CMD_USER_1", 31010)] ++
  [("MAV_CMD_USER_2", 31011), ("MAV_CMD_USER_3", 31012), ("MAV_CMD_USER_4", 31013), ("MAV_CMD_USER_5", 31014), ("MAV_CMD_CAN_FORWARD", 32000), ("MAV_CMD_PREFLIGHT_STORAGE_ADVANCED", 0)] }

def e_matrixpilot_MAV_PREFLIGHT_STORAGE_ACTION : EnumDef := { name := "matrixpilot.MAV_PREFLIGHT_STORAGE_ACTION", form := Marshal.plain, consts :=
  [("MAV_PFS_CMD_READ_ALL", 0), ("MAV_PFS_CMD_WRITE_ALL", 1), ("MAV_PFS_CMD_CLEAR_ALL", 2), ("MAV_PFS_CMD_READ_SPECIFIC", 3), ("MAV_PFS_CMD_WRITE_SPECIFIC", 4), ("MAV_PFS_CMD_CLEAR_SPECIFIC", 5), ("MAV_PFS_CMD_DO_NOTHING", 6)] }

def e_minimal_MAV_AUTOPILOT : EnumDef := { name := "minimal.MAV_AUTOPILOT", form := Marshal.plain, consts :=
  [("MAV_AUTOPILOT_GENERIC", 0), ("MAV_AUTOPILOT_RESERVED", 1), ("MAV_AUTOPILOT_SLUGS", 2), ("MAV_AUTOPILOT_ARDUPILOTMEGA", 3), ("MAV_AUTOPILOT_OPENPILOT", 4), ("MAV_AUTOPILOT_GENERIC_WAYPOINTS_ONLY", 5), ("MAV_AUTOPILOT_GENERIC_WAYPOINTS_AND_SIMPLE_NAVIGATION_ONLY", 6), ("MAV_AUTOPILOT_GENERIC_MISSION_FULL", 7), ("MAV_AUTOPILOT_INVALID", 8), ("MAV_AUTOPILOT_PPZ", 9), ("MAV_AUTOPILOT_UDB", 10), ("MAV_AUTOPILOT_FP", 11), ("MAV_AUTOPILOT_PX4", 12), ("MAV_AUTOPILOT_SMACCMPILOT", 13), ("MAV_AUTOPILOT_AUTOQUAD", 14), ("MAV_AUTOPILOT_ARMAZILA", 15), ("MAV_AUTOPILOT_AEROB", 16), ("MAV_AUTOPILOT_ASLUAV", 17), ("MAV_AUTOPILOT_SMARTAP", 18), ("MAV_AUTOPILOT_AIRRAILS", 19), ("MAV_AUTOPILOT_REFLEX", 20)] }

def e_minimal_MAV_COMPONENT : EnumDef := { name := "minimal.MAV_COMPONENT", form := Marshal.plain, consts :=
  [("MAV_COMP_ID_ALL", 0), ("MAV_COMP_ID_AUTOPILOT1", 1), ("MAV_COMP_ID_USER1", 25), ("MAV_COMP_ID_USER2", 26), ("MAV_COMP_ID_USER3", 27), ("MAV_COMP_ID_USER4", 28), ("MAV_COMP_ID_USER5", 29), ("MAV_COMP_ID_USER6", 30), ("MAV_COMP_ID_USER7", 31), ("MAV_COMP_ID_USER8", 32), ("MAV_COMP_ID_USER9", 33), ("MAV_COMP_ID_USER10", 34), ("MAV_COMP_ID_USER11", 35), ("MAV_COMP_ID_USER12", 36), ("MAV_COMP_ID_USER13", 37), ("MAV_COMP_ID_USER14", 38), ("MAV_COMP_ID_USER15", 39), ("MAV_COMP_ID_USER16", 40), ("MAV_COMP_ID_USER17", 41), ("MAV_COMP_ID_USER18", 42), ("MAV_COMP_ID_USER19", 43), ("MAV_COMP_ID_USER20", 44), ("MAV_COMP_ID_USER21", 45), ("MAV_COMP_ID_USER22", 46), ("MAV_COMP_ID_USER23", 47), ("MAV_COMP_ID_USER24", 48), ("MAV_COMP_ID_USER25", 49), ("MAV_COMP_ID_USER26", 50), ("MAV_COMP_ID_USER27", 51), ("MAV_COMP_ID_USER28", 52), ("MAV_COMP_ID_USER29", 53), ("MAV_COMP_ID_USER30", 54), ("MAV_COMP_ID_USER31", 55), ("MAV_COMP_ID_USER32", 56), ("MAV_COMP_ID_USER33", 57), ("MAV_COMP_ID_USER34", 58), ("MAV_COMP_ID_USER35", 59), ("MAV_COMP_ID_USER36", 60), ("MAV_COMP_ID_USER37", 61), ("MAV_COMP_ID_USER38", 62)] ++
  [("MAV_COMP_ID_USER39", 63), ("MAV_COMP_ID_USER40", 64), ("MAV_COMP_ID_USER41", 65), ("MAV_COMP_ID_USER42", 66), ("MAV_COMP_ID_USER43", 67), ("MAV_COMP_ID_TELEMETRY_RADIO", 68), ("MAV_COMP_ID_USER45", 69), ("MAV_COMP_ID_USER46", 70), ("MAV_COMP_ID_USER47", 71), ("MAV_COMP_ID_USER48", 72), ("MAV_COMP_ID_USER49", 73), ("MAV_COMP_ID_USER50", 74), ("MAV_COMP_ID_USER51", 75), ("MAV_COMP_ID_USER52", 76), ("MAV_COMP_ID_USER53", 77), ("MAV_COMP_ID_USER54", 78), ("MAV_COMP_ID_USER55", 79), ("MAV_COMP_ID_USER56", 80), ("MAV_COMP_ID_USER57", 81), ("MAV_COMP_ID_USER58", 82), ("MAV_COMP_ID_USER59", 83), ("MAV_COMP_ID_USER60", 84), ("MAV_COMP_ID_USER61", 85), ("MAV_COMP_ID_USER62", 86), ("MAV_COMP_ID_USER63", 87), ("MAV_COMP_ID_USER64", 88), ("MAV_COMP_ID_USER65", 89), ("MAV_COMP_ID_USER66", 90), ("MAV_COMP_ID_USER67", 91), ("MAV_COMP_ID_USER68", 92), ("MAV_COMP_ID_USER69", 93), ("MAV_COMP_ID_USER70", 94), ("MAV_COMP_ID_USER71", 95), ("MAV_COMP_ID_USER72", 96), ("MAV_COMP_ID_USER73", 97), ("MAV_COMP_ID_USER74", 98), ("MAV_COMP_ID_USER75", 99), ("MAV_COMP_ID_CAMERA", 100), ("MAV_COMP_ID_CAMERA2", 101), ("MAV_COMP_ID_CAMERA3", 102)] ++
  [("MAV_COMP_ID_CAMERA4", 103), ("MAV_COMP_ID_CAMERA5", 104), ("MAV_COMP_ID_CAMERA6", 105), ("MAV_COMP_ID_SERVO1", 140), ("MAV_COMP_ID_SERVO2", 141), ("MAV_COMP_ID_SERVO3", 142), ("MAV_COMP_ID_SERVO4", 143), ("MAV_COMP_ID_SERVO5", 144), ("MAV_COMP_ID_SERVO6", 145), ("MAV_COMP_ID_SERVO7", 146), ("MAV_COMP_ID_SERVO8", 147), ("MAV_COMP_ID_SERVO9", 148), ("MAV_COMP_ID_SERVO10", 149), ("MAV_COMP_ID_SERVO11", 150), ("MAV_COMP_ID_SERVO12", 151), ("MAV_COMP_ID_SERVO13", 152), ("MAV_COMP_ID_SERVO14", 153), ("MAV_COMP_ID_GIMBAL", 154), ("MAV_COMP_ID_LOG", 155), ("MAV_COMP_ID_ADSB", 156), ("MAV_COMP_ID_OSD", 157), ("MAV_COMP_ID_PERIPHERAL", 158), ("MAV_COMP_ID_QX1_GIMBAL", 159), ("MAV_COMP_ID_FLARM", 160), ("MAV_COMP_ID_PARACHUTE", 161), ("MAV_COMP_ID_WINCH", 169), ("MAV_COMP_ID_GIMBAL2", 171), ("MAV_COMP_ID_GIMBAL3", 172), ("MAV_COMP_ID_GIMBAL4", 173), ("MAV_COMP_ID_GIMBAL5", 174), ("MAV_COMP_ID_GIMBAL6", 175), ("MAV_COMP_ID_BATTERY", 180), ("MAV_COMP_ID_BATTERY2", 181), ("MAV_COMP_ID_MAVCAN", 189), ("MAV_COMP_ID_MISSIONPLANNER", 190), ("MAV_COMP_ID_ONBOARD_COMPUTER", 191), ("MAV_COMP_ID_ONBOARD_COMPUTER2", 192), ("MAV_COMP_ID_ONBOARD_COMPUTER3", 193), ("MAV_COMP_ID_ONBOARD_COMPUTER4", 194), ("MAV_COMP_ID_PATHPLANNER", 195)] ++
  [("MAV_COMP_ID_OBSTACLE_AVOIDANCE", 196), ("MAV_COMP_ID_VISUAL_INERTIAL_ODOMETRY", 197), ("MAV_COMP_ID_PAIRING_MANAGER", 198), ("MAV_COMP_ID_IMU", 200), ("MAV_COMP_ID_IMU_2", 201), ("MAV_COMP_ID_IMU_3", 202), ("MAV_COMP_ID_GPS", 220), ("MAV_COMP_ID_GPS2", 221), ("MAV_COMP_ID_ODID_TXRX_1", 236), ("MAV_COMP_ID_ODID_TXRX_2", 237), ("MAV_COMP_ID_ODID_TXRX_3", 238), ("MAV_COMP_ID_UDP_BRIDGE", 240), ("MAV_COMP_ID_UART_BRIDGE", 241), ("MAV_COMP_ID_TUNNEL_NODE", 242), ("MAV_COMP_ID_ILLUMINATOR", 243), ("MAV_COMP_ID_SYSTEM_CONTROL", 250)] }

def e_minimal_MAV_MODE_FLAG : EnumDef := { name := "minimal.MAV_MODE_FLAG", form := Marshal.valueList [128, 64, 32, 16, 8, 4, 2, 1], consts :=
  [("MAV_MODE_FLAG_SAFETY_ARMED", 128), ("MAV_MODE_FLAG_MANUAL_INPUT_ENABLED", 64), ("MAV_MODE_FLAG_HIL_ENABLED", 32), ("MAV_MODE_FLAG_STABILIZE_ENABLED", 16), ("MAV_MODE_FLAG_GUIDED_ENABLED", 8), ("MAV_MODE_FLAG_AUTO_ENABLED", 4), ("MAV_MODE_FLAG_TEST_ENABLED", 2), ("MAV_MODE_FLAG_CUSTOM_MODE_ENABLED", 1)] }

def e_minimal_MAV_MODE_FLAG_DECODE_POSITION : EnumDef := { name := "minimal.MAV_MODE_FLAG_DECODE_POSITION", form := Marshal.valueList [128, 64, 32, 16, 8, 4, 2, 1], consts :=
  [("MAV_MODE_FLAG_DECODE_POSITION_SAFETY", 128), ("MAV_MODE_FLAG_DECODE_POSITION_MANUAL", 64), ("MAV_MODE_FLAG_DECODE_POSITION_HIL", 32), ("MAV_MODE_FLAG_DECODE_POSITION_STABILIZE", 16), ("MAV_MODE_FLAG_DECODE_POSITION_GUIDED", 8), ("MAV_MODE_FLAG_DECODE_POSITION_AUTO", 4), ("MAV_MODE_FLAG_DECODE_POSITION_TEST", 2), ("MAV_MODE_FLAG_DECODE_POSITION_CUSTOM_MODE", 1)] }

def e_minimal_MAV_STATE : EnumDef := { name := "minimal.MAV_STATE", form := Marshal.plain, consts :=
  [("MAV_STATE_UNINIT", 0), ("MAV_STATE_BOOT", 1), ("MAV_STATE_CALIBRATING", 2), ("MAV_STATE_STANDBY", 3), ("MAV_STATE_ACTIVE", 4), ("MAV_STATE_CRITICAL", 5), ("MAV_STATE_EMERGENCY", 6), ("MAV_STATE_POWEROFF", 7), ("MAV_STATE_FLIGHT_TERMINATION", 8)] }

def e_minimal_MAV_TYPE : EnumDef := { name := "minimal.MAV_TYPE", form := Marshal.plain, consts :=
  [("MAV_TYPE_GENERIC", 0), ("MAV_TYPE_FIXED_WING", 1), ("MAV_TYPE_QUADROTOR", 2), ("MAV_TYPE_COAXIAL", 3), ("MAV_TYPE_HELICOPTER", 4), ("MAV_TYPE_ANTENNA_TRACKER", 5), ("MAV_TYPE_GCS", 6), ("MAV_TYPE_AIRSHIP", 7), ("MAV_TYPE_FREE_BALLOON", 8), ("MAV_TYPE_ROCKET", 9), ("MAV_TYPE_GROUND_ROVER", 10), ("MAV_TYPE_SURFACE_BOAT", 11), ("MAV_TYPE_SUBMARINE", 12), ("MAV_TYPE_HEXAROTOR", 13), ("MAV_TYPE_OCTOROTOR", 14), ("MAV_TYPE_TRICOPTER", 15), ("MAV_TYPE_FLAPPING_WING", 16), ("MAV_TYPE_KITE", 17), ("MAV_TYPE_ONBOARD_CONTROLLER", 18), ("MAV_TYPE_VTOL_TAILSITTER_DUOROTOR", 19), ("MAV_TYPE_VTOL_TAILSITTER_QUADROTOR", 20), ("MAV_TYPE_VTOL_TILTROTOR", 21), ("MAV_TYPE_VTOL_FIXEDROTOR", 22), ("MAV_TYPE_VTOL_TAILSITTER", 23), ("MAV_TYPE_VTOL_TILTWING", 24), ("MAV_TYPE_VTOL_RESERVED5", 25), ("MAV_TYPE_GIMBAL", 26), ("MAV_TYPE_ADSB", 27), ("MAV_TYPE_PARAFOIL", 28), ("MAV_TYPE_DODECAROTOR", 29), ("MAV_TYPE_CAMERA", 30), ("MAV_TYPE_CHARGING_STATION", 31), ("MAV_TYPE_FLARM", 32), ("MAV_TYPE_SERVO", 33), ("MAV_TYPE_ODID", 34), ("MAV_TYPE_DECAROTOR", 35), ("MAV_TYPE_BATTERY", 36), ("MAV_TYPE_PARACHUTE", 37), ("MAV_TYPE_LOG", 38), ("MAV_TYPE_OSD", 39)] ++
  [("MAV_TYPE_IMU", 40), ("MAV_TYPE_GPS", 41), ("MAV_TYPE_WINCH", 42), ("MAV_TYPE_GENERIC_MULTIROTOR", 43), ("MAV_TYPE_ILLUMINATOR", 44)] }

def e_storm32_MAV_CMD : EnumDef := { name := "storm32.MAV_CMD", form := Marshal.plain, consts :=
  [("MAV_CMD_NAV_WAYPOINT", 16), ("MAV_CMD_NAV_LOITER_UNLIM", 17), ("MAV_CMD_NAV_LOITER_TURNS", 18), ("MAV_CMD_NAV_LOITER_TIME", 19), ("MAV_CMD_NAV_RETURN_TO_LAUNCH", 20), ("MAV_CMD_NAV_LAND", 21), ("MAV_CMD_NAV_TAKEOFF", 22), ("MAV_CMD_NAV_LAND_LOCAL", 23), ("MAV_CMD_NAV_TAKEOFF_LOCAL", 24), ("MAV_CMD_NAV_FOLLOW", 25), ("MAV_CMD_NAV_CONTINUE_AND_CHANGE_ALT", 30), ("MAV_CMD_NAV_LOITER_TO_ALT", 31), ("MAV_CMD_DO_FOLLOW", 32), ("MAV_CMD_DO_FOLLOW_REPOSITION", 33), ("MAV_CMD_DO_ORBIT", 34), ("MAV_CMD_NAV_ROI", 80), ("MAV_CMD_NAV_PATHPLANNING", 81), ("MAV_CMD_NAV_SPLINE_WAYPOINT", 82), ("MAV_CMD_NAV_VTOL_TAKEOFF", 84), ("MAV_CMD_NAV_VTOL_LAND", 85), ("MAV_CMD_NAV_GUIDED_ENABLE", 92), ("MAV_CMD_NAV_DELAY", 93), ("MAV_CMD_NAV_PAYLOAD_PLACE", 94), ("MAV_CMD_NAV_LAST", 95), ("MAV_CMD_CONDITION_DELAY", 112), ("MAV_CMD_CONDITION_CHANGE_ALT", 113), ("MAV_CMD_CONDITION_DISTANCE", 114), ("MAV_CMD_CONDITION_YAW", 115), ("MAV_CMD_CONDITION_LAST", 159), ("MAV_CMD_DO_SET_MODE", 176), ("MAV_CMD_DO_JUMP", 177), ("MAV_CMD_DO_CHANGE_SPEED", 178), ("MAV_CMD_DO_SET_HOME", 179), ("MAV_CMD_DO_SET_PARAMETER", 180), ("MAV_CMD_DO_SET_RELAY", 181), ("MAV_CMD_DO_REPEAT_RELAY", 182), ("MAV_CMD_DO_SET_SERVO", 183), ("MAV_CMD_DO_REPEAT_SERVO", 184), ("MAV_CMD_DO_FLIGHTTERMINATION", 185), ("MAV_CMD_DO_CHANGE_ALTITUDE", 186)] ++
  [("MAV_CMD_DO_SET_ACTUATOR", 187), ("MAV_CMD_DO_RETURN_PATH_START", 188), ("MAV_CMD_DO_LAND_START", 189), ("MAV_CMD_DO_RALLY_LAND", 190), ("MAV_CMD_DO_GO_AROUND", 191), ("MAV_CMD_DO_REPOSITION", 192), ("MAV_CMD_DO_PAUSE_CONTINUE", 193), ("MAV_CMD_DO_SET_REVERSE", 194), ("MAV_CMD_DO_SET_ROI_LOCATION", 195), ("MAV_CMD_DO_SET_ROI_WPNEXT_OFFSET", 196), ("MAV_CMD_DO_SET_ROI_NONE", 197), ("MAV_CMD_DO_SET_ROI_SYSID", 198), ("MAV_CMD_DO_CONTROL_VIDEO", 200), ("MAV_CMD_DO_SET_ROI", 201), ("MAV_CMD_DO_DIGICAM_CONFIGURE", 202), ("MAV_CMD_DO_DIGICAM_CONTROL", 203), ("MAV_CMD_DO_MOUNT_CONFIGURE", 204), ("MAV_CMD_DO_MOUNT_CONTROL", 205), ("MAV_CMD_DO_SET_CAM_TRIGG_DIST", 206), ("MAV_CMD_DO_FENCE_ENABLE", 207), ("MAV_CMD_DO_PARACHUTE", 208), ("MAV_CMD_DO_MOTOR_TEST", 209), ("MAV_CMD_DO_INVERTED_FLIGHT", 210), ("MAV_CMD_DO_GRIPPER", 211), ("MAV_CMD_DO_AUTOTUNE_ENABLE", 212), ("MAV_CMD_NAV_SET_YAW_SPEED", 213), ("MAV_CMD_DO_SET_CAM_TRIGG_INTERVAL", 214), ("MAV_CMD_DO_MOUNT_CONTROL_QUAT", 220), ("MAV_CMD_DO_GUIDED_MASTER", 221), ("MAV_CMD_DO_GUIDED_LIMITS", 222), ("MAV_CMD_DO_ENGINE_CONTROL", 223), ("MAV_CMD_DO_SET_MISSION_CURRENT", 224), ("MAV_CMD_DO_LAST", 240), ("MAV_CMD_PREFLIGHT_CALIBRATION", 241), ("MAV_CMD_PREFLIGHT_SET_SENSOR_OFFSETS", 242), ("MAV_CMD_PREFLIGHT_UAVCAN", 243), ("MAV_CMD_PREFLIGHT_STORAGE", 245), ("MAV_CMD_PREFLIGHT_REBOOT_SHUTDOWN", 246), ("MAV_CMD_OVERRIDE_GOTO", 252), ("MAV_CMD_OBLIQUE_SURVEY", 260)] ++
  [("MAV_CMD_DO_SET_STANDARD_MODE", 262), ("MAV_CMD_MISSION_START", 300), ("MAV_CMD_ACTUATOR_TEST", 310), ("MAV_CMD_CONFIGURE_ACTUATOR", 311), ("MAV_CMD_COMPONENT_ARM_DISARM", 400), ("MAV_CMD_RUN_PREARM_CHECKS", 401), ("MAV_CMD_ILLUMINATOR_ON_OFF", 405), ("MAV_CMD_DO_ILLUMINATOR_CONFIGURE", 406), ("MAV_CMD_GET_HOME_POSITION", 410), ("MAV_CMD_INJECT_FAILURE", 420), ("MAV_CMD_START_RX_PAIR", 500), ("MAV_CMD_GET_MESSAGE_INTERVAL", 510), ("MAV_CMD_SET_MESSAGE_INTERVAL", 511), ("MAV_CMD_REQUEST_MESSAGE", 512), ("MAV_CMD_REQUEST_PROTOCOL_VERSION", 519), ("MAV_CMD_REQUEST_AUTOPILOT_CAPABILITIES", 520), ("MAV_CMD_REQUEST_CAMERA_INFORMATION", 521), ("MAV_CMD_REQUEST_CAMERA_SETTINGS", 522), ("MAV_CMD_REQUEST_STORAGE_INFORMATION", 525), ("MAV_CMD_STORAGE_FORMAT", 526), ("MAV_CMD_REQUEST_CAMERA_CAPTURE_STATUS", 527), ("MAV_CMD_REQUEST_FLIGHT_INFORMATION", 528), ("MAV_CMD_RESET_CAMERA_SETTINGS", 529), ("MAV_CMD_SET_CAMERA_MODE", 530), ("MAV_CMD_SET_CAMERA_ZOOM", 531), ("MAV_CMD_SET_CAMERA_FOCUS", 532), ("MAV_CMD_SET_STORAGE_USAGE", 533), ("MAV_CMD_SET_CAMERA_SOURCE", 534), ("MAV_CMD_JUMP_TAG", 600), ("MAV_CMD_DO_JUMP_TAG", 601), ("MAV_CMD_DO_GIMBAL_MANAGER_PITCHYAW", 1000), ("MAV_CMD_DO_GIMBAL_MANAGER_CONFIGURE", 1001), ("MAV_CMD_IMAGE_START_CAPTURE", 2000), ("MAV_CMD_IMAGE_STOP_CAPTURE", 2001), ("MAV_CMD_REQUEST_CAMERA_IMAGE_CAPTURE", 2002), ("MAV_CMD_DO_TRIGGER_CONTROL", 2003), ("MAV_CMD_CAMERA_TRACK_POINT", 2004), ("MAV_CMD_CAMERA_TRACK_RECTANGLE", 2005), ("MAV_CMD_CAMERA_STOP_TRACKING", 2010), ("MAV_CMD_VIDEO_START_CAPTURE", 2500)] ++
  [("MAV_CMD_VIDEO_STOP_CAPTURE", 2501), ("MAV_CMD_VIDEO_START_STREAMING", 2502), ("MAV_CMD_VIDEO_STOP_STREAMING", 2503), ("MAV_CMD_REQUEST_VIDEO_STREAM_INFORMATION", 2504), ("MAV_CMD_REQUEST_VIDEO_STREAM_STATUS", 2505), ("MAV_CMD_LOGGING_START", 2510), ("MAV_CMD_LOGGING_STOP", 2511), ("MAV_CMD_AIRFRAME_CONFIGURATION", 2520), ("MAV_CMD_CONTROL_HIGH_LATENCY", 2600), ("MAV_CMD_PANORAMA_CREATE", 2800), ("MAV_CMD_DO_VTOL_TRANSITION", 3000), ("MAV_CMD_ARM_AUTHORIZATION_REQUEST", 3001), ("MAV_CMD_SET_GUIDED_SUBMODE_STANDARD", 4000), ("MAV_CMD_SET_GUIDED_SUBMODE_CIRCLE", 4001), ("MAV_CMD_CONDITION_GATE", 4501), ("MAV_CMD_NAV_FENCE_RETURN_POINT", 5000), ("MAV_CMD_NAV_FENCE_POLYGON_VERTEX_INCLUSION", 5001), ("MAV_CMD_NAV_FENCE_POLYGON_VERTEX_EXCLUSION", 5002), ("MAV_CMD_NAV_FENCE_CIRCLE_INCLUSION", 5003), ("MAV_CMD_NAV_FENCE_CIRCLE_EXCLUSION", 5004), ("MAV_CMD_NAV_RALLY_POINT", 5100), ("MAV_CMD_UAVCAN_GET_NODE_INFO", 5200), ("MAV_CMD_DO_SET_SAFETY_SWITCH_STATE", 5300), ("MAV_CMD_DO_ADSB_OUT_IDENT", 10001), ("MAV_CMD_PAYLOAD_PREPARE_DEPLOY", 30001), ("MAV_CMD_PAYLOAD_CONTROL_DEPLOY", 30002), ("MAV_CMD_FIXED_MAG_CAL_YAW", 42006), ("MAV_CMD_DO_WINCH", 42600), ("MAV_CMD_EXTERNAL_POSITION_ESTIMATE", 43003), ("MAV_CMD_WAYPOINT_USER_1", 31000), ("MAV_CMD_WAYPOINT_USER_2", 31001), ("MAV_CMD_WAYPOINT_USER_3", 31002), ("MAV_CMD_WAYPOINT_USER_4", 31003), ("MAV_CMD_WAYPOINT_USER_5", 31004), ("MAV_CMD_SPATIAL_USER_1", 31005), ("MAV_CMD_SPATIAL_USER_2", 31006), ("MAV_CMD_SPATIAL_USER_3", 31007), ("MAV_CMD_SPATIAL_USER_4", 31008), ("MAV_CMD_SPATIAL_USER_5", 31009), ("MAV_CMD_USER_1", 31010)] ++
  [("MAV_CMD_USER_2", 31011), ("MAV_CMD_USER_3", 31012), ("MAV_CMD_USER_4", 31013), ("MAV_CMD_USER_5", 31014), ("MAV_CMD_CAN_FORWARD", 32000), ("MAV_CMD_LOWEHEISER_SET_STATE", 10151), ("MAV_CMD_DO_SET_RESUME_REPEAT_DIST", 215), ("MAV_CMD_DO_SPRAYER", 216), ("MAV_CMD_DO_SEND_SCRIPT_MESSAGE", 217), ("MAV_CMD_DO_AUX_FUNCTION", 218), ("MAV_CMD_NAV_ALTITUDE_WAIT", 83), ("MAV_CMD_POWER_OFF_INITIATED", 42000), ("MAV_CMD_SOLO_BTN_FLY_CLICK", 42001), ("MAV_CMD_SOLO_BTN_FLY_HOLD", 42002), ("MAV_CMD_SOLO_BTN_PAUSE_CLICK", 42003), ("MAV_CMD_FIXED_MAG_CAL", 42004), ("MAV_CMD_FIXED_MAG_CAL_FIELD", 42005), ("MAV_CMD_SET_EKF_SOURCE_SET", 42007), ("MAV_CMD_DO_START_MAG_CAL", 42424), ("MAV_CMD_DO_ACCEPT_MAG_CAL", 42425), ("MAV_CMD_DO_CANCEL_MAG_CAL", 42426), ("MAV_CMD_ACCELCAL_VEHICLE_POS", 42429), ("MAV_CMD_DO_SEND_BANNER", 42428), ("MAV_CMD_SET_FACTORY_TEST_MODE", 42427), ("MAV_CMD_GIMBAL_RESET", 42501), ("MAV_CMD_GIMBAL_AXIS_CALIBRATION_STATUS", 42502), ("MAV_CMD_GIMBAL_REQUEST_AXIS_CALIBRATION", 42503), ("MAV_CMD_GIMBAL_FULL_RESET", 42505), ("MAV_CMD_FLASH_BOOTLOADER", 42650), ("MAV_CMD_BATTERY_RESET", 42651), ("MAV_CMD_DEBUG_TRAP", 42700), ("MAV_CMD_SCRIPTING", 42701), ("MAV_CMD_NAV_SCRIPT_TIME", 42702), ("MAV_CMD_NAV_ATTITUDE_TIME", 42703), ("MAV_CMD_GUIDED_CHANGE_SPEED", 43000), ("MAV_CMD_GUIDED_CHANGE_ALTITUDE", 43001), ("MAV_CMD_GUIDED_CHANGE_HEADING", 43002), ("MAV_CMD_SET_HAGL", 43005), ("MAV_CMD_STORM32_DO_GIMBAL_MANAGER_CONTROL_PITCHYAW", 60002), ("MAV_CMD_STORM32_DO_GIMBAL_MANAGER_SETUP", 60010)] ++
  [("MAV_CMD_QSHOT_DO_CONFIGURE", 60020)] }

def enums_8 : List EnumDef := [e_csairlink_AIRLINK_EYE_TURN_INIT_TYPE, e_development_AIRSPEED_SENSOR_FLAGS, e_development_GCS_CONTROL_STATUS_FLAGS, e_development_GPS_AUTHENTICATION_STATE, e_development_GPS_JAMMING_STATE, e_development_GPS_RAIM_STATE, e_development_GPS_SPOOFING_STATE, e_development_GPS_SYSTEM_ERROR_FLAGS, e_development_MAV_BATTERY_STATUS_FLAGS, e_development_MAV_CMD, e_development_RADIO_RC_CHANNELS_FLAGS, e_development_TARGET_ABSOLUTE_SENSOR_CAPABILITY_FLAGS, e_development_TARGET_OBS_FRAME, e_icarous_ICAROUS_FMS_STATE, e_icarous_ICAROUS_TRACK_BAND_TYPES, e_loweheiser_MAV_CMD, e_matrixpilot_MAV_CMD, e_matrixpilot_MAV_PREFLIGHT_STORAGE_ACTION, e_minimal_MAV_AUTOPILOT, e_minimal_MAV_COMPONENT, e_minimal_MAV_MODE_FLAG, e_minimal_MAV_MODE_FLAG_DECODE_POSITION, e_minimal_MAV_STATE, e_minimal_MAV_TYPE, e_storm32_MAV_CMD]

end Mav.Gen
