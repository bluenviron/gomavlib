-- GENERATED by tools/extract from pkg/dialects/*/enum_*.go — do not edit
import Mav.Model.EnumText
namespace Mav.Gen
open Mav.EnumText

def e_storm32_MAV_QSHOT_MODE : EnumDef := { name := "storm32.MAV_QSHOT_MODE", form := Marshal.plain, consts :=
  [("MAV_QSHOT_MODE_UNDEFINED", 0), ("MAV_QSHOT_MODE_DEFAULT", 1), ("MAV_QSHOT_MODE_GIMBAL_RETRACT", 2), ("MAV_QSHOT_MODE_GIMBAL_NEUTRAL", 3), ("MAV_QSHOT_MODE_GIMBAL_MISSION", 4), ("MAV_QSHOT_MODE_GIMBAL_RC_CONTROL", 5), ("MAV_QSHOT_MODE_POI_TARGETING", 6), ("MAV_QSHOT_MODE_SYSID_TARGETING", 7), ("MAV_QSHOT_MODE_CABLECAM_2POINT", 8), ("MAV_QSHOT_MODE_HOME_TARGETING", 9)] }

def e_storm32_MAV_STORM32_CAMERA_PREARM_FLAGS : EnumDef := { name := "storm32.MAV_STORM32_CAMERA_PREARM_FLAGS", form := Marshal.valueList [1], consts :=
  [("MAV_STORM32_CAMERA_PREARM_FLAGS_CONNECTED", 1)] }

def e_storm32_MAV_STORM32_GIMBAL_MANAGER_CAP_FLAGS : EnumDef := { name := "storm32.MAV_STORM32_GIMBAL_MANAGER_CAP_FLAGS", form := Marshal.valueList [1], consts :=
  [("MAV_STORM32_GIMBAL_MANAGER_CAP_FLAGS_HAS_PROFILES", 1)] }

def e_storm32_MAV_STORM32_GIMBAL_MANAGER_CLIENT : EnumDef := { name := "storm32.MAV_STORM32_GIMBAL_MANAGER_CLIENT", form := Marshal.plain, consts :=
  [("MAV_STORM32_GIMBAL_MANAGER_CLIENT_NONE", 0), ("MAV_STORM32_GIMBAL_MANAGER_CLIENT_ONBOARD", 1), ("MAV_STORM32_GIMBAL_MANAGER_CLIENT_AUTOPILOT", 2), ("MAV_STORM32_GIMBAL_MANAGER_CLIENT_GCS", 3), ("MAV_STORM32_GIMBAL_MANAGER_CLIENT_CAMERA", 4), ("MAV_STORM32_GIMBAL_MANAGER_CLIENT_GCS2", 5), ("MAV_STORM32_GIMBAL_MANAGER_CLIENT_CAMERA2", 6), ("MAV_STORM32_GIMBAL_MANAGER_CLIENT_CUSTOM", 7), ("MAV_STORM32_GIMBAL_MANAGER_CLIENT_CUSTOM2", 8)] }

def e_storm32_MAV_STORM32_GIMBAL_MANAGER_FLAGS : EnumDef := { name := "storm32.MAV_STORM32_GIMBAL_MANAGER_FLAGS", form := Marshal.valueList [0, 1, 2, 4, 8, 16, 32, 64, 128, 256, 512, 1024], consts :=
  [("MAV_STORM32_GIMBAL_MANAGER_FLAGS_NONE", 0), ("MAV_STORM32_GIMBAL_MANAGER_FLAGS_RC_ACTIVE", 1), ("MAV_STORM32_GIMBAL_MANAGER_FLAGS_CLIENT_ONBOARD_ACTIVE", 2), ("MAV_STORM32_GIMBAL_MANAGER_FLAGS_CLIENT_AUTOPILOT_ACTIVE", 4), ("MAV_STORM32_GIMBAL_MANAGER_FLAGS_CLIENT_GCS_ACTIVE", 8), ("MAV_STORM32_GIMBAL_MANAGER_FLAGS_CLIENT_CAMERA_ACTIVE", 16), ("MAV_STORM32_GIMBAL_MANAGER_FLAGS_CLIENT_GCS2_ACTIVE", 32), ("MAV_STORM32_GIMBAL_MANAGER_FLAGS_CLIENT_CAMERA2_ACTIVE", 64), ("MAV_STORM32_GIMBAL_MANAGER_FLAGS_CLIENT_CUSTOM_ACTIVE", 128), ("MAV_STORM32_GIMBAL_MANAGER_FLAGS_CLIENT_CUSTOM2_ACTIVE", 256), ("MAV_STORM32_GIMBAL_MANAGER_FLAGS_SET_SUPERVISON", 512), ("MAV_STORM32_GIMBAL_MANAGER_FLAGS_SET_RELEASE", 1024)] }

def e_storm32_MAV_STORM32_GIMBAL_MANAGER_PROFILE : EnumDef := { name := "storm32.MAV_STORM32_GIMBAL_MANAGER_PROFILE", form := Marshal.plain, consts :=
  [("MAV_STORM32_GIMBAL_MANAGER_PROFILE_DEFAULT", 0), ("MAV_STORM32_GIMBAL_MANAGER_PROFILE_CUSTOM", 1), ("MAV_STORM32_GIMBAL_MANAGER_PROFILE_COOPERATIVE", 2), ("MAV_STORM32_GIMBAL_MANAGER_PROFILE_EXCLUSIVE", 3), ("MAV_STORM32_GIMBAL_MANAGER_PROFILE_PRIORITY_COOPERATIVE", 4), ("MAV_STORM32_GIMBAL_MANAGER_PROFILE_PRIORITY_EXCLUSIVE", 5)] }

def e_storm32_MAV_STORM32_GIMBAL_PREARM_FLAGS : EnumDef := { name := "storm32.MAV_STORM32_GIMBAL_PREARM_FLAGS", form := Marshal.valueList [1, 2, 4, 8, 16, 32, 64, 128, 256, 512, 1024, 2048, 4096], consts :=
  [("MAV_STORM32_GIMBAL_PREARM_FLAGS_IS_NORMAL", 1), ("MAV_STORM32_GIMBAL_PREARM_FLAGS_IMUS_WORKING", 2), ("MAV_STORM32_GIMBAL_PREARM_FLAGS_MOTORS_WORKING", 4), ("MAV_STORM32_GIMBAL_PREARM_FLAGS_ENCODERS_WORKING", 8), ("MAV_STORM32_GIMBAL_PREARM_FLAGS_VOLTAGE_OK", 16), ("MAV_STORM32_GIMBAL_PREARM_FLAGS_VIRTUALCHANNELS_RECEIVING", 32), ("MAV_STORM32_GIMBAL_PREARM_FLAGS_MAVLINK_RECEIVING", 64), ("MAV_STORM32_GIMBAL_PREARM_FLAGS_STORM32LINK_QFIX", 128), ("MAV_STORM32_GIMBAL_PREARM_FLAGS_STORM32LINK_WORKING", 256), ("MAV_STORM32_GIMBAL_PREARM_FLAGS_CAMERA_CONNECTED", 512), ("MAV_STORM32_GIMBAL_PREARM_FLAGS_AUX0_LOW", 1024), ("MAV_STORM32_GIMBAL_PREARM_FLAGS_AUX1_LOW", 2048), ("MAV_STORM32_GIMBAL_PREARM_FLAGS_NTLOGGER_WORKING", 4096)] }

def e_storm32_MAV_STORM32_TUNNEL_PAYLOAD_TYPE : EnumDef := { name := "storm32.MAV_STORM32_TUNNEL_PAYLOAD_TYPE", form := Marshal.plain, consts :=
  [("MAV_STORM32_TUNNEL_PAYLOAD_TYPE_STORM32_CH1_IN", 200), ("MAV_STORM32_TUNNEL_PAYLOAD_TYPE_STORM32_CH1_OUT", 201), ("MAV_STORM32_TUNNEL_PAYLOAD_TYPE_STORM32_CH2_IN", 202), ("MAV_STORM32_TUNNEL_PAYLOAD_TYPE_STORM32_CH2_OUT", 203), ("MAV_STORM32_TUNNEL_PAYLOAD_TYPE_STORM32_CH3_IN", 204), ("MAV_STORM32_TUNNEL_PAYLOAD_TYPE_STORM32_CH3_OUT", 205)] }

def e_ualberta_UALBERTA_AUTOPILOT_MODE : EnumDef := { name := "ualberta.UALBERTA_AUTOPILOT_MODE", form := Marshal.plain, consts :=
  [("MODE_MANUAL_DIRECT", 1), ("MODE_MANUAL_SCALED", 2), ("MODE_AUTO_PID_ATT", 3), ("MODE_AUTO_PID_VEL", 4), ("MODE_AUTO_PID_POS", 5)] }

def e_ualberta_UALBERTA_NAV_MODE : EnumDef := { name := "ualberta.UALBERTA_NAV_MODE", form := Marshal.plain, consts :=
  [("NAV_AHRS_INIT", 1), ("NAV_AHRS", 2), ("NAV_INS_GPS_INIT", 3), ("NAV_INS_GPS", 4)] }

def e_ualberta_UALBERTA_PILOT_MODE : EnumDef := { name := "ualberta.UALBERTA_PILOT_MODE", form := Marshal.plain, consts :=
  [("PILOT_MANUAL", 1), ("PILOT_AUTO", 2), ("PILOT_ROTO", 3)] }

def e_uavionix_UAVIONIX_ADSB_EMERGENCY_STATUS : EnumDef := { name := "uavionix.UAVIONIX_ADSB_EMERGENCY_STATUS", form := Marshal.plain, consts :=
  [("UAVIONIX_ADSB_OUT_NO_EMERGENCY", 0), ("UAVIONIX_ADSB_OUT_GENERAL_EMERGENCY", 1), ("UAVIONIX_ADSB_OUT_LIFEGUARD_EMERGENCY", 2), ("UAVIONIX_ADSB_OUT_MINIMUM_FUEL_EMERGENCY", 3), ("UAVIONIX_ADSB_OUT_NO_COMM_EMERGENCY", 4), ("UAVIONIX_ADSB_OUT_UNLAWFUL_INTERFERANCE_EMERGENCY", 5), ("UAVIONIX_ADSB_OUT_DOWNED_AIRCRAFT_EMERGENCY", 6), ("UAVIONIX_ADSB_OUT_RESERVED", 7)] }

def e_uavionix_UAVIONIX_ADSB_OUT_CFG_AIRCRAFT_SIZE : EnumDef := { name := "uavionix.UAVIONIX_ADSB_OUT_CFG_AIRCRAFT_SIZE", form := Marshal.plain, consts :=
  [("UAVIONIX_ADSB_OUT_CFG_AIRCRAFT_SIZE_NO_DATA", 0), ("UAVIONIX_ADSB_OUT_CFG_AIRCRAFT_SIZE_L15M_W23M", 1), ("UAVIONIX_ADSB_OUT_CFG_AIRCRAFT_SIZE_L25M_W28P5M", 2), ("UAVIONIX_ADSB_OUT_CFG_AIRCRAFT_SIZE_L25_34M", 3), ("UAVIONIX_ADSB_OUT_CFG_AIRCRAFT_SIZE_L35_33M", 4), ("UAVIONIX_ADSB_OUT_CFG_AIRCRAFT_SIZE_L35_38M", 5), ("UAVIONIX_ADSB_OUT_CFG_AIRCRAFT_SIZE_L45_39P5M", 6), ("UAVIONIX_ADSB_OUT_CFG_AIRCRAFT_SIZE_L45_45M", 7), ("UAVIONIX_ADSB_OUT_CFG_AIRCRAFT_SIZE_L55_45M", 8), ("UAVIONIX_ADSB_OUT_CFG_AIRCRAFT_SIZE_L55_52M", 9), ("UAVIONIX_ADSB_OUT_CFG_AIRCRAFT_SIZE_L65_59P5M", 10), ("UAVIONIX_ADSB_OUT_CFG_AIRCRAFT_SIZE_L65_67M", 11), ("UAVIONIX_ADSB_OUT_CFG_AIRCRAFT_SIZE_L75_W72P5M", 12), ("UAVIONIX_ADSB_OUT_CFG_AIRCRAFT_SIZE_L75_W80M", 13), ("UAVIONIX_ADSB_OUT_CFG_AIRCRAFT_SIZE_L85_W80M", 14), ("UAVIONIX_ADSB_OUT_CFG_AIRCRAFT_SIZE_L85_W90M", 15)] }

def e_uavionix_UAVIONIX_ADSB_OUT_CFG_GPS_OFFSET_LAT : EnumDef := { name := "uavionix.UAVIONIX_ADSB_OUT_CFG_GPS_OFFSET_LAT", form := Marshal.plain, consts :=
  [("UAVIONIX_ADSB_OUT_CFG_GPS_OFFSET_LAT_NO_DATA", 0), ("UAVIONIX_ADSB_OUT_CFG_GPS_OFFSET_LAT_LEFT_2M", 1), ("UAVIONIX_ADSB_OUT_CFG_GPS_OFFSET_LAT_LEFT_4M", 2), ("UAVIONIX_ADSB_OUT_CFG_GPS_OFFSET_LAT_LEFT_6M", 3), ("UAVIONIX_ADSB_OUT_CFG_GPS_OFFSET_LAT_RIGHT_0M", 4), ("UAVIONIX_ADSB_OUT_CFG_GPS_OFFSET_LAT_RIGHT_2M", 5), ("UAVIONIX_ADSB_OUT_CFG_GPS_OFFSET_LAT_RIGHT_4M", 6), ("UAVIONIX_ADSB_OUT_CFG_GPS_OFFSET_LAT_RIGHT_6M", 7)] }

def e_uavionix_UAVIONIX_ADSB_OUT_CFG_GPS_OFFSET_LON : EnumDef := { name := "uavionix.UAVIONIX_ADSB_OUT_CFG_GPS_OFFSET_LON", form := Marshal.plain, consts :=
  [("UAVIONIX_ADSB_OUT_CFG_GPS_OFFSET_LON_NO_DATA", 0), ("UAVIONIX_ADSB_OUT_CFG_GPS_OFFSET_LON_APPLIED_BY_SENSOR", 1)] }

def e_uavionix_UAVIONIX_ADSB_OUT_CONTROL_STATE : EnumDef := { name := "uavionix.UAVIONIX_ADSB_OUT_CONTROL_STATE", form := Marshal.plain, consts :=
  [("UAVIONIX_ADSB_OUT_CONTROL_STATE_EXTERNAL_BARO_CROSSCHECKED", 1), ("UAVIONIX_ADSB_OUT_CONTROL_STATE_ON_GROUND", 4), ("UAVIONIX_ADSB_OUT_CONTROL_STATE_IDENT_BUTTON_ACTIVE", 8), ("UAVIONIX_ADSB_OUT_CONTROL_STATE_MODE_A_ENABLED", 16), ("UAVIONIX_ADSB_OUT_CONTROL_STATE_MODE_C_ENABLED", 32), ("UAVIONIX_ADSB_OUT_CONTROL_STATE_MODE_S_ENABLED", 64), ("UAVIONIX_ADSB_OUT_CONTROL_STATE_1090ES_TX_ENABLED", 128)] }

def e_uavionix_UAVIONIX_ADSB_OUT_DYNAMIC_GPS_FIX : EnumDef := { name := "uavionix.UAVIONIX_ADSB_OUT_DYNAMIC_GPS_FIX", form := Marshal.plain, consts :=
  [("UAVIONIX_ADSB_OUT_DYNAMIC_GPS_FIX_NONE_0", 0), ("UAVIONIX_ADSB_OUT_DYNAMIC_GPS_FIX_NONE_1", 1), ("UAVIONIX_ADSB_OUT_DYNAMIC_GPS_FIX_2D", 2), ("UAVIONIX_ADSB_OUT_DYNAMIC_GPS_FIX_3D", 3), ("UAVIONIX_ADSB_OUT_DYNAMIC_GPS_FIX_DGPS", 4), ("UAVIONIX_ADSB_OUT_DYNAMIC_GPS_FIX_RTK", 5)] }

def e_uavionix_UAVIONIX_ADSB_OUT_DYNAMIC_STATE : EnumDef := { name := "uavionix.UAVIONIX_ADSB_OUT_DYNAMIC_STATE", form := Marshal.valueList [1, 2, 4, 8, 16], consts :=
  [("UAVIONIX_ADSB_OUT_DYNAMIC_STATE_INTENT_CHANGE", 1), ("UAVIONIX_ADSB_OUT_DYNAMIC_STATE_AUTOPILOT_ENABLED", 2), ("UAVIONIX_ADSB_OUT_DYNAMIC_STATE_NICBARO_CROSSCHECKED", 4), ("UAVIONIX_ADSB_OUT_DYNAMIC_STATE_ON_GROUND", 8), ("UAVIONIX_ADSB_OUT_DYNAMIC_STATE_IDENT", 16)] }

def e_uavionix_UAVIONIX_ADSB_OUT_RF_SELECT : EnumDef := { name := "uavionix.UAVIONIX_ADSB_OUT_RF_SELECT", form := Marshal.valueList [0, 1, 2], consts :=
  [("UAVIONIX_ADSB_OUT_RF_SELECT_STANDBY", 0), ("UAVIONIX_ADSB_OUT_RF_SELECT_RX_ENABLED", 1), ("UAVIONIX_ADSB_OUT_RF_SELECT_TX_ENABLED", 2)] }

def e_uavionix_UAVIONIX_ADSB_OUT_STATUS_FAULT : EnumDef := { name := "uavionix.UAVIONIX_ADSB_OUT_STATUS_FAULT", form := Marshal.plain, consts :=
  [("UAVIONIX_ADSB_OUT_STATUS_FAULT_STATUS_MESSAGE_UNAVAIL", 8), ("UAVIONIX_ADSB_OUT_STATUS_FAULT_GPS_NO_POS", 16), ("UAVIONIX_ADSB_OUT_STATUS_FAULT_GPS_UNAVAIL", 32), ("UAVIONIX_ADSB_OUT_STATUS_FAULT_TX_SYSTEM_FAIL", 64), ("UAVIONIX_ADSB_OUT_STATUS_FAULT_MAINT_REQ", 128)] }

def e_uavionix_UAVIONIX_ADSB_OUT_STATUS_NIC_NACP : EnumDef := { name := "uavionix.UAVIONIX_ADSB_OUT_STATUS_NIC_NACP", form := Marshal.plain, consts :=
  [("UAVIONIX_ADSB_NIC_CR_20_NM", 1), ("UAVIONIX_ADSB_NIC_CR_8_NM", 2), ("UAVIONIX_ADSB_NIC_CR_4_NM", 3), ("UAVIONIX_ADSB_NIC_CR_2_NM", 4), ("UAVIONIX_ADSB_NIC_CR_1_NM", 5), ("UAVIONIX_ADSB_NIC_CR_0_3_NM", 6), ("UAVIONIX_ADSB_NIC_CR_0_2_NM", 7), ("UAVIONIX_ADSB_NIC_CR_0_1_NM", 8), ("UAVIONIX_ADSB_NIC_CR_75_M", 9), ("UAVIONIX_ADSB_NIC_CR_25_M", 10), ("UAVIONIX_ADSB_NIC_CR_7_5_M", 11), ("UAVIONIX_ADSB_NACP_EPU_10_NM", 16), ("UAVIONIX_ADSB_NACP_EPU_4_NM", 32), ("UAVIONIX_ADSB_NACP_EPU_2_NM", 48), ("UAVIONIX_ADSB_NACP_EPU_1_NM", 64), ("UAVIONIX_ADSB_NACP_EPU_0_5_NM", 80), ("UAVIONIX_ADSB_NACP_EPU_0_3_NM", 96), ("UAVIONIX_ADSB_NACP_EPU_0_1_NM", 112), ("UAVIONIX_ADSB_NACP_EPU_0_05_NM", 128), ("UAVIONIX_ADSB_NACP_EPU_30_M", 144), ("UAVIONIX_ADSB_NACP_EPU_10_M", 160), ("UAVIONIX_ADSB_NACP_EPU_3_M", 176)] }

def e_uavionix_UAVIONIX_ADSB_OUT_STATUS_STATE : EnumDef := { name := "uavionix.UAVIONIX_ADSB_OUT_STATUS_STATE", form := Marshal.plain, consts :=
  [("UAVIONIX_ADSB_OUT_STATUS_STATE_ON_GROUND", 1), ("UAVIONIX_ADSB_OUT_STATUS_STATE_INTERROGATED_SINCE_LAST", 2), ("UAVIONIX_ADSB_OUT_STATUS_STATE_XBIT_ENABLED", 4), ("UAVIONIX_ADSB_OUT_STATUS_STATE_IDENT_ACTIVE", 8), ("UAVIONIX_ADSB_OUT_STATUS_STATE_MODE_A_ENABLED", 16), ("UAVIONIX_ADSB_OUT_STATUS_STATE_MODE_C_ENABLED", 32), ("UAVIONIX_ADSB_OUT_STATUS_STATE_MODE_S_ENABLED", 64), ("UAVIONIX_ADSB_OUT_STATUS_STATE_1090ES_TX_ENABLED", 128)] }

def e_uavionix_UAVIONIX_ADSB_RF_HEALTH : EnumDef := { name := "uavionix.UAVIONIX_ADSB_RF_HEALTH", form := Marshal.valueList [0, 1, 2, 16], consts :=
  [("UAVIONIX_ADSB_RF_HEALTH_INITIALIZING", 0), ("UAVIONIX_ADSB_RF_HEALTH_OK", 1), ("UAVIONIX_ADSB_RF_HEALTH_FAIL_TX", 2), ("UAVIONIX_ADSB_RF_HEALTH_FAIL_RX", 16)] }

def e_uavionix_UAVIONIX_ADSB_XBIT : EnumDef := { name := "uavionix.UAVIONIX_ADSB_XBIT", form := Marshal.plain, consts :=
  [("UAVIONIX_ADSB_XBIT_ENABLED", 128)] }

def enums_9 : List EnumDef := [e_storm32_MAV_QSHOT_MODE, e_storm32_MAV_STORM32_CAMERA_PREARM_FLAGS, e_storm32_MAV_STORM32_GIMBAL_MANAGER_CAP_FLAGS, e_storm32_MAV_STORM32_GIMBAL_MANAGER_CLIENT, e_storm32_MAV_STORM32_GIMBAL_MANAGER_FLAGS, e_storm32_MAV_STORM32_GIMBAL_MANAGER_PROFILE, e_storm32_MAV_STORM32_GIMBAL_PREARM_FLAGS, e_storm32_MAV_STORM32_TUNNEL_PAYLOAD_TYPE, e_ualberta_UALBERTA_AUTOPILOT_MODE, e_ualberta_UALBERTA_NAV_MODE, e_ualberta_UALBERTA_PILOT_MODE, e_uavionix_UAVIONIX_ADSB_EMERGENCY_STATUS, e_uavionix_UAVIONIX_ADSB_OUT_CFG_AIRCRAFT_SIZE, e_uavionix_UAVIONIX_ADSB_OUT_CFG_GPS_OFFSET_LAT, e_uavionix_UAVIONIX_ADSB_OUT_CFG_GPS_OFFSET_LON, e_uavionix_UAVIONIX_ADSB_OUT_CONTROL_STATE, e_uavionix_UAVIONIX_ADSB_OUT_DYNAMIC_GPS_FIX, e_uavionix_UAVIONIX_ADSB_OUT_DYNAMIC_STATE, e_uavionix_UAVIONIX_ADSB_OUT_RF_SELECT, e_uavionix_UAVIONIX_ADSB_OUT_STATUS_FAULT, e_uavionix_UAVIONIX_ADSB_OUT_STATUS_NIC_NACP, e_uavionix_UAVIONIX_ADSB_OUT_STATUS_STATE, e_uavionix_UAVIONIX_ADSB_RF_HEALTH, e_uavionix_UAVIONIX_ADSB_XBIT]

end Mav.Gen
