-- GENERATED by tools/extract — do not edit
import Mav.Gen.Msgs_0
import Mav.Gen.Msgs_1
import Mav.Gen.Msgs_2
import Mav.Gen.Msgs_3
import Mav.Gen.Msgs_4
import Mav.Gen.Msgs_5
import Mav.Gen.Msgs_6
import Mav.Gen.Msgs_7
import Mav.Gen.Msgs_8
import Mav.Gen.Msgs_9
import Mav.Gen.Msgs_10
import Mav.Gen.Msgs_11
import Mav.Gen.Msgs_12
import Mav.Gen.Msgs_13
import Mav.Gen.Msgs_14
import Mav.Gen.Msgs_15
import Mav.Gen.Msgs_16
namespace Mav.Gen

/-- every message struct defined under pkg/dialects (defining package, id, definition) -/
def allMsgs : List (String × Nat × Mav.Msg.GoStruct) :=
  msgs_0 ++ msgs_1 ++ msgs_2 ++ msgs_3 ++ msgs_4 ++ msgs_5 ++ msgs_6 ++ msgs_7 ++ msgs_8 ++ msgs_9 ++ msgs_10 ++ msgs_11 ++ msgs_12 ++ msgs_13 ++ msgs_14 ++ msgs_15 ++ msgs_16

/-- the dialect `common`: message id ↦ definition (through the alias chains) -/
def commonById : List (Nat × Mav.Msg.GoStruct) := [
  (0, m_minimal_MessageHeartbeat),
  (300, m_minimal_MessageProtocolVersion),
  (1, m_common_MessageSysStatus),
  (2, m_common_MessageSystemTime),
  (4, m_common_MessagePing),
  (5, m_common_MessageChangeOperatorControl),
  (6, m_common_MessageChangeOperatorControlAck),
  (7, m_common_MessageAuthKey),
  (8, m_common_MessageLinkNodeStatus),
  (11, m_common_MessageSetMode),
  (20, m_common_MessageParamRequestRead),
  (21, m_common_MessageParamRequestList),
  (22, m_common_MessageParamValue),
  (23, m_common_MessageParamSet),
  (24, m_common_MessageGpsRawInt),
  (25, m_common_MessageGpsStatus),
  (26, m_common_MessageScaledImu),
  (27, m_common_MessageRawImu),
  (28, m_common_MessageRawPressure),
  (29, m_common_MessageScaledPressure),
  (30, m_common_MessageAttitude),
  (31, m_common_MessageAttitudeQuaternion),
  (32, m_common_MessageLocalPositionNed),
  (33, m_common_MessageGlobalPositionInt),
  (34, m_common_MessageRcChannelsScaled),
  (35, m_common_MessageRcChannelsRaw),
  (36, m_common_MessageServoOutputRaw),
  (37, m_common_MessageMissionRequestPartialList),
  (38, m_common_MessageMissionWritePartialList),
  (39, m_common_MessageMissionItem),
  (40, m_common_MessageMissionRequest),
  (41, m_common_MessageMissionSetCurrent),
  (42, m_common_MessageMissionCurrent),
  (43, m_common_MessageMissionRequestList),
  (44, m_common_MessageMissionCount),
  (45, m_common_MessageMissionClearAll),
  (46, m_common_MessageMissionItemReached),
  (47, m_common_MessageMissionAck),
  (48, m_common_MessageSetGpsGlobalOrigin),
  (49, m_common_MessageGpsGlobalOrigin),
  (50, m_common_MessageParamMapRc),
  (51, m_common_MessageMissionRequestInt),
  (54, m_common_MessageSafetySetAllowedArea),
  (55, m_common_MessageSafetyAllowedArea),
  (61, m_common_MessageAttitudeQuaternionCov),
  (62, m_common_MessageNavControllerOutput),
  (63, m_common_MessageGlobalPositionIntCov),
  (64, m_common_MessageLocalPositionNedCov),
  (65, m_common_MessageRcChannels),
  (66, m_common_MessageRequestDataStream),
  (67, m_common_MessageDataStream),
  (69, m_common_MessageManualControl),
  (70, m_common_MessageRcChannelsOverride),
  (73, m_common_MessageMissionItemInt),
  (74, m_common_MessageVfrHud),
  (75, m_common_MessageCommandInt),
  (76, m_common_MessageCommandLong),
  (77, m_common_MessageCommandAck),
  (80, m_common_MessageCommandCancel),
  (81, m_common_MessageManualSetpoint),
  (82, m_common_MessageSetAttitudeTarget),
  (83, m_common_MessageAttitudeTarget),
  (84, m_common_MessageSetPositionTargetLocalNed),
  (85, m_common_MessagePositionTargetLocalNed),
  (86, m_common_MessageSetPositionTargetGlobalInt),
  (87, m_common_MessagePositionTargetGlobalInt),
  (89, m_common_MessageLocalPositionNedSystemGlobalOffset),
  (90, m_common_MessageHilState),
  (91, m_common_MessageHilControls),
  (92, m_common_MessageHilRcInputsRaw),
  (93, m_common_MessageHilActuatorControls),
  (100, m_common_MessageOpticalFlow),
  (101, m_common_MessageGlobalVisionPositionEstimate),
  (102, m_common_MessageVisionPositionEstimate),
  (103, m_common_MessageVisionSpeedEstimate),
  (104, m_common_MessageViconPositionEstimate),
  (105, m_common_MessageHighresImu),
  (106, m_common_MessageOpticalFlowRad),
  (107, m_common_MessageHilSensor),
  (108, m_common_MessageSimState),
  (109, m_common_MessageRadioStatus),
  (110, m_common_MessageFileTransferProtocol),
  (111, m_common_MessageTimesync),
  (112, m_common_MessageCameraTrigger),
  (113, m_common_MessageHilGps),
  (114, m_common_MessageHilOpticalFlow),
  (115, m_common_MessageHilStateQuaternion),
  (116, m_common_MessageScaledImu2),
  (117, m_common_MessageLogRequestList),
  (118, m_common_MessageLogEntry),
  (119, m_common_MessageLogRequestData),
  (120, m_common_MessageLogData),
  (121, m_common_MessageLogErase),
  (122, m_common_MessageLogRequestEnd),
  (123, m_common_MessageGpsInjectData),
  (124, m_common_MessageGps2Raw),
  (125, m_common_MessagePowerStatus),
  (126, m_common_MessageSerialControl),
  (127, m_common_MessageGpsRtk),
  (128, m_common_MessageGps2Rtk),
  (129, m_common_MessageScaledImu3),
  (130, m_common_MessageDataTransmissionHandshake),
  (131, m_common_MessageEncapsulatedData),
  (132, m_common_MessageDistanceSensor),
  (133, m_common_MessageTerrainRequest),
  (134, m_common_MessageTerrainData),
  (135, m_common_MessageTerrainCheck),
  (136, m_common_MessageTerrainReport),
  (137, m_common_MessageScaledPressure2),
  (138, m_common_MessageAttPosMocap),
  (139, m_common_MessageSetActuatorControlTarget),
  (140, m_common_MessageActuatorControlTarget),
  (141, m_common_MessageAltitude),
  (142, m_common_MessageResourceRequest),
  (143, m_common_MessageScaledPressure3),
  (144, m_common_MessageFollowTarget),
  (146, m_common_MessageControlSystemState),
  (147, m_common_MessageBatteryStatus),
  (148, m_common_MessageAutopilotVersion),
  (149, m_common_MessageLandingTarget),
  (162, m_common_MessageFenceStatus),
  (192, m_common_MessageMagCalReport),
  (225, m_common_MessageEfiStatus),
  (230, m_common_MessageEstimatorStatus),
  (231, m_common_MessageWindCov),
  (232, m_common_MessageGpsInput),
  (233, m_common_MessageGpsRtcmData),
  (234, m_common_MessageHighLatency),
  (235, m_common_MessageHighLatency2),
  (241, m_common_MessageVibration),
  (242, m_common_MessageHomePosition),
  (243, m_common_MessageSetHomePosition),
  (244, m_common_MessageMessageInterval),
  (245, m_common_MessageExtendedSysState),
  (246, m_common_MessageAdsbVehicle),
  (247, m_common_MessageCollision),
  (248, m_common_MessageV2Extension),
  (249, m_common_MessageMemoryVect),
  (250, m_common_MessageDebugVect),
  (251, m_common_MessageNamedValueFloat),
  (252, m_common_MessageNamedValueInt),
  (253, m_common_MessageStatustext),
  (254, m_common_MessageDebug),
  (256, m_common_MessageSetupSigning),
  (257, m_common_MessageButtonChange),
  (258, m_common_MessagePlayTune),
  (259, m_common_MessageCameraInformation),
  (260, m_common_MessageCameraSettings),
  (261, m_common_MessageStorageInformation),
  (262, m_common_MessageCameraCaptureStatus),
  (263, m_common_MessageCameraImageCaptured),
  (264, m_common_MessageFlightInformation),
  (265, m_common_MessageMountOrientation),
  (266, m_common_MessageLoggingData),
  (267, m_common_MessageLoggingDataAcked),
  (268, m_common_MessageLoggingAck),
  (269, m_common_MessageVideoStreamInformation),
  (270, m_common_MessageVideoStreamStatus),
  (271, m_common_MessageCameraFovStatus),
  (275, m_common_MessageCameraTrackingImageStatus),
  (276, m_common_MessageCameraTrackingGeoStatus),
  (277, m_common_MessageCameraThermalRange),
  (280, m_common_MessageGimbalManagerInformation),
  (281, m_common_MessageGimbalManagerStatus),
  (282, m_common_MessageGimbalManagerSetAttitude),
  (283, m_common_MessageGimbalDeviceInformation),
  (284, m_common_MessageGimbalDeviceSetAttitude),
  (285, m_common_MessageGimbalDeviceAttitudeStatus),
  (286, m_common_MessageAutopilotStateForGimbalDevice),
  (287, m_common_MessageGimbalManagerSetPitchyaw),
  (288, m_common_MessageGimbalManagerSetManualControl),
  (290, m_common_MessageEscInfo),
  (291, m_common_MessageEscStatus),
  (299, m_common_MessageWifiConfigAp),
  (301, m_common_MessageAisVessel),
  (310, m_common_MessageUavcanNodeStatus),
  (311, m_common_MessageUavcanNodeInfo),
  (320, m_common_MessageParamExtRequestRead),
  (321, m_common_MessageParamExtRequestList),
  (322, m_common_MessageParamExtValue),
  (323, m_common_MessageParamExtSet),
  (324, m_common_MessageParamExtAck),
  (330, m_common_MessageObstacleDistance),
  (331, m_common_MessageOdometry),
  (332, m_common_MessageTrajectoryRepresentationWaypoints),
  (333, m_common_MessageTrajectoryRepresentationBezier),
  (334, m_common_MessageCellularStatus),
  (335, m_common_MessageIsbdLinkStatus),
  (336, m_common_MessageCellularConfig),
  (339, m_common_MessageRawRpm),
  (340, m_common_MessageUtmGlobalPosition),
  (350, m_common_MessageDebugFloatArray),
  (360, m_common_MessageOrbitExecutionStatus),
  (370, m_common_MessageSmartBatteryInfo),
  (371, m_common_MessageFuelStatus),
  (372, m_common_MessageBatteryInfo),
  (373, m_common_MessageGeneratorStatus),
  (375, m_common_MessageActuatorOutputStatus),
  (380, m_common_MessageTimeEstimateToTarget),
  (385, m_common_MessageTunnel),
  (386, m_common_MessageCanFrame),
  (390, m_common_MessageOnboardComputerStatus),
  (395, m_common_MessageComponentInformation),
  (396, m_common_MessageComponentInformationBasic),
  (397, m_common_MessageComponentMetadata),
  (400, m_common_MessagePlayTuneV2),
  (401, m_common_MessageSupportedTunes),
  (410, m_common_MessageEvent),
  (411, m_common_MessageCurrentEventSequence),
  (412, m_common_MessageRequestEvent),
  (413, m_common_MessageResponseEventError),
  (435, m_common_MessageAvailableModes),
  (436, m_common_MessageCurrentMode),
  (437, m_common_MessageAvailableModesMonitor),
  (440, m_common_MessageIlluminatorStatus),
  (387, m_common_MessageCanfdFrame),
  (388, m_common_MessageCanFilterModify),
  (9000, m_common_MessageWheelDistance),
  (9005, m_common_MessageWinchStatus),
  (12900, m_common_MessageOpenDroneIdBasicId),
  (12901, m_common_MessageOpenDroneIdLocation),
  (12902, m_common_MessageOpenDroneIdAuthentication),
  (12903, m_common_MessageOpenDroneIdSelfId),
  (12904, m_common_MessageOpenDroneIdSystem),
  (12905, m_common_MessageOpenDroneIdOperatorId),
  (12915, m_common_MessageOpenDroneIdMessagePack),
  (12918, m_common_MessageOpenDroneIdArmStatus),
  (12919, m_common_MessageOpenDroneIdSystemUpdate),
  (12920, m_common_MessageHygrometerSensor)]

def nMsgs : Nat := 408
end Mav.Gen
