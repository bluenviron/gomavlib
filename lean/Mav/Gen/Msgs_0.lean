-- GENERATED by tools/extract from pkg/dialects/*/message_*.go — do not edit
import Mav.Model.Msg
namespace Mav.Gen
open Mav.Msg

def m_ardupilotmega_MessageAdapTuning : GoStruct := { name := "MessageAdapTuning", fields := [
    { goName := "Axis", elemType := "PID_TUNING_AXIS", elemIsUint64 := true, mavenum := "uint8" },
    { goName := "Desired", elemType := "float32" },
    { goName := "Achieved", elemType := "float32" },
    { goName := "Error", elemType := "float32" },
    { goName := "Theta", elemType := "float32" },
    { goName := "Omega", elemType := "float32" },
    { goName := "Sigma", elemType := "float32" },
    { goName := "ThetaDot", elemType := "float32" },
    { goName := "OmegaDot", elemType := "float32" },
    { goName := "SigmaDot", elemType := "float32" },
    { goName := "F", elemType := "float32" },
    { goName := "FDot", elemType := "float32" },
    { goName := "U", elemType := "float32" }] }

def m_ardupilotmega_MessageAhrs : GoStruct := { name := "MessageAhrs", fields := [
    { goName := "Omegaix", elemType := "float32", mavname := "omegaIx" },
    { goName := "Omegaiy", elemType := "float32", mavname := "omegaIy" },
    { goName := "Omegaiz", elemType := "float32", mavname := "omegaIz" },
    { goName := "AccelWeight", elemType := "float32" },
    { goName := "RenormVal", elemType := "float32" },
    { goName := "ErrorRp", elemType := "float32" },
    { goName := "ErrorYaw", elemType := "float32" }] }

def m_ardupilotmega_MessageAhrs2 : GoStruct := { name := "MessageAhrs2", fields := [
    { goName := "Roll", elemType := "float32" },
    { goName := "Pitch", elemType := "float32" },
    { goName := "Yaw", elemType := "float32" },
    { goName := "Altitude", elemType := "float32" },
    { goName := "Lat", elemType := "int32" },
    { goName := "Lng", elemType := "int32" }] }

def m_ardupilotmega_MessageAhrs3 : GoStruct := { name := "MessageAhrs3", fields := [
    { goName := "Roll", elemType := "float32" },
    { goName := "Pitch", elemType := "float32" },
    { goName := "Yaw", elemType := "float32" },
    { goName := "Altitude", elemType := "float32" },
    { goName := "Lat", elemType := "int32" },
    { goName := "Lng", elemType := "int32" },
    { goName := "V1", elemType := "float32" },
    { goName := "V2", elemType := "float32" },
    { goName := "V3", elemType := "float32" },
    { goName := "V4", elemType := "float32" }] }

def m_ardupilotmega_MessageAirspeedAutocal : GoStruct := { name := "MessageAirspeedAutocal", fields := [
    { goName := "Vx", elemType := "float32" },
    { goName := "Vy", elemType := "float32" },
    { goName := "Vz", elemType := "float32" },
    { goName := "DiffPressure", elemType := "float32" },
    { goName := "Eas2tas", elemType := "float32", mavname := "EAS2TAS" },
    { goName := "Ratio", elemType := "float32" },
    { goName := "StateX", elemType := "float32" },
    { goName := "StateY", elemType := "float32" },
    { goName := "StateZ", elemType := "float32" },
    { goName := "Pax", elemType := "float32", mavname := "Pax" },
    { goName := "Pby", elemType := "float32", mavname := "Pby" },
    { goName := "Pcz", elemType := "float32", mavname := "Pcz" }] }

def m_ardupilotmega_MessageAoaSsa : GoStruct := { name := "MessageAoaSsa", fields := [
    { goName := "TimeUsec", elemType := "uint64", elemIsUint64 := true },
    { goName := "Aoa", elemType := "float32", mavname := "AOA" },
    { goName := "Ssa", elemType := "float32", mavname := "SSA" }] }

def m_ardupilotmega_MessageApAdc : GoStruct := { name := "MessageApAdc", fields := [
    { goName := "Adc1", elemType := "uint16" },
    { goName := "Adc2", elemType := "uint16" },
    { goName := "Adc3", elemType := "uint16" },
    { goName := "Adc4", elemType := "uint16" },
    { goName := "Adc5", elemType := "uint16" },
    { goName := "Adc6", elemType := "uint16" }] }

def m_ardupilotmega_MessageAutopilotVersionRequest : GoStruct := { name := "MessageAutopilotVersionRequest", fields := [
    { goName := "TargetSystem", elemType := "uint8" },
    { goName := "TargetComponent", elemType := "uint8" }] }

def m_ardupilotmega_MessageBattery2 : GoStruct := { name := "MessageBattery2", fields := [
    { goName := "Voltage", elemType := "uint16" },
    { goName := "CurrentBattery", elemType := "int16" }] }

def m_ardupilotmega_MessageCameraFeedback : GoStruct := { name := "MessageCameraFeedback", fields := [
    { goName := "TimeUsec", elemType := "uint64", elemIsUint64 := true },
    { goName := "TargetSystem", elemType := "uint8" },
    { goName := "CamIdx", elemType := "uint8" },
    { goName := "ImgIdx", elemType := "uint16" },
    { goName := "Lat", elemType := "int32" },
    { goName := "Lng", elemType := "int32" },
    { goName := "AltMsl", elemType := "float32" },
    { goName := "AltRel", elemType := "float32" },
    { goName := "Roll", elemType := "float32" },
    { goName := "Pitch", elemType := "float32" },
    { goName := "Yaw", elemType := "float32" },
    { goName := "FocLen", elemType := "float32" },
    { goName := "Flags", elemType := "CAMERA_FEEDBACK_FLAGS", elemIsUint64 := true, mavenum := "uint8" },
    { goName := "CompletedCaptures", elemType := "uint16", mavext := "true" }] }

def m_ardupilotmega_MessageCameraStatus : GoStruct := { name := "MessageCameraStatus", fields := [
    { goName := "TimeUsec", elemType := "uint64", elemIsUint64 := true },
    { goName := "TargetSystem", elemType := "uint8" },
    { goName := "CamIdx", elemType := "uint8" },
    { goName := "ImgIdx", elemType := "uint16" },
    { goName := "EventId", elemType := "CAMERA_STATUS_TYPES", elemIsUint64 := true, mavenum := "uint8" },
    { goName := "P1", elemType := "float32" },
    { goName := "P2", elemType := "float32" },
    { goName := "P3", elemType := "float32" },
    { goName := "P4", elemType := "float32" }] }

def m_ardupilotmega_MessageCompassmotStatus : GoStruct := { name := "MessageCompassmotStatus", fields := [
    { goName := "Throttle", elemType := "uint16" },
    { goName := "Current", elemType := "float32" },
    { goName := "Interference", elemType := "uint16" },
    { goName := "Compensationx", elemType := "float32", mavname := "CompensationX" },
    { goName := "Compensationy", elemType := "float32", mavname := "CompensationY" },
    { goName := "Compensationz", elemType := "float32", mavname := "CompensationZ" }] }

def m_ardupilotmega_MessageData16 : GoStruct := { name := "MessageData16", fields := [
    { goName := "Type", elemType := "uint8" },
    { goName := "Len", elemType := "uint8" },
    { goName := "Data", elemType := "uint8", isArray := true, arrLen := 16 }] }

def m_ardupilotmega_MessageData32 : GoStruct := { name := "MessageData32", fields := [
    { goName := "Type", elemType := "uint8" },
    { goName := "Len", elemType := "uint8" },
    { goName := "Data", elemType := "uint8", isArray := true, arrLen := 32 }] }

def m_ardupilotmega_MessageData64 : GoStruct := { name := "MessageData64", fields := [
    { goName := "Type", elemType := "uint8" },
    { goName := "Len", elemType := "uint8" },
    { goName := "Data", elemType := "uint8", isArray := true, arrLen := 64 }] }

def m_ardupilotmega_MessageData96 : GoStruct := { name := "MessageData96", fields := [
    { goName := "Type", elemType := "uint8" },
    { goName := "Len", elemType := "uint8" },
    { goName := "Data", elemType := "uint8", isArray := true, arrLen := 96 }] }

def m_ardupilotmega_MessageDeepstall : GoStruct := { name := "MessageDeepstall", fields := [
    { goName := "LandingLat", elemType := "int32" },
    { goName := "LandingLon", elemType := "int32" },
    { goName := "PathLat", elemType := "int32" },
    { goName := "PathLon", elemType := "int32" },
    { goName := "ArcEntryLat", elemType := "int32" },
    { goName := "ArcEntryLon", elemType := "int32" },
    { goName := "Altitude", elemType := "float32" },
    { goName := "ExpectedTravelDistance", elemType := "float32" },
    { goName := "CrossTrackError", elemType := "float32" },
    { goName := "Stage", elemType := "DEEPSTALL_STAGE", elemIsUint64 := true, mavenum := "uint8" }] }

def m_ardupilotmega_MessageDeviceOpRead : GoStruct := { name := "MessageDeviceOpRead", fields := [
    { goName := "TargetSystem", elemType := "uint8" },
    { goName := "TargetComponent", elemType := "uint8" },
    { goName := "RequestId", elemType := "uint32" },
    { goName := "Bustype", elemType := "DEVICE_OP_BUSTYPE", elemIsUint64 := true, mavenum := "uint8" },
    { goName := "Bus", elemType := "uint8" },
    { goName := "Address", elemType := "uint8" },
    { goName := "Busname", elemType := "string", mavlen := "40" },
    { goName := "Regstart", elemType := "uint8" },
    { goName := "Count", elemType := "uint8" },
    { goName := "Bank", elemType := "uint8", mavext := "true" }] }

def m_ardupilotmega_MessageDeviceOpReadReply : GoStruct := { name := "MessageDeviceOpReadReply", fields := [
    { goName := "RequestId", elemType := "uint32" },
    { goName := "Result", elemType := "uint8" },
    { goName := "Regstart", elemType := "uint8" },
    { goName := "Count", elemType := "uint8" },
    { goName := "Data", elemType := "uint8", isArray := true, arrLen := 128 },
    { goName := "Bank", elemType := "uint8", mavext := "true" }] }

def m_ardupilotmega_MessageDeviceOpWrite : GoStruct := { name := "MessageDeviceOpWrite", fields := [
    { goName := "TargetSystem", elemType := "uint8" },
    { goName := "TargetComponent", elemType := "uint8" },
    { goName := "RequestId", elemType := "uint32" },
    { goName := "Bustype", elemType := "DEVICE_OP_BUSTYPE", elemIsUint64 := true, mavenum := "uint8" },
    { goName := "Bus", elemType := "uint8" },
    { goName := "Address", elemType := "uint8" },
    { goName := "Busname", elemType := "string", mavlen := "40" },
    { goName := "Regstart", elemType := "uint8" },
    { goName := "Count", elemType := "uint8" },
    { goName := "Data", elemType := "uint8", isArray := true, arrLen := 128 },
    { goName := "Bank", elemType := "uint8", mavext := "true" }] }

def m_ardupilotmega_MessageDeviceOpWriteReply : GoStruct := { name := "MessageDeviceOpWriteReply", fields := [
    { goName := "RequestId", elemType := "uint32" },
    { goName := "Result", elemType := "uint8" }] }

def m_ardupilotmega_MessageDigicamConfigure : GoStruct := { name := "MessageDigicamConfigure", fields := [
    { goName := "TargetSystem", elemType := "uint8" },
    { goName := "TargetComponent", elemType := "uint8" },
    { goName := "Mode", elemType := "uint8" },
    { goName := "ShutterSpeed", elemType := "uint16" },
    { goName := "Aperture", elemType := "uint8" },
    { goName := "Iso", elemType := "uint8" },
    { goName := "ExposureType", elemType := "uint8" },
    { goName := "CommandId", elemType := "uint8" },
    { goName := "EngineCutOff", elemType := "uint8" },
    { goName := "ExtraParam", elemType := "uint8" },
    { goName := "ExtraValue", elemType := "float32" }] }

def m_ardupilotmega_MessageDigicamControl : GoStruct := { name := "MessageDigicamControl", fields := [
    { goName := "TargetSystem", elemType := "uint8" },
    { goName := "TargetComponent", elemType := "uint8" },
    { goName := "Session", elemType := "uint8" },
    { goName := "ZoomPos", elemType := "uint8" },
    { goName := "ZoomStep", elemType := "int8" },
    { goName := "FocusLock", elemType := "uint8" },
    { goName := "Shot", elemType := "uint8" },
    { goName := "CommandId", elemType := "uint8" },
    { goName := "ExtraParam", elemType := "uint8" },
    { goName := "ExtraValue", elemType := "float32" }] }

def m_ardupilotmega_MessageEkfStatusReport : GoStruct := { name := "MessageEkfStatusReport", fields := [
    { goName := "Flags", elemType := "EKF_STATUS_FLAGS", elemIsUint64 := true, mavenum := "uint16" },
    { goName := "VelocityVariance", elemType := "float32" },
    { goName := "PosHorizVariance", elemType := "float32" },
    { goName := "PosVertVariance", elemType := "float32" },
    { goName := "CompassVariance", elemType := "float32" },
    { goName := "TerrainAltVariance", elemType := "float32" },
    { goName := "AirspeedVariance", elemType := "float32", mavext := "true" }] }

def msgs_0 : List (String × Nat × GoStruct) := [
  ("ardupilotmega", 11010, m_ardupilotmega_MessageAdapTuning),
  ("ardupilotmega", 163, m_ardupilotmega_MessageAhrs),
  ("ardupilotmega", 178, m_ardupilotmega_MessageAhrs2),
  ("ardupilotmega", 182, m_ardupilotmega_MessageAhrs3),
  ("ardupilotmega", 174, m_ardupilotmega_MessageAirspeedAutocal),
  ("ardupilotmega", 11020, m_ardupilotmega_MessageAoaSsa),
  ("ardupilotmega", 153, m_ardupilotmega_MessageApAdc),
  ("ardupilotmega", 183, m_ardupilotmega_MessageAutopilotVersionRequest),
  ("ardupilotmega", 181, m_ardupilotmega_MessageBattery2),
  ("ardupilotmega", 180, m_ardupilotmega_MessageCameraFeedback),
  ("ardupilotmega", 179, m_ardupilotmega_MessageCameraStatus),
  ("ardupilotmega", 177, m_ardupilotmega_MessageCompassmotStatus),
  ("ardupilotmega", 169, m_ardupilotmega_MessageData16),
  ("ardupilotmega", 170, m_ardupilotmega_MessageData32),
  ("ardupilotmega", 171, m_ardupilotmega_MessageData64),
  ("ardupilotmega", 172, m_ardupilotmega_MessageData96),
  ("ardupilotmega", 195, m_ardupilotmega_MessageDeepstall),
  ("ardupilotmega", 11000, m_ardupilotmega_MessageDeviceOpRead),
  ("ardupilotmega", 11001, m_ardupilotmega_MessageDeviceOpReadReply),
  ("ardupilotmega", 11002, m_ardupilotmega_MessageDeviceOpWrite),
  ("ardupilotmega", 11003, m_ardupilotmega_MessageDeviceOpWriteReply),
  ("ardupilotmega", 154, m_ardupilotmega_MessageDigicamConfigure),
  ("ardupilotmega", 155, m_ardupilotmega_MessageDigicamControl),
  ("ardupilotmega", 193, m_ardupilotmega_MessageEkfStatusReport)]

end Mav.Gen
