-- GENERATED by tools/extract from pkg/dialects/*/message_*.go — do not edit
import Mav.Model.Msg
namespace Mav.Gen
open Mav.Msg

def m_ardupilotmega_MessageEscTelemetry_13To_16 : GoStruct := { name := "MessageEscTelemetry_13To_16", fields := [
    { goName := "Temperature", elemType := "uint8", isArray := true, arrLen := 4 },
    { goName := "Voltage", elemType := "uint16", isArray := true, arrLen := 4 },
    { goName := "Current", elemType := "uint16", isArray := true, arrLen := 4 },
    { goName := "Totalcurrent", elemType := "uint16", isArray := true, arrLen := 4 },
    { goName := "Rpm", elemType := "uint16", isArray := true, arrLen := 4 },
    { goName := "Count", elemType := "uint16", isArray := true, arrLen := 4 }] }

def m_ardupilotmega_MessageEscTelemetry_17To_20 : GoStruct := { name := "MessageEscTelemetry_17To_20", fields := [
    { goName := "Temperature", elemType := "uint8", isArray := true, arrLen := 4 },
    { goName := "Voltage", elemType := "uint16", isArray := true, arrLen := 4 },
    { goName := "Current", elemType := "uint16", isArray := true, arrLen := 4 },
    { goName := "Totalcurrent", elemType := "uint16", isArray := true, arrLen := 4 },
    { goName := "Rpm", elemType := "uint16", isArray := true, arrLen := 4 },
    { goName := "Count", elemType := "uint16", isArray := true, arrLen := 4 }] }

def m_ardupilotmega_MessageEscTelemetry_1To_4 : GoStruct := { name := "MessageEscTelemetry_1To_4", fields := [
    { goName := "Temperature", elemType := "uint8", isArray := true, arrLen := 4 },
    { goName := "Voltage", elemType := "uint16", isArray := true, arrLen := 4 },
    { goName := "Current", elemType := "uint16", isArray := true, arrLen := 4 },
    { goName := "Totalcurrent", elemType := "uint16", isArray := true, arrLen := 4 },
    { goName := "Rpm", elemType := "uint16", isArray := true, arrLen := 4 },
    { goName := "Count", elemType := "uint16", isArray := true, arrLen := 4 }] }

def m_ardupilotmega_MessageEscTelemetry_21To_24 : GoStruct := { name := "MessageEscTelemetry_21To_24", fields := [
    { goName := "Temperature", elemType := "uint8", isArray := true, arrLen := 4 },
    { goName := "Voltage", elemType := "uint16", isArray := true, arrLen := 4 },
    { goName := "Current", elemType := "uint16", isArray := true, arrLen := 4 },
    { goName := "Totalcurrent", elemType := "uint16", isArray := true, arrLen := 4 },
    { goName := "Rpm", elemType := "uint16", isArray := true, arrLen := 4 },
    { goName := "Count", elemType := "uint16", isArray := true, arrLen := 4 }] }

def m_ardupilotmega_MessageEscTelemetry_25To_28 : GoStruct := { name := "MessageEscTelemetry_25To_28", fields := [
    { goName := "Temperature", elemType := "uint8", isArray := true, arrLen := 4 },
    { goName := "Voltage", elemType := "uint16", isArray := true, arrLen := 4 },
    { goName := "Current", elemType := "uint16", isArray := true, arrLen := 4 },
    { goName := "Totalcurrent", elemType := "uint16", isArray := true, arrLen := 4 },
    { goName := "Rpm", elemType := "uint16", isArray := true, arrLen := 4 },
    { goName := "Count", elemType := "uint16", isArray := true, arrLen := 4 }] }

def m_ardupilotmega_MessageEscTelemetry_29To_32 : GoStruct := { name := "MessageEscTelemetry_29To_32", fields := [
    { goName := "Temperature", elemType := "uint8", isArray := true, arrLen := 4 },
    { goName := "Voltage", elemType := "uint16", isArray := true, arrLen := 4 },
    { goName := "Current", elemType := "uint16", isArray := true, arrLen := 4 },
    { goName := "Totalcurrent", elemType := "uint16", isArray := true, arrLen := 4 },
    { goName := "Rpm", elemType := "uint16", isArray := true, arrLen := 4 },
    { goName := "Count", elemType := "uint16", isArray := true, arrLen := 4 }] }

def m_ardupilotmega_MessageEscTelemetry_5To_8 : GoStruct := { name := "MessageEscTelemetry_5To_8", fields := [
    { goName := "Temperature", elemType := "uint8", isArray := true, arrLen := 4 },
    { goName := "Voltage", elemType := "uint16", isArray := true, arrLen := 4 },
    { goName := "Current", elemType := "uint16", isArray := true, arrLen := 4 },
    { goName := "Totalcurrent", elemType := "uint16", isArray := true, arrLen := 4 },
    { goName := "Rpm", elemType := "uint16", isArray := true, arrLen := 4 },
    { goName := "Count", elemType := "uint16", isArray := true, arrLen := 4 }] }

def m_ardupilotmega_MessageEscTelemetry_9To_12 : GoStruct := { name := "MessageEscTelemetry_9To_12", fields := [
    { goName := "Temperature", elemType := "uint8", isArray := true, arrLen := 4 },
    { goName := "Voltage", elemType := "uint16", isArray := true, arrLen := 4 },
    { goName := "Current", elemType := "uint16", isArray := true, arrLen := 4 },
    { goName := "Totalcurrent", elemType := "uint16", isArray := true, arrLen := 4 },
    { goName := "Rpm", elemType := "uint16", isArray := true, arrLen := 4 },
    { goName := "Count", elemType := "uint16", isArray := true, arrLen := 4 }] }

def m_ardupilotmega_MessageFenceFetchPoint : GoStruct := { name := "MessageFenceFetchPoint", fields := [
    { goName := "TargetSystem", elemType := "uint8" },
    { goName := "TargetComponent", elemType := "uint8" },
    { goName := "Idx", elemType := "uint8" }] }

def m_ardupilotmega_MessageFencePoint : GoStruct := { name := "MessageFencePoint", fields := [
    { goName := "TargetSystem", elemType := "uint8" },
    { goName := "TargetComponent", elemType := "uint8" },
    { goName := "Idx", elemType := "uint8" },
    { goName := "Count", elemType := "uint8" },
    { goName := "Lat", elemType := "float32" },
    { goName := "Lng", elemType := "float32" }] }

def m_ardupilotmega_MessageGimbalControl : GoStruct := { name := "MessageGimbalControl", fields := [
    { goName := "TargetSystem", elemType := "uint8" },
    { goName := "TargetComponent", elemType := "uint8" },
    { goName := "DemandedRateX", elemType := "float32" },
    { goName := "DemandedRateY", elemType := "float32" },
    { goName := "DemandedRateZ", elemType := "float32" }] }

def m_ardupilotmega_MessageGimbalReport : GoStruct := { name := "MessageGimbalReport", fields := [
    { goName := "TargetSystem", elemType := "uint8" },
    { goName := "TargetComponent", elemType := "uint8" },
    { goName := "DeltaTime", elemType := "float32" },
    { goName := "DeltaAngleX", elemType := "float32" },
    { goName := "DeltaAngleY", elemType := "float32" },
    { goName := "DeltaAngleZ", elemType := "float32" },
    { goName := "DeltaVelocityX", elemType := "float32" },
    { goName := "DeltaVelocityY", elemType := "float32" },
    { goName := "DeltaVelocityZ", elemType := "float32" },
    { goName := "JointRoll", elemType := "float32" },
    { goName := "JointEl", elemType := "float32" },
    { goName := "JointAz", elemType := "float32" }] }

def m_ardupilotmega_MessageGimbalTorqueCmdReport : GoStruct := { name := "MessageGimbalTorqueCmdReport", fields := [
    { goName := "TargetSystem", elemType := "uint8" },
    { goName := "TargetComponent", elemType := "uint8" },
    { goName := "RlTorqueCmd", elemType := "int16" },
    { goName := "ElTorqueCmd", elemType := "int16" },
    { goName := "AzTorqueCmd", elemType := "int16" }] }

def m_ardupilotmega_MessageGoproGetRequest : GoStruct := { name := "MessageGoproGetRequest", fields := [
    { goName := "TargetSystem", elemType := "uint8" },
    { goName := "TargetComponent", elemType := "uint8" },
    { goName := "CmdId", elemType := "GOPRO_COMMAND", elemIsUint64 := true, mavenum := "uint8" }] }

def m_ardupilotmega_MessageGoproGetResponse : GoStruct := { name := "MessageGoproGetResponse", fields := [
    { goName := "CmdId", elemType := "GOPRO_COMMAND", elemIsUint64 := true, mavenum := "uint8" },
    { goName := "Status", elemType := "GOPRO_REQUEST_STATUS", elemIsUint64 := true, mavenum := "uint8" },
    { goName := "Value", elemType := "uint8", isArray := true, arrLen := 4 }] }

def m_ardupilotmega_MessageGoproHeartbeat : GoStruct := { name := "MessageGoproHeartbeat", fields := [
    { goName := "Status", elemType := "GOPRO_HEARTBEAT_STATUS", elemIsUint64 := true, mavenum := "uint8" },
    { goName := "CaptureMode", elemType := "GOPRO_CAPTURE_MODE", elemIsUint64 := true, mavenum := "uint8" },
    { goName := "Flags", elemType := "GOPRO_HEARTBEAT_FLAGS", elemIsUint64 := true, mavenum := "uint8" }] }

def m_ardupilotmega_MessageGoproSetRequest : GoStruct := { name := "MessageGoproSetRequest", fields := [
    { goName := "TargetSystem", elemType := "uint8" },
    { goName := "TargetComponent", elemType := "uint8" },
    { goName := "CmdId", elemType := "GOPRO_COMMAND", elemIsUint64 := true, mavenum := "uint8" },
    { goName := "Value", elemType := "uint8", isArray := true, arrLen := 4 }] }

def m_ardupilotmega_MessageGoproSetResponse : GoStruct := { name := "MessageGoproSetResponse", fields := [
    { goName := "CmdId", elemType := "GOPRO_COMMAND", elemIsUint64 := true, mavenum := "uint8" },
    { goName := "Status", elemType := "GOPRO_REQUEST_STATUS", elemIsUint64 := true, mavenum := "uint8" }] }

def m_ardupilotmega_MessageHwstatus : GoStruct := { name := "MessageHwstatus", fields := [
    { goName := "Vcc", elemType := "uint16", mavname := "Vcc" },
    { goName := "I2cerr", elemType := "uint8", mavname := "I2Cerr" }] }

def m_ardupilotmega_MessageLedControl : GoStruct := { name := "MessageLedControl", fields := [
    { goName := "TargetSystem", elemType := "uint8" },
    { goName := "TargetComponent", elemType := "uint8" },
    { goName := "Instance", elemType := "uint8" },
    { goName := "Pattern", elemType := "uint8" },
    { goName := "CustomLen", elemType := "uint8" },
    { goName := "CustomBytes", elemType := "uint8", isArray := true, arrLen := 24 }] }

def m_ardupilotmega_MessageLimitsStatus : GoStruct := { name := "MessageLimitsStatus", fields := [
    { goName := "LimitsState", elemType := "LIMITS_STATE", elemIsUint64 := true, mavenum := "uint8" },
    { goName := "LastTrigger", elemType := "uint32" },
    { goName := "LastAction", elemType := "uint32" },
    { goName := "LastRecovery", elemType := "uint32" },
    { goName := "LastClear", elemType := "uint32" },
    { goName := "BreachCount", elemType := "uint16" },
    { goName := "ModsEnabled", elemType := "LIMIT_MODULE", elemIsUint64 := true, mavenum := "uint8" },
    { goName := "ModsRequired", elemType := "LIMIT_MODULE", elemIsUint64 := true, mavenum := "uint8" },
    { goName := "ModsTriggered", elemType := "LIMIT_MODULE", elemIsUint64 := true, mavenum := "uint8" }] }

def m_ardupilotmega_MessageMagCalProgress : GoStruct := { name := "MessageMagCalProgress", fields := [
    { goName := "CompassId", elemType := "uint8" },
    { goName := "CalMask", elemType := "uint8" },
    { goName := "CalStatus", elemType := "MAG_CAL_STATUS", elemIsUint64 := true, mavenum := "uint8" },
    { goName := "Attempt", elemType := "uint8" },
    { goName := "CompletionPct", elemType := "uint8" },
    { goName := "CompletionMask", elemType := "uint8", isArray := true, arrLen := 10 },
    { goName := "DirectionX", elemType := "float32" },
    { goName := "DirectionY", elemType := "float32" },
    { goName := "DirectionZ", elemType := "float32" }] }

def m_ardupilotmega_MessageMcuStatus : GoStruct := { name := "MessageMcuStatus", fields := [
    { goName := "Id", elemType := "uint8" },
    { goName := "McuTemperature", elemType := "int16", mavname := "MCU_temperature" },
    { goName := "McuVoltage", elemType := "uint16", mavname := "MCU_voltage" },
    { goName := "McuVoltageMin", elemType := "uint16", mavname := "MCU_voltage_min" },
    { goName := "McuVoltageMax", elemType := "uint16", mavname := "MCU_voltage_max" }] }

def m_ardupilotmega_MessageMeminfo : GoStruct := { name := "MessageMeminfo", fields := [
    { goName := "Brkval", elemType := "uint16" },
    { goName := "Freemem", elemType := "uint16" },
    { goName := "Freemem32", elemType := "uint32", mavext := "true" }] }

def msgs_1 : List (String × Nat × GoStruct) := [
  ("ardupilotmega", 11040, m_ardupilotmega_MessageEscTelemetry_13To_16),
  ("ardupilotmega", 11041, m_ardupilotmega_MessageEscTelemetry_17To_20),
  ("ardupilotmega", 11030, m_ardupilotmega_MessageEscTelemetry_1To_4),
  ("ardupilotmega", 11042, m_ardupilotmega_MessageEscTelemetry_21To_24),
  ("ardupilotmega", 11043, m_ardupilotmega_MessageEscTelemetry_25To_28),
  ("ardupilotmega", 11044, m_ardupilotmega_MessageEscTelemetry_29To_32),
  ("ardupilotmega", 11031, m_ardupilotmega_MessageEscTelemetry_5To_8),
  ("ardupilotmega", 11032, m_ardupilotmega_MessageEscTelemetry_9To_12),
  ("ardupilotmega", 161, m_ardupilotmega_MessageFenceFetchPoint),
  ("ardupilotmega", 160, m_ardupilotmega_MessageFencePoint),
  ("ardupilotmega", 201, m_ardupilotmega_MessageGimbalControl),
  ("ardupilotmega", 200, m_ardupilotmega_MessageGimbalReport),
  ("ardupilotmega", 214, m_ardupilotmega_MessageGimbalTorqueCmdReport),
  ("ardupilotmega", 216, m_ardupilotmega_MessageGoproGetRequest),
  ("ardupilotmega", 217, m_ardupilotmega_MessageGoproGetResponse),
  ("ardupilotmega", 215, m_ardupilotmega_MessageGoproHeartbeat),
  ("ardupilotmega", 218, m_ardupilotmega_MessageGoproSetRequest),
  ("ardupilotmega", 219, m_ardupilotmega_MessageGoproSetResponse),
  ("ardupilotmega", 165, m_ardupilotmega_MessageHwstatus),
  ("ardupilotmega", 186, m_ardupilotmega_MessageLedControl),
  ("ardupilotmega", 167, m_ardupilotmega_MessageLimitsStatus),
  ("ardupilotmega", 191, m_ardupilotmega_MessageMagCalProgress),
  ("ardupilotmega", 11039, m_ardupilotmega_MessageMcuStatus),
  ("ardupilotmega", 152, m_ardupilotmega_MessageMeminfo)]

end Mav.Gen
