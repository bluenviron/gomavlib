-- GENERATED by tools/extract from pkg/dialects/*/message_*.go — do not edit
import Mav.Model.Msg
namespace Mav.Gen
open Mav.Msg

def m_common_MessageOpticalFlow : GoStruct := { name := "MessageOpticalFlow", fields := [
    { goName := "TimeUsec", elemType := "uint64", elemIsUint64 := true },
    { goName := "SensorId", elemType := "uint8" },
    { goName := "FlowX", elemType := "int16" },
    { goName := "FlowY", elemType := "int16" },
    { goName := "FlowCompMX", elemType := "float32" },
    { goName := "FlowCompMY", elemType := "float32" },
    { goName := "Quality", elemType := "uint8" },
    { goName := "GroundDistance", elemType := "float32" },
    { goName := "FlowRateX", elemType := "float32", mavext := "true" },
    { goName := "FlowRateY", elemType := "float32", mavext := "true" }] }

def m_common_MessageOpticalFlowRad : GoStruct := { name := "MessageOpticalFlowRad", fields := [
    { goName := "TimeUsec", elemType := "uint64", elemIsUint64 := true },
    { goName := "SensorId", elemType := "uint8" },
    { goName := "IntegrationTimeUs", elemType := "uint32" },
    { goName := "IntegratedX", elemType := "float32" },
    { goName := "IntegratedY", elemType := "float32" },
    { goName := "IntegratedXgyro", elemType := "float32" },
    { goName := "IntegratedYgyro", elemType := "float32" },
    { goName := "IntegratedZgyro", elemType := "float32" },
    { goName := "Temperature", elemType := "int16" },
    { goName := "Quality", elemType := "uint8" },
    { goName := "TimeDeltaDistanceUs", elemType := "uint32" },
    { goName := "Distance", elemType := "float32" }] }

def m_common_MessageOrbitExecutionStatus : GoStruct := { name := "MessageOrbitExecutionStatus", fields := [
    { goName := "TimeUsec", elemType := "uint64", elemIsUint64 := true },
    { goName := "Radius", elemType := "float32" },
    { goName := "Frame", elemType := "MAV_FRAME", elemIsUint64 := true, mavenum := "uint8" },
    { goName := "X", elemType := "int32" },
    { goName := "Y", elemType := "int32" },
    { goName := "Z", elemType := "float32" }] }

def m_common_MessageParamExtAck : GoStruct := { name := "MessageParamExtAck", fields := [
    { goName := "ParamId", elemType := "string", mavlen := "16" },
    { goName := "ParamValue", elemType := "string", mavlen := "128" },
    { goName := "ParamType", elemType := "MAV_PARAM_EXT_TYPE", elemIsUint64 := true, mavenum := "uint8" },
    { goName := "ParamResult", elemType := "PARAM_ACK", elemIsUint64 := true, mavenum := "uint8" }] }

def m_common_MessageParamExtRequestList : GoStruct := { name := "MessageParamExtRequestList", fields := [
    { goName := "TargetSystem", elemType := "uint8" },
    { goName := "TargetComponent", elemType := "uint8" }] }

def m_common_MessageParamExtRequestRead : GoStruct := { name := "MessageParamExtRequestRead", fields := [
    { goName := "TargetSystem", elemType := "uint8" },
    { goName := "TargetComponent", elemType := "uint8" },
    { goName := "ParamId", elemType := "string", mavlen := "16" },
    { goName := "ParamIndex", elemType := "int16" }] }

def m_common_MessageParamExtSet : GoStruct := { name := "MessageParamExtSet", fields := [
    { goName := "TargetSystem", elemType := "uint8" },
    { goName := "TargetComponent", elemType := "uint8" },
    { goName := "ParamId", elemType := "string", mavlen := "16" },
    { goName := "ParamValue", elemType := "string", mavlen := "128" },
    { goName := "ParamType", elemType := "MAV_PARAM_EXT_TYPE", elemIsUint64 := true, mavenum := "uint8" }] }

def m_common_MessageParamExtValue : GoStruct := { name := "MessageParamExtValue", fields := [
    { goName := "ParamId", elemType := "string", mavlen := "16" },
    { goName := "ParamValue", elemType := "string", mavlen := "128" },
    { goName := "ParamType", elemType := "MAV_PARAM_EXT_TYPE", elemIsUint64 := true, mavenum := "uint8" },
    { goName := "ParamCount", elemType := "uint16" },
    { goName := "ParamIndex", elemType := "uint16" }] }

def m_common_MessageParamMapRc : GoStruct := { name := "MessageParamMapRc", fields := [
    { goName := "TargetSystem", elemType := "uint8" },
    { goName := "TargetComponent", elemType := "uint8" },
    { goName := "ParamId", elemType := "string", mavlen := "16" },
    { goName := "ParamIndex", elemType := "int16" },
    { goName := "ParameterRcChannelIndex", elemType := "uint8" },
    { goName := "ParamValue0", elemType := "float32" },
    { goName := "Scale", elemType := "float32" },
    { goName := "ParamValueMin", elemType := "float32" },
    { goName := "ParamValueMax", elemType := "float32" }] }

def m_common_MessageParamRequestList : GoStruct := { name := "MessageParamRequestList", fields := [
    { goName := "TargetSystem", elemType := "uint8" },
    { goName := "TargetComponent", elemType := "uint8" }] }

def m_common_MessageParamRequestRead : GoStruct := { name := "MessageParamRequestRead", fields := [
    { goName := "TargetSystem", elemType := "uint8" },
    { goName := "TargetComponent", elemType := "uint8" },
    { goName := "ParamId", elemType := "string", mavlen := "16" },
    { goName := "ParamIndex", elemType := "int16" }] }

def m_common_MessageParamSet : GoStruct := { name := "MessageParamSet", fields := [
    { goName := "TargetSystem", elemType := "uint8" },
    { goName := "TargetComponent", elemType := "uint8" },
    { goName := "ParamId", elemType := "string", mavlen := "16" },
    { goName := "ParamValue", elemType := "float32" },
    { goName := "ParamType", elemType := "MAV_PARAM_TYPE", elemIsUint64 := true, mavenum := "uint8" }] }

def m_common_MessageParamValue : GoStruct := { name := "MessageParamValue", fields := [
    { goName := "ParamId", elemType := "string", mavlen := "16" },
    { goName := "ParamValue", elemType := "float32" },
    { goName := "ParamType", elemType := "MAV_PARAM_TYPE", elemIsUint64 := true, mavenum := "uint8" },
    { goName := "ParamCount", elemType := "uint16" },
    { goName := "ParamIndex", elemType := "uint16" }] }

def m_common_MessagePing : GoStruct := { name := "MessagePing", fields := [
    { goName := "TimeUsec", elemType := "uint64", elemIsUint64 := true },
    { goName := "Seq", elemType := "uint32" },
    { goName := "TargetSystem", elemType := "uint8" },
    { goName := "TargetComponent", elemType := "uint8" }] }

def m_common_MessagePlayTune : GoStruct := { name := "MessagePlayTune", fields := [
    { goName := "TargetSystem", elemType := "uint8" },
    { goName := "TargetComponent", elemType := "uint8" },
    { goName := "Tune", elemType := "string", mavlen := "30" },
    { goName := "Tune2", elemType := "string", mavlen := "200", mavext := "true" }] }

def m_common_MessagePlayTuneV2 : GoStruct := { name := "MessagePlayTuneV2", fields := [
    { goName := "TargetSystem", elemType := "uint8" },
    { goName := "TargetComponent", elemType := "uint8" },
    { goName := "Format", elemType := "TUNE_FORMAT", elemIsUint64 := true, mavenum := "uint32" },
    { goName := "Tune", elemType := "string", mavlen := "248" }] }

def m_common_MessagePositionTargetGlobalInt : GoStruct := { name := "MessagePositionTargetGlobalInt", fields := [
    { goName := "TimeBootMs", elemType := "uint32" },
    { goName := "CoordinateFrame", elemType := "MAV_FRAME", elemIsUint64 := true, mavenum := "uint8" },
    { goName := "TypeMask", elemType := "POSITION_TARGET_TYPEMASK", elemIsUint64 := true, mavenum := "uint16" },
    { goName := "LatInt", elemType := "int32" },
    { goName := "LonInt", elemType := "int32" },
    { goName := "Alt", elemType := "float32" },
    { goName := "Vx", elemType := "float32" },
    { goName := "Vy", elemType := "float32" },
    { goName := "Vz", elemType := "float32" },
    { goName := "Afx", elemType := "float32" },
    { goName := "Afy", elemType := "float32" },
    { goName := "Afz", elemType := "float32" },
    { goName := "Yaw", elemType := "float32" },
    { goName := "YawRate", elemType := "float32" }] }

def m_common_MessagePositionTargetLocalNed : GoStruct := { name := "MessagePositionTargetLocalNed", fields := [
    { goName := "TimeBootMs", elemType := "uint32" },
    { goName := "CoordinateFrame", elemType := "MAV_FRAME", elemIsUint64 := true, mavenum := "uint8" },
    { goName := "TypeMask", elemType := "POSITION_TARGET_TYPEMASK", elemIsUint64 := true, mavenum := "uint16" },
    { goName := "X", elemType := "float32" },
    { goName := "Y", elemType := "float32" },
    { goName := "Z", elemType := "float32" },
    { goName := "Vx", elemType := "float32" },
    { goName := "Vy", elemType := "float32" },
    { goName := "Vz", elemType := "float32" },
    { goName := "Afx", elemType := "float32" },
    { goName := "Afy", elemType := "float32" },
    { goName := "Afz", elemType := "float32" },
    { goName := "Yaw", elemType := "float32" },
    { goName := "YawRate", elemType := "float32" }] }

def m_common_MessagePowerStatus : GoStruct := { name := "MessagePowerStatus", fields := [
    { goName := "Vcc", elemType := "uint16", mavname := "Vcc" },
    { goName := "Vservo", elemType := "uint16", mavname := "Vservo" },
    { goName := "Flags", elemType := "MAV_POWER_STATUS", elemIsUint64 := true, mavenum := "uint16" }] }

def m_common_MessageRadioStatus : GoStruct := { name := "MessageRadioStatus", fields := [
    { goName := "Rssi", elemType := "uint8" },
    { goName := "Remrssi", elemType := "uint8" },
    { goName := "Txbuf", elemType := "uint8" },
    { goName := "Noise", elemType := "uint8" },
    { goName := "Remnoise", elemType := "uint8" },
    { goName := "Rxerrors", elemType := "uint16" },
    { goName := "Fixed", elemType := "uint16" }] }

def m_common_MessageRawImu : GoStruct := { name := "MessageRawImu", fields := [
    { goName := "TimeUsec", elemType := "uint64", elemIsUint64 := true },
    { goName := "Xacc", elemType := "int16" },
    { goName := "Yacc", elemType := "int16" },
    { goName := "Zacc", elemType := "int16" },
    { goName := "Xgyro", elemType := "int16" },
    { goName := "Ygyro", elemType := "int16" },
    { goName := "Zgyro", elemType := "int16" },
    { goName := "Xmag", elemType := "int16" },
    { goName := "Ymag", elemType := "int16" },
    { goName := "Zmag", elemType := "int16" },
    { goName := "Id", elemType := "uint8", mavext := "true" },
    { goName := "Temperature", elemType := "int16", mavext := "true" }] }

def m_common_MessageRawPressure : GoStruct := { name := "MessageRawPressure", fields := [
    { goName := "TimeUsec", elemType := "uint64", elemIsUint64 := true },
    { goName := "PressAbs", elemType := "int16" },
    { goName := "PressDiff1", elemType := "int16" },
    { goName := "PressDiff2", elemType := "int16" },
    { goName := "Temperature", elemType := "int16" }] }

def m_common_MessageRawRpm : GoStruct := { name := "MessageRawRpm", fields := [
    { goName := "Index", elemType := "uint8" },
    { goName := "Frequency", elemType := "float32" }] }

def m_common_MessageRcChannels : GoStruct := { name := "MessageRcChannels", fields := [
    { goName := "TimeBootMs", elemType := "uint32" },
    { goName := "Chancount", elemType := "uint8" },
    { goName := "Chan1Raw", elemType := "uint16" },
    { goName := "Chan2Raw", elemType := "uint16" },
    { goName := "Chan3Raw", elemType := "uint16" },
    { goName := "Chan4Raw", elemType := "uint16" },
    { goName := "Chan5Raw", elemType := "uint16" },
    { goName := "Chan6Raw", elemType := "uint16" },
    { goName := "Chan7Raw", elemType := "uint16" },
    { goName := "Chan8Raw", elemType := "uint16" },
    { goName := "Chan9Raw", elemType := "uint16" },
    { goName := "Chan10Raw", elemType := "uint16" },
    { goName := "Chan11Raw", elemType := "uint16" },
    { goName := "Chan12Raw", elemType := "uint16" },
    { goName := "Chan13Raw", elemType := "uint16" },
    { goName := "Chan14Raw", elemType := "uint16" },
    { goName := "Chan15Raw", elemType := "uint16" },
    { goName := "Chan16Raw", elemType := "uint16" },
    { goName := "Chan17Raw", elemType := "uint16" },
    { goName := "Chan18Raw", elemType := "uint16" },
    { goName := "Rssi", elemType := "uint8" }] }

def msgs_10 : List (String × Nat × GoStruct) := [
  ("common", 100, m_common_MessageOpticalFlow),
  ("common", 106, m_common_MessageOpticalFlowRad),
  ("common", 360, m_common_MessageOrbitExecutionStatus),
  ("common", 324, m_common_MessageParamExtAck),
  ("common", 321, m_common_MessageParamExtRequestList),
  ("common", 320, m_common_MessageParamExtRequestRead),
  ("common", 323, m_common_MessageParamExtSet),
  ("common", 322, m_common_MessageParamExtValue),
  ("common", 50, m_common_MessageParamMapRc),
  ("common", 21, m_common_MessageParamRequestList),
  ("common", 20, m_common_MessageParamRequestRead),
  ("common", 23, m_common_MessageParamSet),
  ("common", 22, m_common_MessageParamValue),
  ("common", 4, m_common_MessagePing),
  ("common", 258, m_common_MessagePlayTune),
  ("common", 400, m_common_MessagePlayTuneV2),
  ("common", 87, m_common_MessagePositionTargetGlobalInt),
  ("common", 85, m_common_MessagePositionTargetLocalNed),
  ("common", 125, m_common_MessagePowerStatus),
  ("common", 109, m_common_MessageRadioStatus),
  ("common", 27, m_common_MessageRawImu),
  ("common", 28, m_common_MessageRawPressure),
  ("common", 339, m_common_MessageRawRpm),
  ("common", 65, m_common_MessageRcChannels)]

end Mav.Gen
