-- GENERATED by tools/extract from pkg/dialects/*/message_*.go — do not edit
import Mav.Model.Msg
namespace Mav.Gen
open Mav.Msg

def m_common_MessageRcChannelsOverride : GoStruct := { name := "MessageRcChannelsOverride", fields := [
    { goName := "TargetSystem", elemType := "uint8" },
    { goName := "TargetComponent", elemType := "uint8" },
    { goName := "Chan1Raw", elemType := "uint16" },
    { goName := "Chan2Raw", elemType := "uint16" },
    { goName := "Chan3Raw", elemType := "uint16" },
    { goName := "Chan4Raw", elemType := "uint16" },
    { goName := "Chan5Raw", elemType := "uint16" },
    { goName := "Chan6Raw", elemType := "uint16" },
    { goName := "Chan7Raw", elemType := "uint16" },
    { goName := "Chan8Raw", elemType := "uint16" },
    { goName := "Chan9Raw", elemType := "uint16", mavext := "true" },
    { goName := "Chan10Raw", elemType := "uint16", mavext := "true" },
    { goName := "Chan11Raw", elemType := "uint16", mavext := "true" },
    { goName := "Chan12Raw", elemType := "uint16", mavext := "true" },
    { goName := "Chan13Raw", elemType := "uint16", mavext := "true" },
    { goName := "Chan14Raw", elemType := "uint16", mavext := "true" },
    { goName := "Chan15Raw", elemType := "uint16", mavext := "true" },
    { goName := "Chan16Raw", elemType := "uint16", mavext := "true" },
    { goName := "Chan17Raw", elemType := "uint16", mavext := "true" },
    { goName := "Chan18Raw", elemType := "uint16", mavext := "true" }] }

def m_common_MessageRcChannelsRaw : GoStruct := { name := "MessageRcChannelsRaw", fields := [
    { goName := "TimeBootMs", elemType := "uint32" },
    { goName := "Port", elemType := "uint8" },
    { goName := "Chan1Raw", elemType := "uint16" },
    { goName := "Chan2Raw", elemType := "uint16" },
    { goName := "Chan3Raw", elemType := "uint16" },
    { goName := "Chan4Raw", elemType := "uint16" },
    { goName := "Chan5Raw", elemType := "uint16" },
    { goName := "Chan6Raw", elemType := "uint16" },
    { goName := "Chan7Raw", elemType := "uint16" },
    { goName := "Chan8Raw", elemType := "uint16" },
    { goName := "Rssi", elemType := "uint8" }] }

def m_common_MessageRcChannelsScaled : GoStruct := { name := "MessageRcChannelsScaled", fields := [
    { goName := "TimeBootMs", elemType := "uint32" },
    { goName := "Port", elemType := "uint8" },
    { goName := "Chan1Scaled", elemType := "int16" },
    { goName := "Chan2Scaled", elemType := "int16" },
    { goName := "Chan3Scaled", elemType := "int16" },
    { goName := "Chan4Scaled", elemType := "int16" },
    { goName := "Chan5Scaled", elemType := "int16" },
    { goName := "Chan6Scaled", elemType := "int16" },
    { goName := "Chan7Scaled", elemType := "int16" },
    { goName := "Chan8Scaled", elemType := "int16" },
    { goName := "Rssi", elemType := "uint8" }] }

def m_common_MessageRequestDataStream : GoStruct := { name := "MessageRequestDataStream", fields := [
    { goName := "TargetSystem", elemType := "uint8" },
    { goName := "TargetComponent", elemType := "uint8" },
    { goName := "ReqStreamId", elemType := "uint8" },
    { goName := "ReqMessageRate", elemType := "uint16" },
    { goName := "StartStop", elemType := "uint8" }] }

def m_common_MessageRequestEvent : GoStruct := { name := "MessageRequestEvent", fields := [
    { goName := "TargetSystem", elemType := "uint8" },
    { goName := "TargetComponent", elemType := "uint8" },
    { goName := "FirstSequence", elemType := "uint16" },
    { goName := "LastSequence", elemType := "uint16" }] }

def m_common_MessageResourceRequest : GoStruct := { name := "MessageResourceRequest", fields := [
    { goName := "RequestId", elemType := "uint8" },
    { goName := "UriType", elemType := "uint8" },
    { goName := "Uri", elemType := "uint8", isArray := true, arrLen := 120 },
    { goName := "TransferType", elemType := "uint8" },
    { goName := "Storage", elemType := "uint8", isArray := true, arrLen := 120 }] }

def m_common_MessageResponseEventError : GoStruct := { name := "MessageResponseEventError", fields := [
    { goName := "TargetSystem", elemType := "uint8" },
    { goName := "TargetComponent", elemType := "uint8" },
    { goName := "Sequence", elemType := "uint16" },
    { goName := "SequenceOldestAvailable", elemType := "uint16" },
    { goName := "Reason", elemType := "MAV_EVENT_ERROR_REASON", elemIsUint64 := true, mavenum := "uint8" }] }

def m_common_MessageSafetyAllowedArea : GoStruct := { name := "MessageSafetyAllowedArea", fields := [
    { goName := "Frame", elemType := "MAV_FRAME", elemIsUint64 := true, mavenum := "uint8" },
    { goName := "P1x", elemType := "float32" },
    { goName := "P1y", elemType := "float32" },
    { goName := "P1z", elemType := "float32" },
    { goName := "P2x", elemType := "float32" },
    { goName := "P2y", elemType := "float32" },
    { goName := "P2z", elemType := "float32" }] }

def m_common_MessageSafetySetAllowedArea : GoStruct := { name := "MessageSafetySetAllowedArea", fields := [
    { goName := "TargetSystem", elemType := "uint8" },
    { goName := "TargetComponent", elemType := "uint8" },
    { goName := "Frame", elemType := "MAV_FRAME", elemIsUint64 := true, mavenum := "uint8" },
    { goName := "P1x", elemType := "float32" },
    { goName := "P1y", elemType := "float32" },
    { goName := "P1z", elemType := "float32" },
    { goName := "P2x", elemType := "float32" },
    { goName := "P2y", elemType := "float32" },
    { goName := "P2z", elemType := "float32" }] }

def m_common_MessageScaledImu : GoStruct := { name := "MessageScaledImu", fields := [
    { goName := "TimeBootMs", elemType := "uint32" },
    { goName := "Xacc", elemType := "int16" },
    { goName := "Yacc", elemType := "int16" },
    { goName := "Zacc", elemType := "int16" },
    { goName := "Xgyro", elemType := "int16" },
    { goName := "Ygyro", elemType := "int16" },
    { goName := "Zgyro", elemType := "int16" },
    { goName := "Xmag", elemType := "int16" },
    { goName := "Ymag", elemType := "int16" },
    { goName := "Zmag", elemType := "int16" },
    { goName := "Temperature", elemType := "int16", mavext := "true" }] }

def m_common_MessageScaledImu2 : GoStruct := { name := "MessageScaledImu2", fields := [
    { goName := "TimeBootMs", elemType := "uint32" },
    { goName := "Xacc", elemType := "int16" },
    { goName := "Yacc", elemType := "int16" },
    { goName := "Zacc", elemType := "int16" },
    { goName := "Xgyro", elemType := "int16" },
    { goName := "Ygyro", elemType := "int16" },
    { goName := "Zgyro", elemType := "int16" },
    { goName := "Xmag", elemType := "int16" },
    { goName := "Ymag", elemType := "int16" },
    { goName := "Zmag", elemType := "int16" },
    { goName := "Temperature", elemType := "int16", mavext := "true" }] }

def m_common_MessageScaledImu3 : GoStruct := { name := "MessageScaledImu3", fields := [
    { goName := "TimeBootMs", elemType := "uint32" },
    { goName := "Xacc", elemType := "int16" },
    { goName := "Yacc", elemType := "int16" },
    { goName := "Zacc", elemType := "int16" },
    { goName := "Xgyro", elemType := "int16" },
    { goName := "Ygyro", elemType := "int16" },
    { goName := "Zgyro", elemType := "int16" },
    { goName := "Xmag", elemType := "int16" },
    { goName := "Ymag", elemType := "int16" },
    { goName := "Zmag", elemType := "int16" },
    { goName := "Temperature", elemType := "int16", mavext := "true" }] }

def m_common_MessageScaledPressure : GoStruct := { name := "MessageScaledPressure", fields := [
    { goName := "TimeBootMs", elemType := "uint32" },
    { goName := "PressAbs", elemType := "float32" },
    { goName := "PressDiff", elemType := "float32" },
    { goName := "Temperature", elemType := "int16" },
    { goName := "TemperaturePressDiff", elemType := "int16", mavext := "true" }] }

def m_common_MessageScaledPressure2 : GoStruct := { name := "MessageScaledPressure2", fields := [
    { goName := "TimeBootMs", elemType := "uint32" },
    { goName := "PressAbs", elemType := "float32" },
    { goName := "PressDiff", elemType := "float32" },
    { goName := "Temperature", elemType := "int16" },
    { goName := "TemperaturePressDiff", elemType := "int16", mavext := "true" }] }

def m_common_MessageScaledPressure3 : GoStruct := { name := "MessageScaledPressure3", fields := [
    { goName := "TimeBootMs", elemType := "uint32" },
    { goName := "PressAbs", elemType := "float32" },
    { goName := "PressDiff", elemType := "float32" },
    { goName := "Temperature", elemType := "int16" },
    { goName := "TemperaturePressDiff", elemType := "int16", mavext := "true" }] }

def m_common_MessageSerialControl : GoStruct := { name := "MessageSerialControl", fields := [
    { goName := "Device", elemType := "SERIAL_CONTROL_DEV", elemIsUint64 := true, mavenum := "uint8" },
    { goName := "Flags", elemType := "SERIAL_CONTROL_FLAG", elemIsUint64 := true, mavenum := "uint8" },
    { goName := "Timeout", elemType := "uint16" },
    { goName := "Baudrate", elemType := "uint32" },
    { goName := "Count", elemType := "uint8" },
    { goName := "Data", elemType := "uint8", isArray := true, arrLen := 70 },
    { goName := "TargetSystem", elemType := "uint8", mavext := "true" },
    { goName := "TargetComponent", elemType := "uint8", mavext := "true" }] }

def m_common_MessageServoOutputRaw : GoStruct := { name := "MessageServoOutputRaw", fields := [
    { goName := "TimeUsec", elemType := "uint32" },
    { goName := "Port", elemType := "uint8" },
    { goName := "Servo1Raw", elemType := "uint16" },
    { goName := "Servo2Raw", elemType := "uint16" },
    { goName := "Servo3Raw", elemType := "uint16" },
    { goName := "Servo4Raw", elemType := "uint16" },
    { goName := "Servo5Raw", elemType := "uint16" },
    { goName := "Servo6Raw", elemType := "uint16" },
    { goName := "Servo7Raw", elemType := "uint16" },
    { goName := "Servo8Raw", elemType := "uint16" },
    { goName := "Servo9Raw", elemType := "uint16", mavext := "true" },
    { goName := "Servo10Raw", elemType := "uint16", mavext := "true" },
    { goName := "Servo11Raw", elemType := "uint16", mavext := "true" },
    { goName := "Servo12Raw", elemType := "uint16", mavext := "true" },
    { goName := "Servo13Raw", elemType := "uint16", mavext := "true" },
    { goName := "Servo14Raw", elemType := "uint16", mavext := "true" },
    { goName := "Servo15Raw", elemType := "uint16", mavext := "true" },
    { goName := "Servo16Raw", elemType := "uint16", mavext := "true" }] }

def m_common_MessageSetActuatorControlTarget : GoStruct := { name := "MessageSetActuatorControlTarget", fields := [
    { goName := "TimeUsec", elemType := "uint64", elemIsUint64 := true },
    { goName := "GroupMlx", elemType := "uint8" },
    { goName := "TargetSystem", elemType := "uint8" },
    { goName := "TargetComponent", elemType := "uint8" },
    { goName := "Controls", elemType := "float32", isArray := true, arrLen := 8 }] }

def m_common_MessageSetAttitudeTarget : GoStruct := { name := "MessageSetAttitudeTarget", fields := [
    { goName := "TimeBootMs", elemType := "uint32" },
    { goName := "TargetSystem", elemType := "uint8" },
    { goName := "TargetComponent", elemType := "uint8" },
    { goName := "TypeMask", elemType := "ATTITUDE_TARGET_TYPEMASK", elemIsUint64 := true, mavenum := "uint8" },
    { goName := "Q", elemType := "float32", isArray := true, arrLen := 4 },
    { goName := "BodyRollRate", elemType := "float32" },
    { goName := "BodyPitchRate", elemType := "float32" },
    { goName := "BodyYawRate", elemType := "float32" },
    { goName := "Thrust", elemType := "float32" },
    { goName := "ThrustBody", elemType := "float32", isArray := true, arrLen := 3, mavext := "true" }] }

def m_common_MessageSetGpsGlobalOrigin : GoStruct := { name := "MessageSetGpsGlobalOrigin", fields := [
    { goName := "TargetSystem", elemType := "uint8" },
    { goName := "Latitude", elemType := "int32" },
    { goName := "Longitude", elemType := "int32" },
    { goName := "Altitude", elemType := "int32" },
    { goName := "TimeUsec", elemType := "uint64", elemIsUint64 := true, mavext := "true" }] }

def m_common_MessageSetHomePosition : GoStruct := { name := "MessageSetHomePosition", fields := [
    { goName := "TargetSystem", elemType := "uint8" },
    { goName := "Latitude", elemType := "int32" },
    { goName := "Longitude", elemType := "int32" },
    { goName := "Altitude", elemType := "int32" },
    { goName := "X", elemType := "float32" },
    { goName := "Y", elemType := "float32" },
    { goName := "Z", elemType := "float32" },
    { goName := "Q", elemType := "float32", isArray := true, arrLen := 4 },
    { goName := "ApproachX", elemType := "float32" },
    { goName := "ApproachY", elemType := "float32" },
    { goName := "ApproachZ", elemType := "float32" },
    { goName := "TimeUsec", elemType := "uint64", elemIsUint64 := true, mavext := "true" }] }

def m_common_MessageSetMode : GoStruct := { name := "MessageSetMode", fields := [
    { goName := "TargetSystem", elemType := "uint8" },
    { goName := "BaseMode", elemType := "MAV_MODE", elemIsUint64 := true, mavenum := "uint8" },
    { goName := "CustomMode", elemType := "uint32" }] }

def m_common_MessageSetPositionTargetGlobalInt : GoStruct := { name := "MessageSetPositionTargetGlobalInt", fields := [
    { goName := "TimeBootMs", elemType := "uint32" },
    { goName := "TargetSystem", elemType := "uint8" },
    { goName := "TargetComponent", elemType := "uint8" },
    { goName := "CoordinateFrame", elemType := "MAV_FRAME", elemIsUint64 := true, mavenum := "uint8" },
    { goName := "TypeMask", elemType := "POSITION_TARGET_TYPEMASK", elemIsUint64 := true, mavenum := "uint16" },
    { goName := "LatInt", elemType := "int32" },
    { goName := "LonInt", elemType := "int32" },
    { goName := "Alt", elemType := "float32" },
    { goName := "Vx", elemType := "float32" },
    { goName := "Vy", elemType := "float32" },
    { goName := "Vz", elemType := "float32" },
    { goName := "Afx", elemType := "float32" },
    { goName := "Afy", elemType := "float32" },
    { goName := "Afz", elemType := "float32" },
    { goName := "Yaw", elemType := "float32" },
    { goName := "YawRate", elemType := "float32" }] }

def m_common_MessageSetPositionTargetLocalNed : GoStruct := { name := "MessageSetPositionTargetLocalNed", fields := [
    { goName := "TimeBootMs", elemType := "uint32" },
    { goName := "TargetSystem", elemType := "uint8" },
    { goName := "TargetComponent", elemType := "uint8" },
    { goName := "CoordinateFrame", elemType := "MAV_FRAME", elemIsUint64 := true, mavenum := "uint8" },
    { goName := "TypeMask", elemType := "POSITION_TARGET_TYPEMASK", elemIsUint64 := true, mavenum := "uint16" },
    { goName := "X", elemType := "float32" },
    { goName := "Y", elemType := "float32" },
    { goName := "Z", elemType := "float32" },
    { goName := "Vx", elemType := "float32" },
    { goName := "Vy", elemType := "float32" },
    { goName := "Vz", elemType := "float32" },
    { goName := "Afx", elemType := "float32" },
    { goName := "Afy", elemType := "float32" },
    { goName := "Afz", elemType := "float32" },
    { goName := "Yaw", elemType := "float32" },
    { goName := "YawRate", elemType := "float32" }] }

def msgs_11 : List (String × Nat × GoStruct) := [
  ("common", 70, m_common_MessageRcChannelsOverride),
  ("common", 35, m_common_MessageRcChannelsRaw),
  ("common", 34, m_common_MessageRcChannelsScaled),
  ("common", 66, m_common_MessageRequestDataStream),
  ("common", 412, m_common_MessageRequestEvent),
  ("common", 142, m_common_MessageResourceRequest),
  ("common", 413, m_common_MessageResponseEventError),
  ("common", 55, m_common_MessageSafetyAllowedArea),
  ("common", 54, m_common_MessageSafetySetAllowedArea),
  ("common", 26, m_common_MessageScaledImu),
  ("common", 116, m_common_MessageScaledImu2),
  ("common", 129, m_common_MessageScaledImu3),
  ("common", 29, m_common_MessageScaledPressure),
  ("common", 137, m_common_MessageScaledPressure2),
  ("common", 143, m_common_MessageScaledPressure3),
  ("common", 126, m_common_MessageSerialControl),
  ("common", 36, m_common_MessageServoOutputRaw),
  ("common", 139, m_common_MessageSetActuatorControlTarget),
  ("common", 82, m_common_MessageSetAttitudeTarget),
  ("common", 48, m_common_MessageSetGpsGlobalOrigin),
  ("common", 243, m_common_MessageSetHomePosition),
  ("common", 11, m_common_MessageSetMode),
  ("common", 86, m_common_MessageSetPositionTargetGlobalInt),
  ("common", 84, m_common_MessageSetPositionTargetLocalNed)]

end Mav.Gen
