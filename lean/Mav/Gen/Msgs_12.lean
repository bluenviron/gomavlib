-- GENERATED by tools/extract from pkg/dialects/*/message_*.go — do not edit
import Mav.Model.Msg
namespace Mav.Gen
open Mav.Msg

def m_common_MessageSetupSigning : GoStruct := { name := "MessageSetupSigning", fields := [
    { goName := "TargetSystem", elemType := "uint8" },
    { goName := "TargetComponent", elemType := "uint8" },
    { goName := "SecretKey", elemType := "uint8", isArray := true, arrLen := 32 },
    { goName := "InitialTimestamp", elemType := "uint64", elemIsUint64 := true }] }

def m_common_MessageSimState : GoStruct := { name := "MessageSimState", fields := [
    { goName := "Q1", elemType := "float32" },
    { goName := "Q2", elemType := "float32" },
    { goName := "Q3", elemType := "float32" },
    { goName := "Q4", elemType := "float32" },
    { goName := "Roll", elemType := "float32" },
    { goName := "Pitch", elemType := "float32" },
    { goName := "Yaw", elemType := "float32" },
    { goName := "Xacc", elemType := "float32" },
    { goName := "Yacc", elemType := "float32" },
    { goName := "Zacc", elemType := "float32" },
    { goName := "Xgyro", elemType := "float32" },
    { goName := "Ygyro", elemType := "float32" },
    { goName := "Zgyro", elemType := "float32" },
    { goName := "Lat", elemType := "float32" },
    { goName := "Lon", elemType := "float32" },
    { goName := "Alt", elemType := "float32" },
    { goName := "StdDevHorz", elemType := "float32" },
    { goName := "StdDevVert", elemType := "float32" },
    { goName := "Vn", elemType := "float32" },
    { goName := "Ve", elemType := "float32" },
    { goName := "Vd", elemType := "float32" },
    { goName := "LatInt", elemType := "int32", mavext := "true" },
    { goName := "LonInt", elemType := "int32", mavext := "true" }] }

def m_common_MessageSmartBatteryInfo : GoStruct := { name := "MessageSmartBatteryInfo", fields := [
    { goName := "Id", elemType := "uint8" },
    { goName := "BatteryFunction", elemType := "MAV_BATTERY_FUNCTION", elemIsUint64 := true, mavenum := "uint8" },
    { goName := "Type", elemType := "MAV_BATTERY_TYPE", elemIsUint64 := true, mavenum := "uint8" },
    { goName := "CapacityFullSpecification", elemType := "int32" },
    { goName := "CapacityFull", elemType := "int32" },
    { goName := "CycleCount", elemType := "uint16" },
    { goName := "SerialNumber", elemType := "string", mavlen := "16" },
    { goName := "DeviceName", elemType := "string", mavlen := "50" },
    { goName := "Weight", elemType := "uint16" },
    { goName := "DischargeMinimumVoltage", elemType := "uint16" },
    { goName := "ChargingMinimumVoltage", elemType := "uint16" },
    { goName := "RestingMinimumVoltage", elemType := "uint16" },
    { goName := "ChargingMaximumVoltage", elemType := "uint16", mavext := "true" },
    { goName := "CellsInSeries", elemType := "uint8", mavext := "true" },
    { goName := "DischargeMaximumCurrent", elemType := "uint32", mavext := "true" },
    { goName := "DischargeMaximumBurstCurrent", elemType := "uint32", mavext := "true" },
    { goName := "ManufactureDate", elemType := "string", mavlen := "11", mavext := "true" }] }

def m_common_MessageStatustext : GoStruct := { name := "MessageStatustext", fields := [
    { goName := "Severity", elemType := "MAV_SEVERITY", elemIsUint64 := true, mavenum := "uint8" },
    { goName := "Text", elemType := "string", mavlen := "50" },
    { goName := "Id", elemType := "uint16", mavext := "true" },
    { goName := "ChunkSeq", elemType := "uint8", mavext := "true" }] }

def m_common_MessageStorageInformation : GoStruct := { name := "MessageStorageInformation", fields := [
    { goName := "TimeBootMs", elemType := "uint32" },
    { goName := "StorageId", elemType := "uint8" },
    { goName := "StorageCount", elemType := "uint8" },
    { goName := "Status", elemType := "STORAGE_STATUS", elemIsUint64 := true, mavenum := "uint8" },
    { goName := "TotalCapacity", elemType := "float32" },
    { goName := "UsedCapacity", elemType := "float32" },
    { goName := "AvailableCapacity", elemType := "float32" },
    { goName := "ReadSpeed", elemType := "float32" },
    { goName := "WriteSpeed", elemType := "float32" },
    { goName := "Type", elemType := "STORAGE_TYPE", elemIsUint64 := true, mavenum := "uint8", mavext := "true" },
    { goName := "Name", elemType := "string", mavlen := "32", mavext := "true" },
    { goName := "StorageUsage", elemType := "STORAGE_USAGE_FLAG", elemIsUint64 := true, mavenum := "uint8", mavext := "true" }] }

def m_common_MessageSupportedTunes : GoStruct := { name := "MessageSupportedTunes", fields := [
    { goName := "TargetSystem", elemType := "uint8" },
    { goName := "TargetComponent", elemType := "uint8" },
    { goName := "Format", elemType := "TUNE_FORMAT", elemIsUint64 := true, mavenum := "uint32" }] }

def m_common_MessageSysStatus : GoStruct := { name := "MessageSysStatus", fields := [
    { goName := "OnboardControlSensorsPresent", elemType := "MAV_SYS_STATUS_SENSOR", elemIsUint64 := true, mavenum := "uint32" },
    { goName := "OnboardControlSensorsEnabled", elemType := "MAV_SYS_STATUS_SENSOR", elemIsUint64 := true, mavenum := "uint32" },
    { goName := "OnboardControlSensorsHealth", elemType := "MAV_SYS_STATUS_SENSOR", elemIsUint64 := true, mavenum := "uint32" },
    { goName := "Load", elemType := "uint16" },
    { goName := "VoltageBattery", elemType := "uint16" },
    { goName := "CurrentBattery", elemType := "int16" },
    { goName := "BatteryRemaining", elemType := "int8" },
    { goName := "DropRateComm", elemType := "uint16" },
    { goName := "ErrorsComm", elemType := "uint16" },
    { goName := "ErrorsCount1", elemType := "uint16" },
    { goName := "ErrorsCount2", elemType := "uint16" },
    { goName := "ErrorsCount3", elemType := "uint16" },
    { goName := "ErrorsCount4", elemType := "uint16" },
    { goName := "OnboardControlSensorsPresentExtended", elemType := "MAV_SYS_STATUS_SENSOR_EXTENDED", elemIsUint64 := true, mavenum := "uint32", mavext := "true" },
    { goName := "OnboardControlSensorsEnabledExtended", elemType := "MAV_SYS_STATUS_SENSOR_EXTENDED", elemIsUint64 := true, mavenum := "uint32", mavext := "true" },
    { goName := "OnboardControlSensorsHealthExtended", elemType := "MAV_SYS_STATUS_SENSOR_EXTENDED", elemIsUint64 := true, mavenum := "uint32", mavext := "true" }] }

def m_common_MessageSystemTime : GoStruct := { name := "MessageSystemTime", fields := [
    { goName := "TimeUnixUsec", elemType := "uint64", elemIsUint64 := true },
    { goName := "TimeBootMs", elemType := "uint32" }] }

def m_common_MessageTerrainCheck : GoStruct := { name := "MessageTerrainCheck", fields := [
    { goName := "Lat", elemType := "int32" },
    { goName := "Lon", elemType := "int32" }] }

def m_common_MessageTerrainData : GoStruct := { name := "MessageTerrainData", fields := [
    { goName := "Lat", elemType := "int32" },
    { goName := "Lon", elemType := "int32" },
    { goName := "GridSpacing", elemType := "uint16" },
    { goName := "Gridbit", elemType := "uint8" },
    { goName := "Data", elemType := "int16", isArray := true, arrLen := 16 }] }

def m_common_MessageTerrainReport : GoStruct := { name := "MessageTerrainReport", fields := [
    { goName := "Lat", elemType := "int32" },
    { goName := "Lon", elemType := "int32" },
    { goName := "Spacing", elemType := "uint16" },
    { goName := "TerrainHeight", elemType := "float32" },
    { goName := "CurrentHeight", elemType := "float32" },
    { goName := "Pending", elemType := "uint16" },
    { goName := "Loaded", elemType := "uint16" }] }

def m_common_MessageTerrainRequest : GoStruct := { name := "MessageTerrainRequest", fields := [
    { goName := "Lat", elemType := "int32" },
    { goName := "Lon", elemType := "int32" },
    { goName := "GridSpacing", elemType := "uint16" },
    { goName := "Mask", elemType := "uint64", elemIsUint64 := true }] }

def m_common_MessageTimeEstimateToTarget : GoStruct := { name := "MessageTimeEstimateToTarget", fields := [
    { goName := "SafeReturn", elemType := "int32" },
    { goName := "Land", elemType := "int32" },
    { goName := "MissionNextItem", elemType := "int32" },
    { goName := "MissionEnd", elemType := "int32" },
    { goName := "CommandedAction", elemType := "int32" }] }

def m_common_MessageTimesync : GoStruct := { name := "MessageTimesync", fields := [
    { goName := "Tc1", elemType := "int64" },
    { goName := "Ts1", elemType := "int64" },
    { goName := "TargetSystem", elemType := "uint8", mavext := "true" },
    { goName := "TargetComponent", elemType := "uint8", mavext := "true" }] }

def m_common_MessageTrajectoryRepresentationBezier : GoStruct := { name := "MessageTrajectoryRepresentationBezier", fields := [
    { goName := "TimeUsec", elemType := "uint64", elemIsUint64 := true },
    { goName := "ValidPoints", elemType := "uint8" },
    { goName := "PosX", elemType := "float32", isArray := true, arrLen := 5 },
    { goName := "PosY", elemType := "float32", isArray := true, arrLen := 5 },
    { goName := "PosZ", elemType := "float32", isArray := true, arrLen := 5 },
    { goName := "Delta", elemType := "float32", isArray := true, arrLen := 5 },
    { goName := "PosYaw", elemType := "float32", isArray := true, arrLen := 5 }] }

def m_common_MessageTrajectoryRepresentationWaypoints : GoStruct := { name := "MessageTrajectoryRepresentationWaypoints", fields := [
    { goName := "TimeUsec", elemType := "uint64", elemIsUint64 := true },
    { goName := "ValidPoints", elemType := "uint8" },
    { goName := "PosX", elemType := "float32", isArray := true, arrLen := 5 },
    { goName := "PosY", elemType := "float32", isArray := true, arrLen := 5 },
    { goName := "PosZ", elemType := "float32", isArray := true, arrLen := 5 },
    { goName := "VelX", elemType := "float32", isArray := true, arrLen := 5 },
    { goName := "VelY", elemType := "float32", isArray := true, arrLen := 5 },
    { goName := "VelZ", elemType := "float32", isArray := true, arrLen := 5 },
    { goName := "AccX", elemType := "float32", isArray := true, arrLen := 5 },
    { goName := "AccY", elemType := "float32", isArray := true, arrLen := 5 },
    { goName := "AccZ", elemType := "float32", isArray := true, arrLen := 5 },
    { goName := "PosYaw", elemType := "float32", isArray := true, arrLen := 5 },
    { goName := "VelYaw", elemType := "float32", isArray := true, arrLen := 5 },
    { goName := "Command", elemType := "MAV_CMD", isArray := true, arrLen := 5, elemIsUint64 := true, mavenum := "uint16" }] }

def m_common_MessageTunnel : GoStruct := { name := "MessageTunnel", fields := [
    { goName := "TargetSystem", elemType := "uint8" },
    { goName := "TargetComponent", elemType := "uint8" },
    { goName := "PayloadType", elemType := "MAV_TUNNEL_PAYLOAD_TYPE", elemIsUint64 := true, mavenum := "uint16" },
    { goName := "PayloadLength", elemType := "uint8" },
    { goName := "Payload", elemType := "uint8", isArray := true, arrLen := 128 }] }

def m_common_MessageUavcanNodeInfo : GoStruct := { name := "MessageUavcanNodeInfo", fields := [
    { goName := "TimeUsec", elemType := "uint64", elemIsUint64 := true },
    { goName := "UptimeSec", elemType := "uint32" },
    { goName := "Name", elemType := "string", mavlen := "80" },
    { goName := "HwVersionMajor", elemType := "uint8" },
    { goName := "HwVersionMinor", elemType := "uint8" },
    { goName := "HwUniqueId", elemType := "uint8", isArray := true, arrLen := 16 },
    { goName := "SwVersionMajor", elemType := "uint8" },
    { goName := "SwVersionMinor", elemType := "uint8" },
    { goName := "SwVcsCommit", elemType := "uint32" }] }

def m_common_MessageUavcanNodeStatus : GoStruct := { name := "MessageUavcanNodeStatus", fields := [
    { goName := "TimeUsec", elemType := "uint64", elemIsUint64 := true },
    { goName := "UptimeSec", elemType := "uint32" },
    { goName := "Health", elemType := "UAVCAN_NODE_HEALTH", elemIsUint64 := true, mavenum := "uint8" },
    { goName := "Mode", elemType := "UAVCAN_NODE_MODE", elemIsUint64 := true, mavenum := "uint8" },
    { goName := "SubMode", elemType := "uint8" },
    { goName := "VendorSpecificStatusCode", elemType := "uint16" }] }

def m_common_MessageUtmGlobalPosition : GoStruct := { name := "MessageUtmGlobalPosition", fields := [
    { goName := "Time", elemType := "uint64", elemIsUint64 := true },
    { goName := "UasId", elemType := "uint8", isArray := true, arrLen := 18 },
    { goName := "Lat", elemType := "int32" },
    { goName := "Lon", elemType := "int32" },
    { goName := "Alt", elemType := "int32" },
    { goName := "RelativeAlt", elemType := "int32" },
    { goName := "Vx", elemType := "int16" },
    { goName := "Vy", elemType := "int16" },
    { goName := "Vz", elemType := "int16" },
    { goName := "HAcc", elemType := "uint16" },
    { goName := "VAcc", elemType := "uint16" },
    { goName := "VelAcc", elemType := "uint16" },
    { goName := "NextLat", elemType := "int32" },
    { goName := "NextLon", elemType := "int32" },
    { goName := "NextAlt", elemType := "int32" },
    { goName := "UpdateRate", elemType := "uint16" },
    { goName := "FlightState", elemType := "UTM_FLIGHT_STATE", elemIsUint64 := true, mavenum := "uint8" },
    { goName := "Flags", elemType := "UTM_DATA_AVAIL_FLAGS", elemIsUint64 := true, mavenum := "uint8" }] }

def m_common_MessageV2Extension : GoStruct := { name := "MessageV2Extension", fields := [
    { goName := "TargetNetwork", elemType := "uint8" },
    { goName := "TargetSystem", elemType := "uint8" },
    { goName := "TargetComponent", elemType := "uint8" },
    { goName := "MessageType", elemType := "uint16" },
    { goName := "Payload", elemType := "uint8", isArray := true, arrLen := 249 }] }

def m_common_MessageVfrHud : GoStruct := { name := "MessageVfrHud", fields := [
    { goName := "Airspeed", elemType := "float32" },
    { goName := "Groundspeed", elemType := "float32" },
    { goName := "Heading", elemType := "int16" },
    { goName := "Throttle", elemType := "uint16" },
    { goName := "Alt", elemType := "float32" },
    { goName := "Climb", elemType := "float32" }] }

def m_common_MessageVibration : GoStruct := { name := "MessageVibration", fields := [
    { goName := "TimeUsec", elemType := "uint64", elemIsUint64 := true },
    { goName := "VibrationX", elemType := "float32" },
    { goName := "VibrationY", elemType := "float32" },
    { goName := "VibrationZ", elemType := "float32" },
    { goName := "Clipping_0", elemType := "uint32" },
    { goName := "Clipping_1", elemType := "uint32" },
    { goName := "Clipping_2", elemType := "uint32" }] }

def m_common_MessageViconPositionEstimate : GoStruct := { name := "MessageViconPositionEstimate", fields := [
    { goName := "Usec", elemType := "uint64", elemIsUint64 := true },
    { goName := "X", elemType := "float32" },
    { goName := "Y", elemType := "float32" },
    { goName := "Z", elemType := "float32" },
    { goName := "Roll", elemType := "float32" },
    { goName := "Pitch", elemType := "float32" },
    { goName := "Yaw", elemType := "float32" },
    { goName := "Covariance", elemType := "float32", isArray := true, arrLen := 21, mavext := "true" }] }

def msgs_12 : List (String × Nat × GoStruct) := [
  ("common", 256, m_common_MessageSetupSigning),
  ("common", 108, m_common_MessageSimState),
  ("common", 370, m_common_MessageSmartBatteryInfo),
  ("common", 253, m_common_MessageStatustext),
  ("common", 261, m_common_MessageStorageInformation),
  ("common", 401, m_common_MessageSupportedTunes),
  ("common", 1, m_common_MessageSysStatus),
  ("common", 2, m_common_MessageSystemTime),
  ("common", 135, m_common_MessageTerrainCheck),
  ("common", 134, m_common_MessageTerrainData),
  ("common", 136, m_common_MessageTerrainReport),
  ("common", 133, m_common_MessageTerrainRequest),
  ("common", 380, m_common_MessageTimeEstimateToTarget),
  ("common", 111, m_common_MessageTimesync),
  ("common", 333, m_common_MessageTrajectoryRepresentationBezier),
  ("common", 332, m_common_MessageTrajectoryRepresentationWaypoints),
  ("common", 385, m_common_MessageTunnel),
  ("common", 311, m_common_MessageUavcanNodeInfo),
  ("common", 310, m_common_MessageUavcanNodeStatus),
  ("common", 340, m_common_MessageUtmGlobalPosition),
  ("common", 248, m_common_MessageV2Extension),
  ("common", 74, m_common_MessageVfrHud),
  ("common", 241, m_common_MessageVibration),
  ("common", 104, m_common_MessageViconPositionEstimate)]

end Mav.Gen
