-- GENERATED by tools/extract from pkg/dialects/*/message_*.go — do not edit
import Mav.Model.Msg
namespace Mav.Gen
open Mav.Msg

def m_common_MessageVideoStreamInformation : GoStruct := { name := "MessageVideoStreamInformation", fields := [
    { goName := "StreamId", elemType := "uint8" },
    { goName := "Count", elemType := "uint8" },
    { goName := "Type", elemType := "VIDEO_STREAM_TYPE", elemIsUint64 := true, mavenum := "uint8" },
    { goName := "Flags", elemType := "VIDEO_STREAM_STATUS_FLAGS", elemIsUint64 := true, mavenum := "uint16" },
    { goName := "Framerate", elemType := "float32" },
    { goName := "ResolutionH", elemType := "uint16" },
    { goName := "ResolutionV", elemType := "uint16" },
    { goName := "Bitrate", elemType := "uint32" },
    { goName := "Rotation", elemType := "uint16" },
    { goName := "Hfov", elemType := "uint16" },
    { goName := "Name", elemType := "string", mavlen := "32" },
    { goName := "Uri", elemType := "string", mavlen := "160" },
    { goName := "Encoding", elemType := "VIDEO_STREAM_ENCODING", elemIsUint64 := true, mavenum := "uint8", mavext := "true" },
    { goName := "CameraDeviceId", elemType := "uint8", mavext := "true" }] }

def m_common_MessageVideoStreamStatus : GoStruct := { name := "MessageVideoStreamStatus", fields := [
    { goName := "StreamId", elemType := "uint8" },
    { goName := "Flags", elemType := "VIDEO_STREAM_STATUS_FLAGS", elemIsUint64 := true, mavenum := "uint16" },
    { goName := "Framerate", elemType := "float32" },
    { goName := "ResolutionH", elemType := "uint16" },
    { goName := "ResolutionV", elemType := "uint16" },
    { goName := "Bitrate", elemType := "uint32" },
    { goName := "Rotation", elemType := "uint16" },
    { goName := "Hfov", elemType := "uint16" },
    { goName := "CameraDeviceId", elemType := "uint8", mavext := "true" }] }

def m_common_MessageVisionPositionEstimate : GoStruct := { name := "MessageVisionPositionEstimate", fields := [
    { goName := "Usec", elemType := "uint64", elemIsUint64 := true },
    { goName := "X", elemType := "float32" },
    { goName := "Y", elemType := "float32" },
    { goName := "Z", elemType := "float32" },
    { goName := "Roll", elemType := "float32" },
    { goName := "Pitch", elemType := "float32" },
    { goName := "Yaw", elemType := "float32" },
    { goName := "Covariance", elemType := "float32", isArray := true, arrLen := 21, mavext := "true" },
    { goName := "ResetCounter", elemType := "uint8", mavext := "true" }] }

def m_common_MessageVisionSpeedEstimate : GoStruct := { name := "MessageVisionSpeedEstimate", fields := [
    { goName := "Usec", elemType := "uint64", elemIsUint64 := true },
    { goName := "X", elemType := "float32" },
    { goName := "Y", elemType := "float32" },
    { goName := "Z", elemType := "float32" },
    { goName := "Covariance", elemType := "float32", isArray := true, arrLen := 9, mavext := "true" },
    { goName := "ResetCounter", elemType := "uint8", mavext := "true" }] }

def m_common_MessageWheelDistance : GoStruct := { name := "MessageWheelDistance", fields := [
    { goName := "TimeUsec", elemType := "uint64", elemIsUint64 := true },
    { goName := "Count", elemType := "uint8" },
    { goName := "Distance", elemType := "float64", isArray := true, arrLen := 16 }] }

def m_common_MessageWifiConfigAp : GoStruct := { name := "MessageWifiConfigAp", fields := [
    { goName := "Ssid", elemType := "string", mavlen := "32" },
    { goName := "Password", elemType := "string", mavlen := "64" },
    { goName := "Mode", elemType := "WIFI_CONFIG_AP_MODE", elemIsUint64 := true, mavenum := "int8", mavext := "true" },
    { goName := "Response", elemType := "WIFI_CONFIG_AP_RESPONSE", elemIsUint64 := true, mavenum := "int8", mavext := "true" }] }

def m_common_MessageWinchStatus : GoStruct := { name := "MessageWinchStatus", fields := [
    { goName := "TimeUsec", elemType := "uint64", elemIsUint64 := true },
    { goName := "LineLength", elemType := "float32" },
    { goName := "Speed", elemType := "float32" },
    { goName := "Tension", elemType := "float32" },
    { goName := "Voltage", elemType := "float32" },
    { goName := "Current", elemType := "float32" },
    { goName := "Temperature", elemType := "int16" },
    { goName := "Status", elemType := "MAV_WINCH_STATUS_FLAG", elemIsUint64 := true, mavenum := "uint32" }] }

def m_common_MessageWindCov : GoStruct := { name := "MessageWindCov", fields := [
    { goName := "TimeUsec", elemType := "uint64", elemIsUint64 := true },
    { goName := "WindX", elemType := "float32" },
    { goName := "WindY", elemType := "float32" },
    { goName := "WindZ", elemType := "float32" },
    { goName := "VarHoriz", elemType := "float32" },
    { goName := "VarVert", elemType := "float32" },
    { goName := "WindAlt", elemType := "float32" },
    { goName := "HorizAccuracy", elemType := "float32" },
    { goName := "VertAccuracy", elemType := "float32" }] }

def m_csairlink_MessageAirlinkAuth : GoStruct := { name := "MessageAirlinkAuth", fields := [
    { goName := "Login", elemType := "string", mavlen := "50" },
    { goName := "Password", elemType := "string", mavlen := "50" }] }

def m_csairlink_MessageAirlinkAuthResponse : GoStruct := { name := "MessageAirlinkAuthResponse", fields := [
    { goName := "RespType", elemType := "AIRLINK_AUTH_RESPONSE_TYPE", elemIsUint64 := true, mavenum := "uint8" }] }

def m_csairlink_MessageAirlinkEyeGsHolePushRequest : GoStruct := { name := "MessageAirlinkEyeGsHolePushRequest", fields := [
    { goName := "RespType", elemType := "AIRLINK_EYE_GS_HOLE_PUSH_RESP_TYPE", elemIsUint64 := true, mavenum := "uint8" }] }

def m_csairlink_MessageAirlinkEyeGsHolePushResponse : GoStruct := { name := "MessageAirlinkEyeGsHolePushResponse", fields := [
    { goName := "RespType", elemType := "AIRLINK_EYE_GS_HOLE_PUSH_RESP_TYPE", elemIsUint64 := true, mavenum := "uint8" },
    { goName := "IpVersion", elemType := "AIRLINK_EYE_IP_VERSION", elemIsUint64 := true, mavenum := "uint8" },
    { goName := "IpAddress_4", elemType := "uint8", isArray := true, arrLen := 4 },
    { goName := "IpAddress_6", elemType := "uint8", isArray := true, arrLen := 16 },
    { goName := "IpPort", elemType := "uint32" }] }

def m_csairlink_MessageAirlinkEyeHp : GoStruct := { name := "MessageAirlinkEyeHp", fields := [
    { goName := "RespType", elemType := "AIRLINK_EYE_HOLE_PUSH_TYPE", elemIsUint64 := true, mavenum := "uint8" }] }

def m_csairlink_MessageAirlinkEyeTurnInit : GoStruct := { name := "MessageAirlinkEyeTurnInit", fields := [
    { goName := "RespType", elemType := "AIRLINK_EYE_TURN_INIT_TYPE", elemIsUint64 := true, mavenum := "uint8" }] }

def m_cubepilot_MessageCubepilotFirmwareUpdateResp : GoStruct := { name := "MessageCubepilotFirmwareUpdateResp", fields := [
    { goName := "TargetSystem", elemType := "uint8" },
    { goName := "TargetComponent", elemType := "uint8" },
    { goName := "Offset", elemType := "uint32" }] }

def m_cubepilot_MessageCubepilotFirmwareUpdateStart : GoStruct := { name := "MessageCubepilotFirmwareUpdateStart", fields := [
    { goName := "TargetSystem", elemType := "uint8" },
    { goName := "TargetComponent", elemType := "uint8" },
    { goName := "Size", elemType := "uint32" },
    { goName := "Crc", elemType := "uint32" }] }

def m_cubepilot_MessageCubepilotRawRc : GoStruct := { name := "MessageCubepilotRawRc", fields := [
    { goName := "RcRaw", elemType := "uint8", isArray := true, arrLen := 32 }] }

def m_cubepilot_MessageHerelinkTelem : GoStruct := { name := "MessageHerelinkTelem", fields := [
    { goName := "Rssi", elemType := "uint8" },
    { goName := "Snr", elemType := "int16" },
    { goName := "RfFreq", elemType := "uint32" },
    { goName := "LinkBw", elemType := "uint32" },
    { goName := "LinkRate", elemType := "uint32" },
    { goName := "CpuTemp", elemType := "int16" },
    { goName := "BoardTemp", elemType := "int16" }] }

def m_cubepilot_MessageHerelinkVideoStreamInformation : GoStruct := { name := "MessageHerelinkVideoStreamInformation", fields := [
    { goName := "CameraId", elemType := "uint8" },
    { goName := "Status", elemType := "uint8" },
    { goName := "Framerate", elemType := "float32" },
    { goName := "ResolutionH", elemType := "uint16" },
    { goName := "ResolutionV", elemType := "uint16" },
    { goName := "Bitrate", elemType := "uint32" },
    { goName := "Rotation", elemType := "uint16" },
    { goName := "Uri", elemType := "string", mavlen := "230" }] }

def m_development_MessageAirspeed : GoStruct := { name := "MessageAirspeed", fields := [
    { goName := "Id", elemType := "uint8" },
    { goName := "Airspeed", elemType := "float32" },
    { goName := "Temperature", elemType := "int16" },
    { goName := "RawPress", elemType := "float32" },
    { goName := "Flags", elemType := "AIRSPEED_SENSOR_FLAGS", elemIsUint64 := true, mavenum := "uint8" }] }

def m_development_MessageBatteryStatusV2 : GoStruct := { name := "MessageBatteryStatusV2", fields := [
    { goName := "Id", elemType := "uint8" },
    { goName := "Temperature", elemType := "int16" },
    { goName := "Voltage", elemType := "float32" },
    { goName := "Current", elemType := "float32" },
    { goName := "CapacityConsumed", elemType := "float32" },
    { goName := "CapacityRemaining", elemType := "float32" },
    { goName := "PercentRemaining", elemType := "uint8" },
    { goName := "StatusFlags", elemType := "MAV_BATTERY_STATUS_FLAGS", elemIsUint64 := true, mavenum := "uint32" }] }

def m_development_MessageControlStatus : GoStruct := { name := "MessageControlStatus", fields := [
    { goName := "SysidInControl", elemType := "uint8" },
    { goName := "Flags", elemType := "GCS_CONTROL_STATUS_FLAGS", elemIsUint64 := true, mavenum := "uint8" }] }

def m_development_MessageFigureEightExecutionStatus : GoStruct := { name := "MessageFigureEightExecutionStatus", fields := [
    { goName := "TimeUsec", elemType := "uint64", elemIsUint64 := true },
    { goName := "MajorRadius", elemType := "float32" },
    { goName := "MinorRadius", elemType := "float32" },
    { goName := "Orientation", elemType := "float32" },
    { goName := "Frame", elemType := "MAV_FRAME", elemIsUint64 := true, mavenum := "uint8" },
    { goName := "X", elemType := "int32" },
    { goName := "Y", elemType := "int32" },
    { goName := "Z", elemType := "float32" }] }

def m_development_MessageGnssIntegrity : GoStruct := { name := "MessageGnssIntegrity", fields := [
    { goName := "Id", elemType := "uint8" },
    { goName := "SystemErrors", elemType := "GPS_SYSTEM_ERROR_FLAGS", elemIsUint64 := true, mavenum := "uint32" },
    { goName := "AuthenticationState", elemType := "GPS_AUTHENTICATION_STATE", elemIsUint64 := true, mavenum := "uint8" },
    { goName := "JammingState", elemType := "GPS_JAMMING_STATE", elemIsUint64 := true, mavenum := "uint8" },
    { goName := "SpoofingState", elemType := "GPS_SPOOFING_STATE", elemIsUint64 := true, mavenum := "uint8" },
    { goName := "RaimState", elemType := "GPS_RAIM_STATE", elemIsUint64 := true, mavenum := "uint8" },
    { goName := "RaimHfom", elemType := "uint16" },
    { goName := "RaimVfom", elemType := "uint16" },
    { goName := "CorrectionsQuality", elemType := "uint8" },
    { goName := "SystemStatusSummary", elemType := "uint8" },
    { goName := "GnssSignalQuality", elemType := "uint8" },
    { goName := "PostProcessingQuality", elemType := "uint8" }] }

def msgs_13 : List (String × Nat × GoStruct) := [
  ("common", 269, m_common_MessageVideoStreamInformation),
  ("common", 270, m_common_MessageVideoStreamStatus),
  ("common", 102, m_common_MessageVisionPositionEstimate),
  ("common", 103, m_common_MessageVisionSpeedEstimate),
  ("common", 9000, m_common_MessageWheelDistance),
  ("common", 299, m_common_MessageWifiConfigAp),
  ("common", 9005, m_common_MessageWinchStatus),
  ("common", 231, m_common_MessageWindCov),
  ("csairlink", 52000, m_csairlink_MessageAirlinkAuth),
  ("csairlink", 52001, m_csairlink_MessageAirlinkAuthResponse),
  ("csairlink", 52002, m_csairlink_MessageAirlinkEyeGsHolePushRequest),
  ("csairlink", 52003, m_csairlink_MessageAirlinkEyeGsHolePushResponse),
  ("csairlink", 52004, m_csairlink_MessageAirlinkEyeHp),
  ("csairlink", 52005, m_csairlink_MessageAirlinkEyeTurnInit),
  ("cubepilot", 50005, m_cubepilot_MessageCubepilotFirmwareUpdateResp),
  ("cubepilot", 50004, m_cubepilot_MessageCubepilotFirmwareUpdateStart),
  ("cubepilot", 50001, m_cubepilot_MessageCubepilotRawRc),
  ("cubepilot", 50003, m_cubepilot_MessageHerelinkTelem),
  ("cubepilot", 50002, m_cubepilot_MessageHerelinkVideoStreamInformation),
  ("development", 295, m_development_MessageAirspeed),
  ("development", 369, m_development_MessageBatteryStatusV2),
  ("development", 512, m_development_MessageControlStatus),
  ("development", 361, m_development_MessageFigureEightExecutionStatus),
  ("development", 441, m_development_MessageGnssIntegrity)]

end Mav.Gen
