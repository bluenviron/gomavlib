-- GENERATED by tools/extract from pkg/dialects/*/message_*.go — do not edit
import Mav.Model.Msg
namespace Mav.Gen
open Mav.Msg

def m_development_MessageGroupEnd : GoStruct := { name := "MessageGroupEnd", fields := [
    { goName := "GroupId", elemType := "uint32" },
    { goName := "MissionChecksum", elemType := "uint32" },
    { goName := "TimeUsec", elemType := "uint64", elemIsUint64 := true }] }

def m_development_MessageGroupStart : GoStruct := { name := "MessageGroupStart", fields := [
    { goName := "GroupId", elemType := "uint32" },
    { goName := "MissionChecksum", elemType := "uint32" },
    { goName := "TimeUsec", elemType := "uint64", elemIsUint64 := true }] }

def m_development_MessageRadioRcChannels : GoStruct := { name := "MessageRadioRcChannels", fields := [
    { goName := "TargetSystem", elemType := "uint8" },
    { goName := "TargetComponent", elemType := "uint8" },
    { goName := "TimeLastUpdateMs", elemType := "uint32" },
    { goName := "Flags", elemType := "RADIO_RC_CHANNELS_FLAGS", elemIsUint64 := true, mavenum := "uint16" },
    { goName := "Count", elemType := "uint8" },
    { goName := "Channels", elemType := "int16", isArray := true, arrLen := 32, mavext := "true" }] }

def m_development_MessageSetVelocityLimits : GoStruct := { name := "MessageSetVelocityLimits", fields := [
    { goName := "TargetSystem", elemType := "uint8" },
    { goName := "TargetComponent", elemType := "uint8" },
    { goName := "HorizontalSpeedLimit", elemType := "float32" },
    { goName := "VerticalSpeedLimit", elemType := "float32" },
    { goName := "YawRateLimit", elemType := "float32" }] }

def m_development_MessageTargetAbsolute : GoStruct := { name := "MessageTargetAbsolute", fields := [
    { goName := "Timestamp", elemType := "uint64", elemIsUint64 := true },
    { goName := "Id", elemType := "uint8" },
    { goName := "SensorCapabilities", elemType := "TARGET_ABSOLUTE_SENSOR_CAPABILITY_FLAGS", elemIsUint64 := true, mavenum := "uint8" },
    { goName := "Lat", elemType := "int32" },
    { goName := "Lon", elemType := "int32" },
    { goName := "Alt", elemType := "float32" },
    { goName := "Vel", elemType := "float32", isArray := true, arrLen := 3 },
    { goName := "Acc", elemType := "float32", isArray := true, arrLen := 3 },
    { goName := "QTarget", elemType := "float32", isArray := true, arrLen := 4 },
    { goName := "Rates", elemType := "float32", isArray := true, arrLen := 3 },
    { goName := "PositionStd", elemType := "float32", isArray := true, arrLen := 2 },
    { goName := "VelStd", elemType := "float32", isArray := true, arrLen := 3 },
    { goName := "AccStd", elemType := "float32", isArray := true, arrLen := 3 }] }

def m_development_MessageTargetRelative : GoStruct := { name := "MessageTargetRelative", fields := [
    { goName := "Timestamp", elemType := "uint64", elemIsUint64 := true },
    { goName := "Id", elemType := "uint8" },
    { goName := "Frame", elemType := "TARGET_OBS_FRAME", elemIsUint64 := true, mavenum := "uint8" },
    { goName := "X", elemType := "float32" },
    { goName := "Y", elemType := "float32" },
    { goName := "Z", elemType := "float32" },
    { goName := "PosStd", elemType := "float32", isArray := true, arrLen := 3 },
    { goName := "YawStd", elemType := "float32" },
    { goName := "QTarget", elemType := "float32", isArray := true, arrLen := 4 },
    { goName := "QSensor", elemType := "float32", isArray := true, arrLen := 4 },
    { goName := "Type", elemType := "LANDING_TARGET_TYPE", elemIsUint64 := true, mavenum := "uint8" }] }

def m_development_MessageVelocityLimits : GoStruct := { name := "MessageVelocityLimits", fields := [
    { goName := "HorizontalSpeedLimit", elemType := "float32" },
    { goName := "VerticalSpeedLimit", elemType := "float32" },
    { goName := "YawRateLimit", elemType := "float32" }] }

def m_icarous_MessageIcarousHeartbeat : GoStruct := { name := "MessageIcarousHeartbeat", fields := [
    { goName := "Status", elemType := "ICAROUS_FMS_STATE", elemIsUint64 := true, mavenum := "uint8" }] }

def m_icarous_MessageIcarousKinematicBands : GoStruct := { name := "MessageIcarousKinematicBands", fields := [
    { goName := "Numbands", elemType := "int8", mavname := "numBands" },
    { goName := "Type1", elemType := "ICAROUS_TRACK_BAND_TYPES", elemIsUint64 := true, mavenum := "uint8" },
    { goName := "Min1", elemType := "float32" },
    { goName := "Max1", elemType := "float32" },
    { goName := "Type2", elemType := "ICAROUS_TRACK_BAND_TYPES", elemIsUint64 := true, mavenum := "uint8" },
    { goName := "Min2", elemType := "float32" },
    { goName := "Max2", elemType := "float32" },
    { goName := "Type3", elemType := "ICAROUS_TRACK_BAND_TYPES", elemIsUint64 := true, mavenum := "uint8" },
    { goName := "Min3", elemType := "float32" },
    { goName := "Max3", elemType := "float32" },
    { goName := "Type4", elemType := "ICAROUS_TRACK_BAND_TYPES", elemIsUint64 := true, mavenum := "uint8" },
    { goName := "Min4", elemType := "float32" },
    { goName := "Max4", elemType := "float32" },
    { goName := "Type5", elemType := "ICAROUS_TRACK_BAND_TYPES", elemIsUint64 := true, mavenum := "uint8" },
    { goName := "Min5", elemType := "float32" },
    { goName := "Max5", elemType := "float32" }] }

def m_loweheiser_MessageLoweheiserGovEfi : GoStruct := { name := "MessageLoweheiserGovEfi", fields := [
    { goName := "VoltBatt", elemType := "float32" },
    { goName := "CurrBatt", elemType := "float32" },
    { goName := "CurrGen", elemType := "float32" },
    { goName := "CurrRot", elemType := "float32" },
    { goName := "FuelLevel", elemType := "float32" },
    { goName := "Throttle", elemType := "float32" },
    { goName := "Runtime", elemType := "uint32" },
    { goName := "UntilMaintenance", elemType := "int32" },
    { goName := "RectifierTemp", elemType := "float32" },
    { goName := "GeneratorTemp", elemType := "float32" },
    { goName := "EfiBatt", elemType := "float32" },
    { goName := "EfiRpm", elemType := "float32" },
    { goName := "EfiPw", elemType := "float32" },
    { goName := "EfiFuelFlow", elemType := "float32" },
    { goName := "EfiFuelConsumed", elemType := "float32" },
    { goName := "EfiBaro", elemType := "float32" },
    { goName := "EfiMat", elemType := "float32" },
    { goName := "EfiClt", elemType := "float32" },
    { goName := "EfiTps", elemType := "float32" },
    { goName := "EfiExhaustGasTemperature", elemType := "float32" },
    { goName := "EfiIndex", elemType := "uint8" },
    { goName := "GeneratorStatus", elemType := "uint16" },
    { goName := "EfiStatus", elemType := "uint16" }] }

def m_matrixpilot_MessageAirspeeds : GoStruct := { name := "MessageAirspeeds", fields := [
    { goName := "TimeBootMs", elemType := "uint32" },
    { goName := "AirspeedImu", elemType := "int16" },
    { goName := "AirspeedPitot", elemType := "int16" },
    { goName := "AirspeedHotWire", elemType := "int16" },
    { goName := "AirspeedUltrasonic", elemType := "int16" },
    { goName := "Aoa", elemType := "int16" },
    { goName := "Aoy", elemType := "int16" }] }

def m_matrixpilot_MessageAltitudes : GoStruct := { name := "MessageAltitudes", fields := [
    { goName := "TimeBootMs", elemType := "uint32" },
    { goName := "AltGps", elemType := "int32" },
    { goName := "AltImu", elemType := "int32" },
    { goName := "AltBarometric", elemType := "int32" },
    { goName := "AltOpticalFlow", elemType := "int32" },
    { goName := "AltRangeFinder", elemType := "int32" },
    { goName := "AltExtra", elemType := "int32" }] }

def m_matrixpilot_MessageFlexifunctionBufferFunction : GoStruct := { name := "MessageFlexifunctionBufferFunction", fields := [
    { goName := "TargetSystem", elemType := "uint8" },
    { goName := "TargetComponent", elemType := "uint8" },
    { goName := "FuncIndex", elemType := "uint16" },
    { goName := "FuncCount", elemType := "uint16" },
    { goName := "DataAddress", elemType := "uint16" },
    { goName := "DataSize", elemType := "uint16" },
    { goName := "Data", elemType := "int8", isArray := true, arrLen := 48 }] }

def m_matrixpilot_MessageFlexifunctionBufferFunctionAck : GoStruct := { name := "MessageFlexifunctionBufferFunctionAck", fields := [
    { goName := "TargetSystem", elemType := "uint8" },
    { goName := "TargetComponent", elemType := "uint8" },
    { goName := "FuncIndex", elemType := "uint16" },
    { goName := "Result", elemType := "uint16" }] }

def m_matrixpilot_MessageFlexifunctionCommand : GoStruct := { name := "MessageFlexifunctionCommand", fields := [
    { goName := "TargetSystem", elemType := "uint8" },
    { goName := "TargetComponent", elemType := "uint8" },
    { goName := "CommandType", elemType := "uint8" }] }

def m_matrixpilot_MessageFlexifunctionCommandAck : GoStruct := { name := "MessageFlexifunctionCommandAck", fields := [
    { goName := "CommandType", elemType := "uint16" },
    { goName := "Result", elemType := "uint16" }] }

def m_matrixpilot_MessageFlexifunctionDirectory : GoStruct := { name := "MessageFlexifunctionDirectory", fields := [
    { goName := "TargetSystem", elemType := "uint8" },
    { goName := "TargetComponent", elemType := "uint8" },
    { goName := "DirectoryType", elemType := "uint8" },
    { goName := "StartIndex", elemType := "uint8" },
    { goName := "Count", elemType := "uint8" },
    { goName := "DirectoryData", elemType := "int8", isArray := true, arrLen := 48 }] }

def m_matrixpilot_MessageFlexifunctionDirectoryAck : GoStruct := { name := "MessageFlexifunctionDirectoryAck", fields := [
    { goName := "TargetSystem", elemType := "uint8" },
    { goName := "TargetComponent", elemType := "uint8" },
    { goName := "DirectoryType", elemType := "uint8" },
    { goName := "StartIndex", elemType := "uint8" },
    { goName := "Count", elemType := "uint8" },
    { goName := "Result", elemType := "uint16" }] }

def m_matrixpilot_MessageFlexifunctionReadReq : GoStruct := { name := "MessageFlexifunctionReadReq", fields := [
    { goName := "TargetSystem", elemType := "uint8" },
    { goName := "TargetComponent", elemType := "uint8" },
    { goName := "ReadReqType", elemType := "int16" },
    { goName := "DataIndex", elemType := "int16" }] }

def m_matrixpilot_MessageFlexifunctionSet : GoStruct := { name := "MessageFlexifunctionSet", fields := [
    { goName := "TargetSystem", elemType := "uint8" },
    { goName := "TargetComponent", elemType := "uint8" }] }

def m_matrixpilot_MessageSerialUdbExtraF13 : GoStruct := { name := "MessageSerialUdbExtraF13", fields := [
    { goName := "SueWeekNo", elemType := "int16" },
    { goName := "SueLatOrigin", elemType := "int32" },
    { goName := "SueLonOrigin", elemType := "int32" },
    { goName := "SueAltOrigin", elemType := "int32" }] }

def m_matrixpilot_MessageSerialUdbExtraF14 : GoStruct := { name := "MessageSerialUdbExtraF14", fields := [
    { goName := "SueWindEstimation", elemType := "uint8", mavname := "sue_WIND_ESTIMATION" },
    { goName := "SueGpsType", elemType := "uint8", mavname := "sue_GPS_TYPE" },
    { goName := "SueDr", elemType := "uint8", mavname := "sue_DR" },
    { goName := "SueBoardType", elemType := "uint8", mavname := "sue_BOARD_TYPE" },
    { goName := "SueAirframe", elemType := "uint8", mavname := "sue_AIRFRAME" },
    { goName := "SueRcon", elemType := "int16", mavname := "sue_RCON" },
    { goName := "SueTrapFlags", elemType := "int16", mavname := "sue_TRAP_FLAGS" },
    { goName := "SueTrapSource", elemType := "uint32", mavname := "sue_TRAP_SOURCE" },
    { goName := "SueOscFailCount", elemType := "int16" },
    { goName := "SueClockConfig", elemType := "uint8", mavname := "sue_CLOCK_CONFIG" },
    { goName := "SueFlightPlanType", elemType := "uint8", mavname := "sue_FLIGHT_PLAN_TYPE" }] }

def m_matrixpilot_MessageSerialUdbExtraF15 : GoStruct := { name := "MessageSerialUdbExtraF15", fields := [
    { goName := "SueIdVehicleModelName", elemType := "uint8", isArray := true, arrLen := 40, mavname := "sue_ID_VEHICLE_MODEL_NAME" },
    { goName := "SueIdVehicleRegistration", elemType := "uint8", isArray := true, arrLen := 20, mavname := "sue_ID_VEHICLE_REGISTRATION" }] }

def m_matrixpilot_MessageSerialUdbExtraF16 : GoStruct := { name := "MessageSerialUdbExtraF16", fields := [
    { goName := "SueIdLeadPilot", elemType := "uint8", isArray := true, arrLen := 40, mavname := "sue_ID_LEAD_PILOT" },
    { goName := "SueIdDiyDronesUrl", elemType := "uint8", isArray := true, arrLen := 70, mavname := "sue_ID_DIY_DRONES_URL" }] }

def msgs_14 : List (String × Nat × GoStruct) := [
  ("development", 415, m_development_MessageGroupEnd),
  ("development", 414, m_development_MessageGroupStart),
  ("development", 420, m_development_MessageRadioRcChannels),
  ("development", 354, m_development_MessageSetVelocityLimits),
  ("development", 510, m_development_MessageTargetAbsolute),
  ("development", 511, m_development_MessageTargetRelative),
  ("development", 355, m_development_MessageVelocityLimits),
  ("icarous", 42000, m_icarous_MessageIcarousHeartbeat),
  ("icarous", 42001, m_icarous_MessageIcarousKinematicBands),
  ("loweheiser", 10151, m_loweheiser_MessageLoweheiserGovEfi),
  ("matrixpilot", 182, m_matrixpilot_MessageAirspeeds),
  ("matrixpilot", 181, m_matrixpilot_MessageAltitudes),
  ("matrixpilot", 152, m_matrixpilot_MessageFlexifunctionBufferFunction),
  ("matrixpilot", 153, m_matrixpilot_MessageFlexifunctionBufferFunctionAck),
  ("matrixpilot", 157, m_matrixpilot_MessageFlexifunctionCommand),
  ("matrixpilot", 158, m_matrixpilot_MessageFlexifunctionCommandAck),
  ("matrixpilot", 155, m_matrixpilot_MessageFlexifunctionDirectory),
  ("matrixpilot", 156, m_matrixpilot_MessageFlexifunctionDirectoryAck),
  ("matrixpilot", 151, m_matrixpilot_MessageFlexifunctionReadReq),
  ("matrixpilot", 150, m_matrixpilot_MessageFlexifunctionSet),
  ("matrixpilot", 177, m_matrixpilot_MessageSerialUdbExtraF13),
  ("matrixpilot", 178, m_matrixpilot_MessageSerialUdbExtraF14),
  ("matrixpilot", 179, m_matrixpilot_MessageSerialUdbExtraF15),
  ("matrixpilot", 180, m_matrixpilot_MessageSerialUdbExtraF16)]

end Mav.Gen
