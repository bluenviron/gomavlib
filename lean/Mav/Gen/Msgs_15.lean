-- GENERATED by tools/extract from pkg/dialects/*/message_*.go — do not edit
import Mav.Model.Msg
namespace Mav.Gen
open Mav.Msg

def m_matrixpilot_MessageSerialUdbExtraF17 : GoStruct := { name := "MessageSerialUdbExtraF17", fields := [
    { goName := "SueFeedForward", elemType := "float32" },
    { goName := "SueTurnRateNav", elemType := "float32" },
    { goName := "SueTurnRateFbw", elemType := "float32" }] }

def m_matrixpilot_MessageSerialUdbExtraF18 : GoStruct := { name := "MessageSerialUdbExtraF18", fields := [
    { goName := "AngleOfAttackNormal", elemType := "float32" },
    { goName := "AngleOfAttackInverted", elemType := "float32" },
    { goName := "ElevatorTrimNormal", elemType := "float32" },
    { goName := "ElevatorTrimInverted", elemType := "float32" },
    { goName := "ReferenceSpeed", elemType := "float32" }] }

def m_matrixpilot_MessageSerialUdbExtraF19 : GoStruct := { name := "MessageSerialUdbExtraF19", fields := [
    { goName := "SueAileronOutputChannel", elemType := "uint8" },
    { goName := "SueAileronReversed", elemType := "uint8" },
    { goName := "SueElevatorOutputChannel", elemType := "uint8" },
    { goName := "SueElevatorReversed", elemType := "uint8" },
    { goName := "SueThrottleOutputChannel", elemType := "uint8" },
    { goName := "SueThrottleReversed", elemType := "uint8" },
    { goName := "SueRudderOutputChannel", elemType := "uint8" },
    { goName := "SueRudderReversed", elemType := "uint8" }] }

def m_matrixpilot_MessageSerialUdbExtraF20 : GoStruct := { name := "MessageSerialUdbExtraF20", fields := [
    { goName := "SueNumberOfInputs", elemType := "uint8" },
    { goName := "SueTrimValueInput_1", elemType := "int16" },
    { goName := "SueTrimValueInput_2", elemType := "int16" },
    { goName := "SueTrimValueInput_3", elemType := "int16" },
    { goName := "SueTrimValueInput_4", elemType := "int16" },
    { goName := "SueTrimValueInput_5", elemType := "int16" },
    { goName := "SueTrimValueInput_6", elemType := "int16" },
    { goName := "SueTrimValueInput_7", elemType := "int16" },
    { goName := "SueTrimValueInput_8", elemType := "int16" },
    { goName := "SueTrimValueInput_9", elemType := "int16" },
    { goName := "SueTrimValueInput_10", elemType := "int16" },
    { goName := "SueTrimValueInput_11", elemType := "int16" },
    { goName := "SueTrimValueInput_12", elemType := "int16" }] }

def m_matrixpilot_MessageSerialUdbExtraF21 : GoStruct := { name := "MessageSerialUdbExtraF21", fields := [
    { goName := "SueAccelXOffset", elemType := "int16" },
    { goName := "SueAccelYOffset", elemType := "int16" },
    { goName := "SueAccelZOffset", elemType := "int16" },
    { goName := "SueGyroXOffset", elemType := "int16" },
    { goName := "SueGyroYOffset", elemType := "int16" },
    { goName := "SueGyroZOffset", elemType := "int16" }] }

def m_matrixpilot_MessageSerialUdbExtraF22 : GoStruct := { name := "MessageSerialUdbExtraF22", fields := [
    { goName := "SueAccelXAtCalibration", elemType := "int16" },
    { goName := "SueAccelYAtCalibration", elemType := "int16" },
    { goName := "SueAccelZAtCalibration", elemType := "int16" },
    { goName := "SueGyroXAtCalibration", elemType := "int16" },
    { goName := "SueGyroYAtCalibration", elemType := "int16" },
    { goName := "SueGyroZAtCalibration", elemType := "int16" }] }

def m_matrixpilot_MessageSerialUdbExtraF2A : GoStruct := { name := "MessageSerialUdbExtraF2A", fields := [
    { goName := "SueTime", elemType := "uint32" },
    { goName := "SueStatus", elemType := "uint8" },
    { goName := "SueLatitude", elemType := "int32" },
    { goName := "SueLongitude", elemType := "int32" },
    { goName := "SueAltitude", elemType := "int32" },
    { goName := "SueWaypointIndex", elemType := "uint16" },
    { goName := "SueRmat0", elemType := "int16" },
    { goName := "SueRmat1", elemType := "int16" },
    { goName := "SueRmat2", elemType := "int16" },
    { goName := "SueRmat3", elemType := "int16" },
    { goName := "SueRmat4", elemType := "int16" },
    { goName := "SueRmat5", elemType := "int16" },
    { goName := "SueRmat6", elemType := "int16" },
    { goName := "SueRmat7", elemType := "int16" },
    { goName := "SueRmat8", elemType := "int16" },
    { goName := "SueCog", elemType := "uint16" },
    { goName := "SueSog", elemType := "int16" },
    { goName := "SueCpuLoad", elemType := "uint16" },
    { goName := "SueAirSpeed_3dimu", elemType := "uint16", mavname := "sue_air_speed_3DIMU" },
    { goName := "SueEstimatedWind_0", elemType := "int16" },
    { goName := "SueEstimatedWind_1", elemType := "int16" },
    { goName := "SueEstimatedWind_2", elemType := "int16" },
    { goName := "SueMagfieldearth0", elemType := "int16", mavname := "sue_magFieldEarth0" },
    { goName := "SueMagfieldearth1", elemType := "int16", mavname := "sue_magFieldEarth1" },
    { goName := "SueMagfieldearth2", elemType := "int16", mavname := "sue_magFieldEarth2" },
    { goName := "SueSvs", elemType := "int16" },
    { goName := "SueHdop", elemType := "int16" }] }

def m_matrixpilot_MessageSerialUdbExtraF2B : GoStruct := { name := "MessageSerialUdbExtraF2B", fields := [
    { goName := "SueTime", elemType := "uint32" },
    { goName := "SuePwmInput_1", elemType := "int16" },
    { goName := "SuePwmInput_2", elemType := "int16" },
    { goName := "SuePwmInput_3", elemType := "int16" },
    { goName := "SuePwmInput_4", elemType := "int16" },
    { goName := "SuePwmInput_5", elemType := "int16" },
    { goName := "SuePwmInput_6", elemType := "int16" },
    { goName := "SuePwmInput_7", elemType := "int16" },
    { goName := "SuePwmInput_8", elemType := "int16" },
    { goName := "SuePwmInput_9", elemType := "int16" },
    { goName := "SuePwmInput_10", elemType := "int16" },
    { goName := "SuePwmInput_11", elemType := "int16" },
    { goName := "SuePwmInput_12", elemType := "int16" },
    { goName := "SuePwmOutput_1", elemType := "int16" },
    { goName := "SuePwmOutput_2", elemType := "int16" },
    { goName := "SuePwmOutput_3", elemType := "int16" },
    { goName := "SuePwmOutput_4", elemType := "int16" },
    { goName := "SuePwmOutput_5", elemType := "int16" },
    { goName := "SuePwmOutput_6", elemType := "int16" },
    { goName := "SuePwmOutput_7", elemType := "int16" },
    { goName := "SuePwmOutput_8", elemType := "int16" },
    { goName := "SuePwmOutput_9", elemType := "int16" },
    { goName := "SuePwmOutput_10", elemType := "int16" },
    { goName := "SuePwmOutput_11", elemType := "int16" },
    { goName := "SuePwmOutput_12", elemType := "int16" },
    { goName := "SueImuLocationX", elemType := "int16" },
    { goName := "SueImuLocationY", elemType := "int16" },
    { goName := "SueImuLocationZ", elemType := "int16" },
    { goName := "SueLocationErrorEarthX", elemType := "int16" },
    { goName := "SueLocationErrorEarthY", elemType := "int16" },
    { goName := "SueLocationErrorEarthZ", elemType := "int16" },
    { goName := "SueFlags", elemType := "uint32" },
    { goName := "SueOscFails", elemType := "int16" },
    { goName := "SueImuVelocityX", elemType := "int16" },
    { goName := "SueImuVelocityY", elemType := "int16" },
    { goName := "SueImuVelocityZ", elemType := "int16" },
    { goName := "SueWaypointGoalX", elemType := "int16" },
    { goName := "SueWaypointGoalY", elemType := "int16" },
    { goName := "SueWaypointGoalZ", elemType := "int16" },
    { goName := "SueAeroX", elemType := "int16" },
    { goName := "SueAeroY", elemType := "int16" },
    { goName := "SueAeroZ", elemType := "int16" },
    { goName := "SueBaromTemp", elemType := "int16" },
    { goName := "SueBaromPress", elemType := "int32" },
    { goName := "SueBaromAlt", elemType := "int32" },
    { goName := "SueBatVolt", elemType := "int16" },
    { goName := "SueBatAmp", elemType := "int16" },
    { goName := "SueBatAmpHours", elemType := "int16" },
    { goName := "SueDesiredHeight", elemType := "int16" },
    { goName := "SueMemoryStackFree", elemType := "int16" }] }

def m_matrixpilot_MessageSerialUdbExtraF4 : GoStruct := { name := "MessageSerialUdbExtraF4", fields := [
    { goName := "SueRollStabilizationAilerons", elemType := "uint8", mavname := "sue_ROLL_STABILIZATION_AILERONS" },
    { goName := "SueRollStabilizationRudder", elemType := "uint8", mavname := "sue_ROLL_STABILIZATION_RUDDER" },
    { goName := "SuePitchStabilization", elemType := "uint8", mavname := "sue_PITCH_STABILIZATION" },
    { goName := "SueYawStabilizationRudder", elemType := "uint8", mavname := "sue_YAW_STABILIZATION_RUDDER" },
    { goName := "SueYawStabilizationAileron", elemType := "uint8", mavname := "sue_YAW_STABILIZATION_AILERON" },
    { goName := "SueAileronNavigation", elemType := "uint8", mavname := "sue_AILERON_NAVIGATION" },
    { goName := "SueRudderNavigation", elemType := "uint8", mavname := "sue_RUDDER_NAVIGATION" },
    { goName := "SueAltitudeholdStabilized", elemType := "uint8", mavname := "sue_ALTITUDEHOLD_STABILIZED" },
    { goName := "SueAltitudeholdWaypoint", elemType := "uint8", mavname := "sue_ALTITUDEHOLD_WAYPOINT" },
    { goName := "SueRacingMode", elemType := "uint8", mavname := "sue_RACING_MODE" }] }

def m_matrixpilot_MessageSerialUdbExtraF5 : GoStruct := { name := "MessageSerialUdbExtraF5", fields := [
    { goName := "SueYawkpAileron", elemType := "float32", mavname := "sue_YAWKP_AILERON" },
    { goName := "SueYawkdAileron", elemType := "float32", mavname := "sue_YAWKD_AILERON" },
    { goName := "SueRollkp", elemType := "float32", mavname := "sue_ROLLKP" },
    { goName := "SueRollkd", elemType := "float32", mavname := "sue_ROLLKD" }] }

def m_matrixpilot_MessageSerialUdbExtraF6 : GoStruct := { name := "MessageSerialUdbExtraF6", fields := [
    { goName := "SuePitchgain", elemType := "float32", mavname := "sue_PITCHGAIN" },
    { goName := "SuePitchkd", elemType := "float32", mavname := "sue_PITCHKD" },
    { goName := "SueRudderElevMix", elemType := "float32", mavname := "sue_RUDDER_ELEV_MIX" },
    { goName := "SueRollElevMix", elemType := "float32", mavname := "sue_ROLL_ELEV_MIX" },
    { goName := "SueElevatorBoost", elemType := "float32", mavname := "sue_ELEVATOR_BOOST" }] }

def m_matrixpilot_MessageSerialUdbExtraF7 : GoStruct := { name := "MessageSerialUdbExtraF7", fields := [
    { goName := "SueYawkpRudder", elemType := "float32", mavname := "sue_YAWKP_RUDDER" },
    { goName := "SueYawkdRudder", elemType := "float32", mavname := "sue_YAWKD_RUDDER" },
    { goName := "SueRollkpRudder", elemType := "float32", mavname := "sue_ROLLKP_RUDDER" },
    { goName := "SueRollkdRudder", elemType := "float32", mavname := "sue_ROLLKD_RUDDER" },
    { goName := "SueRudderBoost", elemType := "float32", mavname := "sue_RUDDER_BOOST" },
    { goName := "SueRtlPitchDown", elemType := "float32", mavname := "sue_RTL_PITCH_DOWN" }] }

def m_matrixpilot_MessageSerialUdbExtraF8 : GoStruct := { name := "MessageSerialUdbExtraF8", fields := [
    { goName := "SueHeightTargetMax", elemType := "float32", mavname := "sue_HEIGHT_TARGET_MAX" },
    { goName := "SueHeightTargetMin", elemType := "float32", mavname := "sue_HEIGHT_TARGET_MIN" },
    { goName := "SueAltHoldThrottleMin", elemType := "float32", mavname := "sue_ALT_HOLD_THROTTLE_MIN" },
    { goName := "SueAltHoldThrottleMax", elemType := "float32", mavname := "sue_ALT_HOLD_THROTTLE_MAX" },
    { goName := "SueAltHoldPitchMin", elemType := "float32", mavname := "sue_ALT_HOLD_PITCH_MIN" },
    { goName := "SueAltHoldPitchMax", elemType := "float32", mavname := "sue_ALT_HOLD_PITCH_MAX" },
    { goName := "SueAltHoldPitchHigh", elemType := "float32", mavname := "sue_ALT_HOLD_PITCH_HIGH" }] }

def m_minimal_MessageHeartbeat : GoStruct := { name := "MessageHeartbeat", fields := [
    { goName := "Type", elemType := "MAV_TYPE", elemIsUint64 := true, mavenum := "uint8" },
    { goName := "Autopilot", elemType := "MAV_AUTOPILOT", elemIsUint64 := true, mavenum := "uint8" },
    { goName := "BaseMode", elemType := "MAV_MODE_FLAG", elemIsUint64 := true, mavenum := "uint8" },
    { goName := "CustomMode", elemType := "uint32" },
    { goName := "SystemStatus", elemType := "MAV_STATE", elemIsUint64 := true, mavenum := "uint8" },
    { goName := "MavlinkVersion", elemType := "uint8" }] }

def m_minimal_MessageProtocolVersion : GoStruct := { name := "MessageProtocolVersion", fields := [
    { goName := "Version", elemType := "uint16" },
    { goName := "MinVersion", elemType := "uint16" },
    { goName := "MaxVersion", elemType := "uint16" },
    { goName := "SpecVersionHash", elemType := "uint8", isArray := true, arrLen := 8 },
    { goName := "LibraryVersionHash", elemType := "uint8", isArray := true, arrLen := 8 }] }

def m_paparazzi_MessageScriptCount : GoStruct := { name := "MessageScriptCount", fields := [
    { goName := "TargetSystem", elemType := "uint8" },
    { goName := "TargetComponent", elemType := "uint8" },
    { goName := "Count", elemType := "uint16" }] }

def m_paparazzi_MessageScriptCurrent : GoStruct := { name := "MessageScriptCurrent", fields := [
    { goName := "Seq", elemType := "uint16" }] }

def m_paparazzi_MessageScriptItem : GoStruct := { name := "MessageScriptItem", fields := [
    { goName := "TargetSystem", elemType := "uint8" },
    { goName := "TargetComponent", elemType := "uint8" },
    { goName := "Seq", elemType := "uint16" },
    { goName := "Name", elemType := "string", mavlen := "50" }] }

def m_paparazzi_MessageScriptRequest : GoStruct := { name := "MessageScriptRequest", fields := [
    { goName := "TargetSystem", elemType := "uint8" },
    { goName := "TargetComponent", elemType := "uint8" },
    { goName := "Seq", elemType := "uint16" }] }

def m_paparazzi_MessageScriptRequestList : GoStruct := { name := "MessageScriptRequestList", fields := [
    { goName := "TargetSystem", elemType := "uint8" },
    { goName := "TargetComponent", elemType := "uint8" }] }

def m_pythonarraytest_MessageArrayTest_0 : GoStruct := { name := "MessageArrayTest_0", fields := [
    { goName := "V1", elemType := "uint8" },
    { goName := "ArI8", elemType := "int8", isArray := true, arrLen := 4 },
    { goName := "ArU8", elemType := "uint8", isArray := true, arrLen := 4 },
    { goName := "ArU16", elemType := "uint16", isArray := true, arrLen := 4 },
    { goName := "ArU32", elemType := "uint32", isArray := true, arrLen := 4 }] }

def m_pythonarraytest_MessageArrayTest_1 : GoStruct := { name := "MessageArrayTest_1", fields := [
    { goName := "ArU32", elemType := "uint32", isArray := true, arrLen := 4 }] }

def m_pythonarraytest_MessageArrayTest_3 : GoStruct := { name := "MessageArrayTest_3", fields := [
    { goName := "V", elemType := "uint8" },
    { goName := "ArU32", elemType := "uint32", isArray := true, arrLen := 4 }] }

def m_pythonarraytest_MessageArrayTest_4 : GoStruct := { name := "MessageArrayTest_4", fields := [
    { goName := "ArU32", elemType := "uint32", isArray := true, arrLen := 4 },
    { goName := "V", elemType := "uint8" }] }

def msgs_15 : List (String × Nat × GoStruct) := [
  ("matrixpilot", 183, m_matrixpilot_MessageSerialUdbExtraF17),
  ("matrixpilot", 184, m_matrixpilot_MessageSerialUdbExtraF18),
  ("matrixpilot", 185, m_matrixpilot_MessageSerialUdbExtraF19),
  ("matrixpilot", 186, m_matrixpilot_MessageSerialUdbExtraF20),
  ("matrixpilot", 187, m_matrixpilot_MessageSerialUdbExtraF21),
  ("matrixpilot", 188, m_matrixpilot_MessageSerialUdbExtraF22),
  ("matrixpilot", 170, m_matrixpilot_MessageSerialUdbExtraF2A),
  ("matrixpilot", 171, m_matrixpilot_MessageSerialUdbExtraF2B),
  ("matrixpilot", 172, m_matrixpilot_MessageSerialUdbExtraF4),
  ("matrixpilot", 173, m_matrixpilot_MessageSerialUdbExtraF5),
  ("matrixpilot", 174, m_matrixpilot_MessageSerialUdbExtraF6),
  ("matrixpilot", 175, m_matrixpilot_MessageSerialUdbExtraF7),
  ("matrixpilot", 176, m_matrixpilot_MessageSerialUdbExtraF8),
  ("minimal", 0, m_minimal_MessageHeartbeat),
  ("minimal", 300, m_minimal_MessageProtocolVersion),
  ("paparazzi", 183, m_paparazzi_MessageScriptCount),
  ("paparazzi", 184, m_paparazzi_MessageScriptCurrent),
  ("paparazzi", 180, m_paparazzi_MessageScriptItem),
  ("paparazzi", 181, m_paparazzi_MessageScriptRequest),
  ("paparazzi", 182, m_paparazzi_MessageScriptRequestList),
  ("pythonarraytest", 17150, m_pythonarraytest_MessageArrayTest_0),
  ("pythonarraytest", 17151, m_pythonarraytest_MessageArrayTest_1),
  ("pythonarraytest", 17153, m_pythonarraytest_MessageArrayTest_3),
  ("pythonarraytest", 17154, m_pythonarraytest_MessageArrayTest_4)]

end Mav.Gen
