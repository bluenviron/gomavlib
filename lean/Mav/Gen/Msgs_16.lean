-- GENERATED by tools/extract from pkg/dialects/*/message_*.go — do not edit
import Mav.Model.Msg
namespace Mav.Gen
open Mav.Msg

def m_pythonarraytest_MessageArrayTest_5 : GoStruct := { name := "MessageArrayTest_5", fields := [
    { goName := "C1", elemType := "string", mavlen := "5" },
    { goName := "C2", elemType := "string", mavlen := "5" }] }

def m_pythonarraytest_MessageArrayTest_6 : GoStruct := { name := "MessageArrayTest_6", fields := [
    { goName := "V1", elemType := "uint8" },
    { goName := "V2", elemType := "uint16" },
    { goName := "V3", elemType := "uint32" },
    { goName := "ArU32", elemType := "uint32", isArray := true, arrLen := 2 },
    { goName := "ArI32", elemType := "int32", isArray := true, arrLen := 2 },
    { goName := "ArU16", elemType := "uint16", isArray := true, arrLen := 2 },
    { goName := "ArI16", elemType := "int16", isArray := true, arrLen := 2 },
    { goName := "ArU8", elemType := "uint8", isArray := true, arrLen := 2 },
    { goName := "ArI8", elemType := "int8", isArray := true, arrLen := 2 },
    { goName := "ArC", elemType := "string", mavlen := "32" },
    { goName := "ArD", elemType := "float64", isArray := true, arrLen := 2 },
    { goName := "ArF", elemType := "float32", isArray := true, arrLen := 2 }] }

def m_pythonarraytest_MessageArrayTest_7 : GoStruct := { name := "MessageArrayTest_7", fields := [
    { goName := "ArD", elemType := "float64", isArray := true, arrLen := 2 },
    { goName := "ArF", elemType := "float32", isArray := true, arrLen := 2 },
    { goName := "ArU32", elemType := "uint32", isArray := true, arrLen := 2 },
    { goName := "ArI32", elemType := "int32", isArray := true, arrLen := 2 },
    { goName := "ArU16", elemType := "uint16", isArray := true, arrLen := 2 },
    { goName := "ArI16", elemType := "int16", isArray := true, arrLen := 2 },
    { goName := "ArU8", elemType := "uint8", isArray := true, arrLen := 2 },
    { goName := "ArI8", elemType := "int8", isArray := true, arrLen := 2 },
    { goName := "ArC", elemType := "string", mavlen := "32" }] }

def m_pythonarraytest_MessageArrayTest_8 : GoStruct := { name := "MessageArrayTest_8", fields := [
    { goName := "V3", elemType := "uint32" },
    { goName := "ArD", elemType := "float64", isArray := true, arrLen := 2 },
    { goName := "ArU16", elemType := "uint16", isArray := true, arrLen := 2 }] }

def m_storm32_MessageFrskyPassthroughArray : GoStruct := { name := "MessageFrskyPassthroughArray", fields := [
    { goName := "TimeBootMs", elemType := "uint32" },
    { goName := "Count", elemType := "uint8" },
    { goName := "PacketBuf", elemType := "uint8", isArray := true, arrLen := 240 }] }

def m_storm32_MessageParamValueArray : GoStruct := { name := "MessageParamValueArray", fields := [
    { goName := "ParamCount", elemType := "uint16" },
    { goName := "ParamIndexFirst", elemType := "uint16" },
    { goName := "ParamArrayLen", elemType := "uint8" },
    { goName := "Flags", elemType := "uint16" },
    { goName := "PacketBuf", elemType := "uint8", isArray := true, arrLen := 248 }] }

def m_storm32_MessageQshotStatus : GoStruct := { name := "MessageQshotStatus", fields := [
    { goName := "Mode", elemType := "MAV_QSHOT_MODE", elemIsUint64 := true, mavenum := "uint16" },
    { goName := "ShotState", elemType := "uint16" }] }

def m_storm32_MessageStorm32GimbalManagerControl : GoStruct := { name := "MessageStorm32GimbalManagerControl", fields := [
    { goName := "TargetSystem", elemType := "uint8" },
    { goName := "TargetComponent", elemType := "uint8" },
    { goName := "GimbalId", elemType := "uint8" },
    { goName := "Client", elemType := "MAV_STORM32_GIMBAL_MANAGER_CLIENT", elemIsUint64 := true, mavenum := "uint8" },
    { goName := "DeviceFlags", elemType := "GIMBAL_DEVICE_FLAGS", elemIsUint64 := true, mavenum := "uint16" },
    { goName := "ManagerFlags", elemType := "MAV_STORM32_GIMBAL_MANAGER_FLAGS", elemIsUint64 := true, mavenum := "uint16" },
    { goName := "Q", elemType := "float32", isArray := true, arrLen := 4 },
    { goName := "AngularVelocityX", elemType := "float32" },
    { goName := "AngularVelocityY", elemType := "float32" },
    { goName := "AngularVelocityZ", elemType := "float32" }] }

def m_storm32_MessageStorm32GimbalManagerControlPitchyaw : GoStruct := { name := "MessageStorm32GimbalManagerControlPitchyaw", fields := [
    { goName := "TargetSystem", elemType := "uint8" },
    { goName := "TargetComponent", elemType := "uint8" },
    { goName := "GimbalId", elemType := "uint8" },
    { goName := "Client", elemType := "MAV_STORM32_GIMBAL_MANAGER_CLIENT", elemIsUint64 := true, mavenum := "uint8" },
    { goName := "DeviceFlags", elemType := "GIMBAL_DEVICE_FLAGS", elemIsUint64 := true, mavenum := "uint16" },
    { goName := "ManagerFlags", elemType := "MAV_STORM32_GIMBAL_MANAGER_FLAGS", elemIsUint64 := true, mavenum := "uint16" },
    { goName := "Pitch", elemType := "float32" },
    { goName := "Yaw", elemType := "float32" },
    { goName := "PitchRate", elemType := "float32" },
    { goName := "YawRate", elemType := "float32" }] }

def m_storm32_MessageStorm32GimbalManagerCorrectRoll : GoStruct := { name := "MessageStorm32GimbalManagerCorrectRoll", fields := [
    { goName := "TargetSystem", elemType := "uint8" },
    { goName := "TargetComponent", elemType := "uint8" },
    { goName := "GimbalId", elemType := "uint8" },
    { goName := "Client", elemType := "MAV_STORM32_GIMBAL_MANAGER_CLIENT", elemIsUint64 := true, mavenum := "uint8" },
    { goName := "Roll", elemType := "float32" }] }

def m_storm32_MessageStorm32GimbalManagerInformation : GoStruct := { name := "MessageStorm32GimbalManagerInformation", fields := [
    { goName := "GimbalId", elemType := "uint8" },
    { goName := "DeviceCapFlags", elemType := "GIMBAL_DEVICE_CAP_FLAGS", elemIsUint64 := true, mavenum := "uint32" },
    { goName := "ManagerCapFlags", elemType := "MAV_STORM32_GIMBAL_MANAGER_CAP_FLAGS", elemIsUint64 := true, mavenum := "uint32" },
    { goName := "RollMin", elemType := "float32" },
    { goName := "RollMax", elemType := "float32" },
    { goName := "PitchMin", elemType := "float32" },
    { goName := "PitchMax", elemType := "float32" },
    { goName := "YawMin", elemType := "float32" },
    { goName := "YawMax", elemType := "float32" }] }

def m_storm32_MessageStorm32GimbalManagerStatus : GoStruct := { name := "MessageStorm32GimbalManagerStatus", fields := [
    { goName := "GimbalId", elemType := "uint8" },
    { goName := "Supervisor", elemType := "MAV_STORM32_GIMBAL_MANAGER_CLIENT", elemIsUint64 := true, mavenum := "uint8" },
    { goName := "DeviceFlags", elemType := "GIMBAL_DEVICE_FLAGS", elemIsUint64 := true, mavenum := "uint16" },
    { goName := "ManagerFlags", elemType := "MAV_STORM32_GIMBAL_MANAGER_FLAGS", elemIsUint64 := true, mavenum := "uint16" },
    { goName := "Profile", elemType := "MAV_STORM32_GIMBAL_MANAGER_PROFILE", elemIsUint64 := true, mavenum := "uint8" }] }

def m_test_MessageTestTypes : GoStruct := { name := "MessageTestTypes", fields := [
    { goName := "C", elemType := "string" },
    { goName := "S", elemType := "string", mavlen := "10" },
    { goName := "U8", elemType := "uint8" },
    { goName := "U16", elemType := "uint16" },
    { goName := "U32", elemType := "uint32" },
    { goName := "U64", elemType := "uint64", elemIsUint64 := true },
    { goName := "S8", elemType := "int8" },
    { goName := "S16", elemType := "int16" },
    { goName := "S32", elemType := "int32" },
    { goName := "S64", elemType := "int64" },
    { goName := "F", elemType := "float32" },
    { goName := "D", elemType := "float64" },
    { goName := "U8Array", elemType := "uint8", isArray := true, arrLen := 3 },
    { goName := "U16Array", elemType := "uint16", isArray := true, arrLen := 3 },
    { goName := "U32Array", elemType := "uint32", isArray := true, arrLen := 3 },
    { goName := "U64Array", elemType := "uint64", isArray := true, arrLen := 3, elemIsUint64 := true },
    { goName := "S8Array", elemType := "int8", isArray := true, arrLen := 3 },
    { goName := "S16Array", elemType := "int16", isArray := true, arrLen := 3 },
    { goName := "S32Array", elemType := "int32", isArray := true, arrLen := 3 },
    { goName := "S64Array", elemType := "int64", isArray := true, arrLen := 3 },
    { goName := "FArray", elemType := "float32", isArray := true, arrLen := 3 },
    { goName := "DArray", elemType := "float64", isArray := true, arrLen := 3 }] }

def m_ualberta_MessageNavFilterBias : GoStruct := { name := "MessageNavFilterBias", fields := [
    { goName := "Usec", elemType := "uint64", elemIsUint64 := true },
    { goName := "Accel_0", elemType := "float32" },
    { goName := "Accel_1", elemType := "float32" },
    { goName := "Accel_2", elemType := "float32" },
    { goName := "Gyro_0", elemType := "float32" },
    { goName := "Gyro_1", elemType := "float32" },
    { goName := "Gyro_2", elemType := "float32" }] }

def m_ualberta_MessageRadioCalibration : GoStruct := { name := "MessageRadioCalibration", fields := [
    { goName := "Aileron", elemType := "uint16", isArray := true, arrLen := 3 },
    { goName := "Elevator", elemType := "uint16", isArray := true, arrLen := 3 },
    { goName := "Rudder", elemType := "uint16", isArray := true, arrLen := 3 },
    { goName := "Gyro", elemType := "uint16", isArray := true, arrLen := 2 },
    { goName := "Pitch", elemType := "uint16", isArray := true, arrLen := 5 },
    { goName := "Throttle", elemType := "uint16", isArray := true, arrLen := 5 }] }

def m_ualberta_MessageUalbertaSysStatus : GoStruct := { name := "MessageUalbertaSysStatus", fields := [
    { goName := "Mode", elemType := "uint8" },
    { goName := "NavMode", elemType := "uint8" },
    { goName := "Pilot", elemType := "uint8" }] }

def m_uavionix_MessageUavionixAdsbGet : GoStruct := { name := "MessageUavionixAdsbGet", fields := [
    { goName := "Reqmessageid", elemType := "uint32", mavname := "ReqMessageId" }] }

def m_uavionix_MessageUavionixAdsbOutCfg : GoStruct := { name := "MessageUavionixAdsbOutCfg", fields := [
    { goName := "Icao", elemType := "uint32", mavname := "ICAO" },
    { goName := "Callsign", elemType := "string", mavlen := "9" },
    { goName := "Emittertype", elemType := "ADSB_EMITTER_TYPE", elemIsUint64 := true, mavenum := "uint8", mavname := "emitterType" },
    { goName := "Aircraftsize", elemType := "UAVIONIX_ADSB_OUT_CFG_AIRCRAFT_SIZE", elemIsUint64 := true, mavenum := "uint8", mavname := "aircraftSize" },
    { goName := "Gpsoffsetlat", elemType := "UAVIONIX_ADSB_OUT_CFG_GPS_OFFSET_LAT", elemIsUint64 := true, mavenum := "uint8", mavname := "gpsOffsetLat" },
    { goName := "Gpsoffsetlon", elemType := "UAVIONIX_ADSB_OUT_CFG_GPS_OFFSET_LON", elemIsUint64 := true, mavenum := "uint8", mavname := "gpsOffsetLon" },
    { goName := "Stallspeed", elemType := "uint16", mavname := "stallSpeed" },
    { goName := "Rfselect", elemType := "UAVIONIX_ADSB_OUT_RF_SELECT", elemIsUint64 := true, mavenum := "uint8", mavname := "rfSelect" }] }

def m_uavionix_MessageUavionixAdsbOutCfgFlightid : GoStruct := { name := "MessageUavionixAdsbOutCfgFlightid", fields := [
    { goName := "FlightId", elemType := "string", mavlen := "9" }] }

def m_uavionix_MessageUavionixAdsbOutCfgRegistration : GoStruct := { name := "MessageUavionixAdsbOutCfgRegistration", fields := [
    { goName := "Registration", elemType := "string", mavlen := "9" }] }

def m_uavionix_MessageUavionixAdsbOutControl : GoStruct := { name := "MessageUavionixAdsbOutControl", fields := [
    { goName := "State", elemType := "UAVIONIX_ADSB_OUT_CONTROL_STATE", elemIsUint64 := true, mavenum := "uint8" },
    { goName := "Baroaltmsl", elemType := "int32", mavname := "baroAltMSL" },
    { goName := "Squawk", elemType := "uint16" },
    { goName := "Emergencystatus", elemType := "UAVIONIX_ADSB_EMERGENCY_STATUS", elemIsUint64 := true, mavenum := "uint8", mavname := "emergencyStatus" },
    { goName := "FlightId", elemType := "string", mavlen := "8" },
    { goName := "XBit", elemType := "UAVIONIX_ADSB_XBIT", elemIsUint64 := true, mavenum := "uint8" }] }

def m_uavionix_MessageUavionixAdsbOutDynamic : GoStruct := { name := "MessageUavionixAdsbOutDynamic", fields := [
    { goName := "Utctime", elemType := "uint32", mavname := "utcTime" },
    { goName := "Gpslat", elemType := "int32", mavname := "gpsLat" },
    { goName := "Gpslon", elemType := "int32", mavname := "gpsLon" },
    { goName := "Gpsalt", elemType := "int32", mavname := "gpsAlt" },
    { goName := "Gpsfix", elemType := "UAVIONIX_ADSB_OUT_DYNAMIC_GPS_FIX", elemIsUint64 := true, mavenum := "uint8", mavname := "gpsFix" },
    { goName := "Numsats", elemType := "uint8", mavname := "numSats" },
    { goName := "Baroaltmsl", elemType := "int32", mavname := "baroAltMSL" },
    { goName := "Accuracyhor", elemType := "uint32", mavname := "accuracyHor" },
    { goName := "Accuracyvert", elemType := "uint16", mavname := "accuracyVert" },
    { goName := "Accuracyvel", elemType := "uint16", mavname := "accuracyVel" },
    { goName := "Velvert", elemType := "int16", mavname := "velVert" },
    { goName := "Velns", elemType := "int16", mavname := "velNS" },
    { goName := "Velew", elemType := "int16", mavname := "VelEW" },
    { goName := "Emergencystatus", elemType := "UAVIONIX_ADSB_EMERGENCY_STATUS", elemIsUint64 := true, mavenum := "uint8", mavname := "emergencyStatus" },
    { goName := "State", elemType := "UAVIONIX_ADSB_OUT_DYNAMIC_STATE", elemIsUint64 := true, mavenum := "uint16" },
    { goName := "Squawk", elemType := "uint16" }] }

def m_uavionix_MessageUavionixAdsbOutStatus : GoStruct := { name := "MessageUavionixAdsbOutStatus", fields := [
    { goName := "State", elemType := "UAVIONIX_ADSB_OUT_STATUS_STATE", elemIsUint64 := true, mavenum := "uint8" },
    { goName := "Squawk", elemType := "uint16" },
    { goName := "NicNacp", elemType := "UAVIONIX_ADSB_OUT_STATUS_NIC_NACP", elemIsUint64 := true, mavenum := "uint8", mavname := "NIC_NACp" },
    { goName := "Boardtemp", elemType := "uint8", mavname := "boardTemp" },
    { goName := "Fault", elemType := "UAVIONIX_ADSB_OUT_STATUS_FAULT", elemIsUint64 := true, mavenum := "uint8" },
    { goName := "FlightId", elemType := "string", mavlen := "8" }] }

def m_uavionix_MessageUavionixAdsbTransceiverHealthReport : GoStruct := { name := "MessageUavionixAdsbTransceiverHealthReport", fields := [
    { goName := "Rfhealth", elemType := "UAVIONIX_ADSB_RF_HEALTH", elemIsUint64 := true, mavenum := "uint8", mavname := "rfHealth" }] }

def msgs_16 : List (String × Nat × GoStruct) := [
  ("pythonarraytest", 17155, m_pythonarraytest_MessageArrayTest_5),
  ("pythonarraytest", 17156, m_pythonarraytest_MessageArrayTest_6),
  ("pythonarraytest", 17157, m_pythonarraytest_MessageArrayTest_7),
  ("pythonarraytest", 17158, m_pythonarraytest_MessageArrayTest_8),
  ("storm32", 60040, m_storm32_MessageFrskyPassthroughArray),
  ("storm32", 60041, m_storm32_MessageParamValueArray),
  ("storm32", 60020, m_storm32_MessageQshotStatus),
  ("storm32", 60012, m_storm32_MessageStorm32GimbalManagerControl),
  ("storm32", 60013, m_storm32_MessageStorm32GimbalManagerControlPitchyaw),
  ("storm32", 60014, m_storm32_MessageStorm32GimbalManagerCorrectRoll),
  ("storm32", 60010, m_storm32_MessageStorm32GimbalManagerInformation),
  ("storm32", 60011, m_storm32_MessageStorm32GimbalManagerStatus),
  ("test", 17000, m_test_MessageTestTypes),
  ("ualberta", 220, m_ualberta_MessageNavFilterBias),
  ("ualberta", 221, m_ualberta_MessageRadioCalibration),
  ("ualberta", 222, m_ualberta_MessageUalbertaSysStatus),
  ("uavionix", 10006, m_uavionix_MessageUavionixAdsbGet),
  ("uavionix", 10001, m_uavionix_MessageUavionixAdsbOutCfg),
  ("uavionix", 10005, m_uavionix_MessageUavionixAdsbOutCfgFlightid),
  ("uavionix", 10004, m_uavionix_MessageUavionixAdsbOutCfgRegistration),
  ("uavionix", 10007, m_uavionix_MessageUavionixAdsbOutControl),
  ("uavionix", 10002, m_uavionix_MessageUavionixAdsbOutDynamic),
  ("uavionix", 10008, m_uavionix_MessageUavionixAdsbOutStatus),
  ("uavionix", 10003, m_uavionix_MessageUavionixAdsbTransceiverHealthReport)]

end Mav.Gen
