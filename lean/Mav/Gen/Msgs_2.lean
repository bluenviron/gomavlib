-- GENERATED by tools/extract from pkg/dialects/*/message_*.go — do not edit
import Mav.Model.Msg
namespace Mav.Gen
open Mav.Msg

def m_ardupilotmega_MessageMountConfigure : GoStruct := { name := "MessageMountConfigure", fields := [
    { goName := "TargetSystem", elemType := "uint8" },
    { goName := "TargetComponent", elemType := "uint8" },
    { goName := "MountMode", elemType := "MAV_MOUNT_MODE", elemIsUint64 := true, mavenum := "uint8" },
    { goName := "StabRoll", elemType := "uint8" },
    { goName := "StabPitch", elemType := "uint8" },
    { goName := "StabYaw", elemType := "uint8" }] }

def m_ardupilotmega_MessageMountControl : GoStruct := { name := "MessageMountControl", fields := [
    { goName := "TargetSystem", elemType := "uint8" },
    { goName := "TargetComponent", elemType := "uint8" },
    { goName := "InputA", elemType := "int32" },
    { goName := "InputB", elemType := "int32" },
    { goName := "InputC", elemType := "int32" },
    { goName := "SavePosition", elemType := "uint8" }] }

def m_ardupilotmega_MessageMountStatus : GoStruct := { name := "MessageMountStatus", fields := [
    { goName := "TargetSystem", elemType := "uint8" },
    { goName := "TargetComponent", elemType := "uint8" },
    { goName := "PointingA", elemType := "int32" },
    { goName := "PointingB", elemType := "int32" },
    { goName := "PointingC", elemType := "int32" },
    { goName := "MountMode", elemType := "MAV_MOUNT_MODE", elemIsUint64 := true, mavenum := "uint8", mavext := "true" }] }

def m_ardupilotmega_MessageObstacleDistance_3d : GoStruct := { name := "MessageObstacleDistance_3d", fields := [
    { goName := "TimeBootMs", elemType := "uint32" },
    { goName := "SensorType", elemType := "MAV_DISTANCE_SENSOR", elemIsUint64 := true, mavenum := "uint8" },
    { goName := "Frame", elemType := "MAV_FRAME", elemIsUint64 := true, mavenum := "uint8" },
    { goName := "ObstacleId", elemType := "uint16" },
    { goName := "X", elemType := "float32" },
    { goName := "Y", elemType := "float32" },
    { goName := "Z", elemType := "float32" },
    { goName := "MinDistance", elemType := "float32" },
    { goName := "MaxDistance", elemType := "float32" }] }

def m_ardupilotmega_MessageOsdParamConfig : GoStruct := { name := "MessageOsdParamConfig", fields := [
    { goName := "TargetSystem", elemType := "uint8" },
    { goName := "TargetComponent", elemType := "uint8" },
    { goName := "RequestId", elemType := "uint32" },
    { goName := "OsdScreen", elemType := "uint8" },
    { goName := "OsdIndex", elemType := "uint8" },
    { goName := "ParamId", elemType := "string", mavlen := "16" },
    { goName := "ConfigType", elemType := "OSD_PARAM_CONFIG_TYPE", elemIsUint64 := true, mavenum := "uint8" },
    { goName := "MinValue", elemType := "float32" },
    { goName := "MaxValue", elemType := "float32" },
    { goName := "Increment", elemType := "float32" }] }

def m_ardupilotmega_MessageOsdParamConfigReply : GoStruct := { name := "MessageOsdParamConfigReply", fields := [
    { goName := "RequestId", elemType := "uint32" },
    { goName := "Result", elemType := "OSD_PARAM_CONFIG_ERROR", elemIsUint64 := true, mavenum := "uint8" }] }

def m_ardupilotmega_MessageOsdParamShowConfig : GoStruct := { name := "MessageOsdParamShowConfig", fields := [
    { goName := "TargetSystem", elemType := "uint8" },
    { goName := "TargetComponent", elemType := "uint8" },
    { goName := "RequestId", elemType := "uint32" },
    { goName := "OsdScreen", elemType := "uint8" },
    { goName := "OsdIndex", elemType := "uint8" }] }

def m_ardupilotmega_MessageOsdParamShowConfigReply : GoStruct := { name := "MessageOsdParamShowConfigReply", fields := [
    { goName := "RequestId", elemType := "uint32" },
    { goName := "Result", elemType := "OSD_PARAM_CONFIG_ERROR", elemIsUint64 := true, mavenum := "uint8" },
    { goName := "ParamId", elemType := "string", mavlen := "16" },
    { goName := "ConfigType", elemType := "OSD_PARAM_CONFIG_TYPE", elemIsUint64 := true, mavenum := "uint8" },
    { goName := "MinValue", elemType := "float32" },
    { goName := "MaxValue", elemType := "float32" },
    { goName := "Increment", elemType := "float32" }] }

def m_ardupilotmega_MessagePidTuning : GoStruct := { name := "MessagePidTuning", fields := [
    { goName := "Axis", elemType := "PID_TUNING_AXIS", elemIsUint64 := true, mavenum := "uint8" },
    { goName := "Desired", elemType := "float32" },
    { goName := "Achieved", elemType := "float32" },
    { goName := "Ff", elemType := "float32", mavname := "FF" },
    { goName := "P", elemType := "float32", mavname := "P" },
    { goName := "I", elemType := "float32", mavname := "I" },
    { goName := "D", elemType := "float32", mavname := "D" },
    { goName := "Srate", elemType := "float32", mavext := "true", mavname := "SRate" },
    { goName := "Pdmod", elemType := "float32", mavext := "true", mavname := "PDmod" }] }

def m_ardupilotmega_MessageRadio : GoStruct := { name := "MessageRadio", fields := [
    { goName := "Rssi", elemType := "uint8" },
    { goName := "Remrssi", elemType := "uint8" },
    { goName := "Txbuf", elemType := "uint8" },
    { goName := "Noise", elemType := "uint8" },
    { goName := "Remnoise", elemType := "uint8" },
    { goName := "Rxerrors", elemType := "uint16" },
    { goName := "Fixed", elemType := "uint16" }] }

def m_ardupilotmega_MessageRallyFetchPoint : GoStruct := { name := "MessageRallyFetchPoint", fields := [
    { goName := "TargetSystem", elemType := "uint8" },
    { goName := "TargetComponent", elemType := "uint8" },
    { goName := "Idx", elemType := "uint8" }] }

def m_ardupilotmega_MessageRallyPoint : GoStruct := { name := "MessageRallyPoint", fields := [
    { goName := "TargetSystem", elemType := "uint8" },
    { goName := "TargetComponent", elemType := "uint8" },
    { goName := "Idx", elemType := "uint8" },
    { goName := "Count", elemType := "uint8" },
    { goName := "Lat", elemType := "int32" },
    { goName := "Lng", elemType := "int32" },
    { goName := "Alt", elemType := "int16" },
    { goName := "BreakAlt", elemType := "int16" },
    { goName := "LandDir", elemType := "uint16" },
    { goName := "Flags", elemType := "RALLY_FLAGS", elemIsUint64 := true, mavenum := "uint8" }] }

def m_ardupilotmega_MessageRangefinder : GoStruct := { name := "MessageRangefinder", fields := [
    { goName := "Distance", elemType := "float32" },
    { goName := "Voltage", elemType := "float32" }] }

def m_ardupilotmega_MessageRemoteLogBlockStatus : GoStruct := { name := "MessageRemoteLogBlockStatus", fields := [
    { goName := "TargetSystem", elemType := "uint8" },
    { goName := "TargetComponent", elemType := "uint8" },
    { goName := "Seqno", elemType := "uint32" },
    { goName := "Status", elemType := "MAV_REMOTE_LOG_DATA_BLOCK_STATUSES", elemIsUint64 := true, mavenum := "uint8" }] }

def m_ardupilotmega_MessageRemoteLogDataBlock : GoStruct := { name := "MessageRemoteLogDataBlock", fields := [
    { goName := "TargetSystem", elemType := "uint8" },
    { goName := "TargetComponent", elemType := "uint8" },
    { goName := "Seqno", elemType := "MAV_REMOTE_LOG_DATA_BLOCK_COMMANDS", elemIsUint64 := true, mavenum := "uint32" },
    { goName := "Data", elemType := "uint8", isArray := true, arrLen := 200 }] }

def m_ardupilotmega_MessageRpm : GoStruct := { name := "MessageRpm", fields := [
    { goName := "Rpm1", elemType := "float32" },
    { goName := "Rpm2", elemType := "float32" }] }

def m_ardupilotmega_MessageSecureCommand : GoStruct := { name := "MessageSecureCommand", fields := [
    { goName := "TargetSystem", elemType := "uint8" },
    { goName := "TargetComponent", elemType := "uint8" },
    { goName := "Sequence", elemType := "uint32" },
    { goName := "Operation", elemType := "SECURE_COMMAND_OP", elemIsUint64 := true, mavenum := "uint32" },
    { goName := "DataLength", elemType := "uint8" },
    { goName := "SigLength", elemType := "uint8" },
    { goName := "Data", elemType := "uint8", isArray := true, arrLen := 220 }] }

def m_ardupilotmega_MessageSecureCommandReply : GoStruct := { name := "MessageSecureCommandReply", fields := [
    { goName := "Sequence", elemType := "uint32" },
    { goName := "Operation", elemType := "SECURE_COMMAND_OP", elemIsUint64 := true, mavenum := "uint32" },
    { goName := "Result", elemType := "MAV_RESULT", elemIsUint64 := true, mavenum := "uint8" },
    { goName := "DataLength", elemType := "uint8" },
    { goName := "Data", elemType := "uint8", isArray := true, arrLen := 220 }] }

def m_ardupilotmega_MessageSensorOffsets : GoStruct := { name := "MessageSensorOffsets", fields := [
    { goName := "MagOfsX", elemType := "int16" },
    { goName := "MagOfsY", elemType := "int16" },
    { goName := "MagOfsZ", elemType := "int16" },
    { goName := "MagDeclination", elemType := "float32" },
    { goName := "RawPress", elemType := "int32" },
    { goName := "RawTemp", elemType := "int32" },
    { goName := "GyroCalX", elemType := "float32" },
    { goName := "GyroCalY", elemType := "float32" },
    { goName := "GyroCalZ", elemType := "float32" },
    { goName := "AccelCalX", elemType := "float32" },
    { goName := "AccelCalY", elemType := "float32" },
    { goName := "AccelCalZ", elemType := "float32" }] }

def m_ardupilotmega_MessageSetMagOffsets : GoStruct := { name := "MessageSetMagOffsets", fields := [
    { goName := "TargetSystem", elemType := "uint8" },
    { goName := "TargetComponent", elemType := "uint8" },
    { goName := "MagOfsX", elemType := "int16" },
    { goName := "MagOfsY", elemType := "int16" },
    { goName := "MagOfsZ", elemType := "int16" }] }

def m_ardupilotmega_MessageSimstate : GoStruct := { name := "MessageSimstate", fields := [
    { goName := "Roll", elemType := "float32" },
    { goName := "Pitch", elemType := "float32" },
    { goName := "Yaw", elemType := "float32" },
    { goName := "Xacc", elemType := "float32" },
    { goName := "Yacc", elemType := "float32" },
    { goName := "Zacc", elemType := "float32" },
    { goName := "Xgyro", elemType := "float32" },
    { goName := "Ygyro", elemType := "float32" },
    { goName := "Zgyro", elemType := "float32" },
    { goName := "Lat", elemType := "int32" },
    { goName := "Lng", elemType := "int32" }] }

def m_ardupilotmega_MessageVisionPositionDelta : GoStruct := { name := "MessageVisionPositionDelta", fields := [
    { goName := "TimeUsec", elemType := "uint64", elemIsUint64 := true },
    { goName := "TimeDeltaUsec", elemType := "uint64", elemIsUint64 := true },
    { goName := "AngleDelta", elemType := "float32", isArray := true, arrLen := 3 },
    { goName := "PositionDelta", elemType := "float32", isArray := true, arrLen := 3 },
    { goName := "Confidence", elemType := "float32" }] }

def m_ardupilotmega_MessageWaterDepth : GoStruct := { name := "MessageWaterDepth", fields := [
    { goName := "TimeBootMs", elemType := "uint32" },
    { goName := "Id", elemType := "uint8" },
    { goName := "Healthy", elemType := "uint8" },
    { goName := "Lat", elemType := "int32" },
    { goName := "Lng", elemType := "int32" },
    { goName := "Alt", elemType := "float32" },
    { goName := "Roll", elemType := "float32" },
    { goName := "Pitch", elemType := "float32" },
    { goName := "Yaw", elemType := "float32" },
    { goName := "Distance", elemType := "float32" },
    { goName := "Temperature", elemType := "float32" }] }

def m_ardupilotmega_MessageWind : GoStruct := { name := "MessageWind", fields := [
    { goName := "Direction", elemType := "float32" },
    { goName := "Speed", elemType := "float32" },
    { goName := "SpeedZ", elemType := "float32" }] }

def msgs_2 : List (String × Nat × GoStruct) := [
  ("ardupilotmega", 156, m_ardupilotmega_MessageMountConfigure),
  ("ardupilotmega", 157, m_ardupilotmega_MessageMountControl),
  ("ardupilotmega", 158, m_ardupilotmega_MessageMountStatus),
  ("ardupilotmega", 11037, m_ardupilotmega_MessageObstacleDistance_3d),
  ("ardupilotmega", 11033, m_ardupilotmega_MessageOsdParamConfig),
  ("ardupilotmega", 11034, m_ardupilotmega_MessageOsdParamConfigReply),
  ("ardupilotmega", 11035, m_ardupilotmega_MessageOsdParamShowConfig),
  ("ardupilotmega", 11036, m_ardupilotmega_MessageOsdParamShowConfigReply),
  ("ardupilotmega", 194, m_ardupilotmega_MessagePidTuning),
  ("ardupilotmega", 166, m_ardupilotmega_MessageRadio),
  ("ardupilotmega", 176, m_ardupilotmega_MessageRallyFetchPoint),
  ("ardupilotmega", 175, m_ardupilotmega_MessageRallyPoint),
  ("ardupilotmega", 173, m_ardupilotmega_MessageRangefinder),
  ("ardupilotmega", 185, m_ardupilotmega_MessageRemoteLogBlockStatus),
  ("ardupilotmega", 184, m_ardupilotmega_MessageRemoteLogDataBlock),
  ("ardupilotmega", 226, m_ardupilotmega_MessageRpm),
  ("ardupilotmega", 11004, m_ardupilotmega_MessageSecureCommand),
  ("ardupilotmega", 11005, m_ardupilotmega_MessageSecureCommandReply),
  ("ardupilotmega", 150, m_ardupilotmega_MessageSensorOffsets),
  ("ardupilotmega", 151, m_ardupilotmega_MessageSetMagOffsets),
  ("ardupilotmega", 164, m_ardupilotmega_MessageSimstate),
  ("ardupilotmega", 11011, m_ardupilotmega_MessageVisionPositionDelta),
  ("ardupilotmega", 11038, m_ardupilotmega_MessageWaterDepth),
  ("ardupilotmega", 168, m_ardupilotmega_MessageWind)]

end Mav.Gen
