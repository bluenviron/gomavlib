-- GENERATED by tools/extract from pkg/dialects/*/message_*.go — do not edit
import Mav.Model.Msg
namespace Mav.Gen
open Mav.Msg

def m_asluav_MessageAslObctrl : GoStruct := { name := "MessageAslObctrl", fields := [
    { goName := "Timestamp", elemType := "uint64", elemIsUint64 := true },
    { goName := "Uelev", elemType := "float32", mavname := "uElev" },
    { goName := "Uthrot", elemType := "float32", mavname := "uThrot" },
    { goName := "Uthrot2", elemType := "float32", mavname := "uThrot2" },
    { goName := "Uaill", elemType := "float32", mavname := "uAilL" },
    { goName := "Uailr", elemType := "float32", mavname := "uAilR" },
    { goName := "Urud", elemType := "float32", mavname := "uRud" },
    { goName := "ObctrlStatus", elemType := "uint8" }] }

def m_asluav_MessageAslctrlData : GoStruct := { name := "MessageAslctrlData", fields := [
    { goName := "Timestamp", elemType := "uint64", elemIsUint64 := true },
    { goName := "AslctrlMode", elemType := "uint8" },
    { goName := "H", elemType := "float32" },
    { goName := "Href", elemType := "float32", mavname := "hRef" },
    { goName := "HrefT", elemType := "float32", mavname := "hRef_t" },
    { goName := "Pitchangle", elemType := "float32", mavname := "PitchAngle" },
    { goName := "Pitchangleref", elemType := "float32", mavname := "PitchAngleRef" },
    { goName := "Q", elemType := "float32" },
    { goName := "Qref", elemType := "float32", mavname := "qRef" },
    { goName := "Uelev", elemType := "float32", mavname := "uElev" },
    { goName := "Uthrot", elemType := "float32", mavname := "uThrot" },
    { goName := "Uthrot2", elemType := "float32", mavname := "uThrot2" },
    { goName := "Nz", elemType := "float32", mavname := "nZ" },
    { goName := "Airspeedref", elemType := "float32", mavname := "AirspeedRef" },
    { goName := "Spoilersengaged", elemType := "uint8", mavname := "SpoilersEngaged" },
    { goName := "Yawangle", elemType := "float32", mavname := "YawAngle" },
    { goName := "Yawangleref", elemType := "float32", mavname := "YawAngleRef" },
    { goName := "Rollangle", elemType := "float32", mavname := "RollAngle" },
    { goName := "Rollangleref", elemType := "float32", mavname := "RollAngleRef" },
    { goName := "P", elemType := "float32" },
    { goName := "Pref", elemType := "float32", mavname := "pRef" },
    { goName := "R", elemType := "float32" },
    { goName := "Rref", elemType := "float32", mavname := "rRef" },
    { goName := "Uail", elemType := "float32", mavname := "uAil" },
    { goName := "Urud", elemType := "float32", mavname := "uRud" }] }

def m_asluav_MessageAslctrlDebug : GoStruct := { name := "MessageAslctrlDebug", fields := [
    { goName := "I32_1", elemType := "uint32" },
    { goName := "I8_1", elemType := "uint8" },
    { goName := "I8_2", elemType := "uint8" },
    { goName := "F_1", elemType := "float32" },
    { goName := "F_2", elemType := "float32" },
    { goName := "F_3", elemType := "float32" },
    { goName := "F_4", elemType := "float32" },
    { goName := "F_5", elemType := "float32" },
    { goName := "F_6", elemType := "float32" },
    { goName := "F_7", elemType := "float32" },
    { goName := "F_8", elemType := "float32" }] }

def m_asluav_MessageAsluavStatus : GoStruct := { name := "MessageAsluavStatus", fields := [
    { goName := "LedStatus", elemType := "uint8", mavname := "LED_status" },
    { goName := "SatcomStatus", elemType := "uint8", mavname := "SATCOM_status" },
    { goName := "ServoStatus", elemType := "uint8", isArray := true, arrLen := 8, mavname := "Servo_status" },
    { goName := "MotorRpm", elemType := "float32", mavname := "Motor_rpm" }] }

def m_asluav_MessageCommandIntStamped : GoStruct := { name := "MessageCommandIntStamped", fields := [
    { goName := "UtcTime", elemType := "uint32" },
    { goName := "VehicleTimestamp", elemType := "uint64", elemIsUint64 := true },
    { goName := "TargetSystem", elemType := "uint8" },
    { goName := "TargetComponent", elemType := "uint8" },
    { goName := "Frame", elemType := "MAV_FRAME", elemIsUint64 := true, mavenum := "uint8" },
    { goName := "Command", elemType := "MAV_CMD", elemIsUint64 := true, mavenum := "uint16" },
    { goName := "Current", elemType := "uint8" },
    { goName := "Autocontinue", elemType := "uint8" },
    { goName := "Param1", elemType := "float32" },
    { goName := "Param2", elemType := "float32" },
    { goName := "Param3", elemType := "float32" },
    { goName := "Param4", elemType := "float32" },
    { goName := "X", elemType := "int32" },
    { goName := "Y", elemType := "int32" },
    { goName := "Z", elemType := "float32" }] }

def m_asluav_MessageCommandLongStamped : GoStruct := { name := "MessageCommandLongStamped", fields := [
    { goName := "UtcTime", elemType := "uint32" },
    { goName := "VehicleTimestamp", elemType := "uint64", elemIsUint64 := true },
    { goName := "TargetSystem", elemType := "uint8" },
    { goName := "TargetComponent", elemType := "uint8" },
    { goName := "Command", elemType := "MAV_CMD", elemIsUint64 := true, mavenum := "uint16" },
    { goName := "Confirmation", elemType := "uint8" },
    { goName := "Param1", elemType := "float32" },
    { goName := "Param2", elemType := "float32" },
    { goName := "Param3", elemType := "float32" },
    { goName := "Param4", elemType := "float32" },
    { goName := "Param5", elemType := "float32" },
    { goName := "Param6", elemType := "float32" },
    { goName := "Param7", elemType := "float32" }] }

def m_asluav_MessageEkfExt : GoStruct := { name := "MessageEkfExt", fields := [
    { goName := "Timestamp", elemType := "uint64", elemIsUint64 := true },
    { goName := "Windspeed", elemType := "float32", mavname := "Windspeed" },
    { goName := "Winddir", elemType := "float32", mavname := "WindDir" },
    { goName := "Windz", elemType := "float32", mavname := "WindZ" },
    { goName := "Airspeed", elemType := "float32", mavname := "Airspeed" },
    { goName := "Beta", elemType := "float32" },
    { goName := "Alpha", elemType := "float32" }] }

def m_asluav_MessageFwSoaringData : GoStruct := { name := "MessageFwSoaringData", fields := [
    { goName := "Timestamp", elemType := "uint64", elemIsUint64 := true },
    { goName := "Timestampmodechanged", elemType := "uint64", elemIsUint64 := true, mavname := "timestampModeChanged" },
    { goName := "Xw", elemType := "float32", mavname := "xW" },
    { goName := "Xr", elemType := "float32", mavname := "xR" },
    { goName := "Xlat", elemType := "float32", mavname := "xLat" },
    { goName := "Xlon", elemType := "float32", mavname := "xLon" },
    { goName := "Varw", elemType := "float32", mavname := "VarW" },
    { goName := "Varr", elemType := "float32", mavname := "VarR" },
    { goName := "Varlat", elemType := "float32", mavname := "VarLat" },
    { goName := "Varlon", elemType := "float32", mavname := "VarLon" },
    { goName := "Loiterradius", elemType := "float32", mavname := "LoiterRadius" },
    { goName := "Loiterdirection", elemType := "float32", mavname := "LoiterDirection" },
    { goName := "Disttosoarpoint", elemType := "float32", mavname := "DistToSoarPoint" },
    { goName := "Vsinkexp", elemType := "float32", mavname := "vSinkExp" },
    { goName := "Z1Localupdraftspeed", elemType := "float32", mavname := "z1_LocalUpdraftSpeed" },
    { goName := "Z2Deltaroll", elemType := "float32", mavname := "z2_DeltaRoll" },
    { goName := "Z1Exp", elemType := "float32" },
    { goName := "Z2Exp", elemType := "float32" },
    { goName := "Thermalgsnorth", elemType := "float32", mavname := "ThermalGSNorth" },
    { goName := "Thermalgseast", elemType := "float32", mavname := "ThermalGSEast" },
    { goName := "TseDot", elemType := "float32", mavname := "TSE_dot" },
    { goName := "Debugvar1", elemType := "float32", mavname := "DebugVar1" },
    { goName := "Debugvar2", elemType := "float32", mavname := "DebugVar2" },
    { goName := "Controlmode", elemType := "uint8", mavname := "ControlMode" },
    { goName := "Valid", elemType := "uint8" }] }

def m_asluav_MessageGsmLinkStatus : GoStruct := { name := "MessageGsmLinkStatus", fields := [
    { goName := "Timestamp", elemType := "uint64", elemIsUint64 := true },
    { goName := "GsmModemType", elemType := "GSM_MODEM_TYPE", elemIsUint64 := true, mavenum := "uint8" },
    { goName := "GsmLinkType", elemType := "GSM_LINK_TYPE", elemIsUint64 := true, mavenum := "uint8" },
    { goName := "Rssi", elemType := "uint8" },
    { goName := "RsrpRscp", elemType := "uint8" },
    { goName := "SinrEcio", elemType := "uint8" },
    { goName := "Rsrq", elemType := "uint8" }] }

def m_asluav_MessageSatcomLinkStatus : GoStruct := { name := "MessageSatcomLinkStatus", fields := [
    { goName := "Timestamp", elemType := "uint64", elemIsUint64 := true },
    { goName := "LastHeartbeat", elemType := "uint64", elemIsUint64 := true },
    { goName := "FailedSessions", elemType := "uint16" },
    { goName := "SuccessfulSessions", elemType := "uint16" },
    { goName := "SignalQuality", elemType := "uint8" },
    { goName := "RingPending", elemType := "uint8" },
    { goName := "TxSessionPending", elemType := "uint8" },
    { goName := "RxSessionPending", elemType := "uint8" }] }

def m_asluav_MessageSensAtmos : GoStruct := { name := "MessageSensAtmos", fields := [
    { goName := "Timestamp", elemType := "uint64", elemIsUint64 := true },
    { goName := "Tempambient", elemType := "float32", mavname := "TempAmbient" },
    { goName := "Humidity", elemType := "float32", mavname := "Humidity" }] }

def m_asluav_MessageSensBatmon : GoStruct := { name := "MessageSensBatmon", fields := [
    { goName := "BatmonTimestamp", elemType := "uint64", elemIsUint64 := true },
    { goName := "Temperature", elemType := "float32" },
    { goName := "Voltage", elemType := "uint16" },
    { goName := "Current", elemType := "int16" },
    { goName := "Soc", elemType := "uint8", mavname := "SoC" },
    { goName := "Batterystatus", elemType := "uint16" },
    { goName := "Serialnumber", elemType := "uint16" },
    { goName := "Safetystatus", elemType := "uint32" },
    { goName := "Operationstatus", elemType := "uint32" },
    { goName := "Cellvoltage1", elemType := "uint16" },
    { goName := "Cellvoltage2", elemType := "uint16" },
    { goName := "Cellvoltage3", elemType := "uint16" },
    { goName := "Cellvoltage4", elemType := "uint16" },
    { goName := "Cellvoltage5", elemType := "uint16" },
    { goName := "Cellvoltage6", elemType := "uint16" }] }

def m_asluav_MessageSensMppt : GoStruct := { name := "MessageSensMppt", fields := [
    { goName := "MpptTimestamp", elemType := "uint64", elemIsUint64 := true },
    { goName := "Mppt1Volt", elemType := "float32" },
    { goName := "Mppt1Amp", elemType := "float32" },
    { goName := "Mppt1Pwm", elemType := "uint16" },
    { goName := "Mppt1Status", elemType := "uint8" },
    { goName := "Mppt2Volt", elemType := "float32" },
    { goName := "Mppt2Amp", elemType := "float32" },
    { goName := "Mppt2Pwm", elemType := "uint16" },
    { goName := "Mppt2Status", elemType := "uint8" },
    { goName := "Mppt3Volt", elemType := "float32" },
    { goName := "Mppt3Amp", elemType := "float32" },
    { goName := "Mppt3Pwm", elemType := "uint16" },
    { goName := "Mppt3Status", elemType := "uint8" }] }

def m_asluav_MessageSensPower : GoStruct := { name := "MessageSensPower", fields := [
    { goName := "Adc121VspbVolt", elemType := "float32" },
    { goName := "Adc121CspbAmp", elemType := "float32" },
    { goName := "Adc121Cs1Amp", elemType := "float32" },
    { goName := "Adc121Cs2Amp", elemType := "float32" }] }

def m_asluav_MessageSensPowerBoard : GoStruct := { name := "MessageSensPowerBoard", fields := [
    { goName := "Timestamp", elemType := "uint64", elemIsUint64 := true },
    { goName := "PwrBrdStatus", elemType := "uint8" },
    { goName := "PwrBrdLedStatus", elemType := "uint8" },
    { goName := "PwrBrdSystemVolt", elemType := "float32" },
    { goName := "PwrBrdServoVolt", elemType := "float32" },
    { goName := "PwrBrdDigitalVolt", elemType := "float32" },
    { goName := "PwrBrdMotLAmp", elemType := "float32" },
    { goName := "PwrBrdMotRAmp", elemType := "float32" },
    { goName := "PwrBrdAnalogAmp", elemType := "float32" },
    { goName := "PwrBrdDigitalAmp", elemType := "float32" },
    { goName := "PwrBrdExtAmp", elemType := "float32" },
    { goName := "PwrBrdAuxAmp", elemType := "float32" }] }

def m_asluav_MessageSensorAirflowAngles : GoStruct := { name := "MessageSensorAirflowAngles", fields := [
    { goName := "Timestamp", elemType := "uint64", elemIsUint64 := true },
    { goName := "Angleofattack", elemType := "float32" },
    { goName := "AngleofattackValid", elemType := "uint8" },
    { goName := "Sideslip", elemType := "float32" },
    { goName := "SideslipValid", elemType := "uint8" }] }

def m_asluav_MessageSensorpodStatus : GoStruct := { name := "MessageSensorpodStatus", fields := [
    { goName := "Timestamp", elemType := "uint64", elemIsUint64 := true },
    { goName := "VisensorRate_1", elemType := "uint8" },
    { goName := "VisensorRate_2", elemType := "uint8" },
    { goName := "VisensorRate_3", elemType := "uint8" },
    { goName := "VisensorRate_4", elemType := "uint8" },
    { goName := "RecordingNodesCount", elemType := "uint8" },
    { goName := "CpuTemp", elemType := "uint8" },
    { goName := "FreeSpace", elemType := "uint16" }] }

def m_avssuas_MessageAvssDroneImu : GoStruct := { name := "MessageAvssDroneImu", fields := [
    { goName := "TimeBootMs", elemType := "uint32" },
    { goName := "Q1", elemType := "float32" },
    { goName := "Q2", elemType := "float32" },
    { goName := "Q3", elemType := "float32" },
    { goName := "Q4", elemType := "float32" },
    { goName := "Xacc", elemType := "float32" },
    { goName := "Yacc", elemType := "float32" },
    { goName := "Zacc", elemType := "float32" },
    { goName := "Xgyro", elemType := "float32" },
    { goName := "Ygyro", elemType := "float32" },
    { goName := "Zgyro", elemType := "float32" }] }

def m_avssuas_MessageAvssDroneOperationMode : GoStruct := { name := "MessageAvssDroneOperationMode", fields := [
    { goName := "TimeBootMs", elemType := "uint32" },
    { goName := "M300OperationMode", elemType := "uint8", mavname := "M300_operation_mode" },
    { goName := "HorseflyOperationMode", elemType := "uint8" }] }

def m_avssuas_MessageAvssDronePosition : GoStruct := { name := "MessageAvssDronePosition", fields := [
    { goName := "TimeBootMs", elemType := "uint32" },
    { goName := "Lat", elemType := "int32" },
    { goName := "Lon", elemType := "int32" },
    { goName := "Alt", elemType := "int32" },
    { goName := "GroundAlt", elemType := "float32" },
    { goName := "BarometerAlt", elemType := "float32" }] }

def m_avssuas_MessageAvssPrsSysStatus : GoStruct := { name := "MessageAvssPrsSysStatus", fields := [
    { goName := "TimeBootMs", elemType := "uint32" },
    { goName := "ErrorStatus", elemType := "uint32" },
    { goName := "BatteryStatus", elemType := "uint32" },
    { goName := "ArmStatus", elemType := "uint8" },
    { goName := "ChargeStatus", elemType := "uint8" }] }

def m_common_MessageActuatorControlTarget : GoStruct := { name := "MessageActuatorControlTarget", fields := [
    { goName := "TimeUsec", elemType := "uint64", elemIsUint64 := true },
    { goName := "GroupMlx", elemType := "uint8" },
    { goName := "Controls", elemType := "float32", isArray := true, arrLen := 8 }] }

def m_common_MessageActuatorOutputStatus : GoStruct := { name := "MessageActuatorOutputStatus", fields := [
    { goName := "TimeUsec", elemType := "uint64", elemIsUint64 := true },
    { goName := "Active", elemType := "uint32" },
    { goName := "Actuator", elemType := "float32", isArray := true, arrLen := 32 }] }

def m_common_MessageAdsbVehicle : GoStruct := { name := "MessageAdsbVehicle", fields := [
    { goName := "IcaoAddress", elemType := "uint32", mavname := "ICAO_address" },
    { goName := "Lat", elemType := "int32" },
    { goName := "Lon", elemType := "int32" },
    { goName := "AltitudeType", elemType := "ADSB_ALTITUDE_TYPE", elemIsUint64 := true, mavenum := "uint8" },
    { goName := "Altitude", elemType := "int32" },
    { goName := "Heading", elemType := "uint16" },
    { goName := "HorVelocity", elemType := "uint16" },
    { goName := "VerVelocity", elemType := "int16" },
    { goName := "Callsign", elemType := "string", mavlen := "9" },
    { goName := "EmitterType", elemType := "ADSB_EMITTER_TYPE", elemIsUint64 := true, mavenum := "uint8" },
    { goName := "Tslc", elemType := "uint8" },
    { goName := "Flags", elemType := "ADSB_FLAGS", elemIsUint64 := true, mavenum := "uint16" },
    { goName := "Squawk", elemType := "uint16" }] }

def msgs_3 : List (String × Nat × GoStruct) := [
  ("asluav", 8008, m_asluav_MessageAslObctrl),
  ("asluav", 8004, m_asluav_MessageAslctrlData),
  ("asluav", 8005, m_asluav_MessageAslctrlDebug),
  ("asluav", 8006, m_asluav_MessageAsluavStatus),
  ("asluav", 223, m_asluav_MessageCommandIntStamped),
  ("asluav", 224, m_asluav_MessageCommandLongStamped),
  ("asluav", 8007, m_asluav_MessageEkfExt),
  ("asluav", 8011, m_asluav_MessageFwSoaringData),
  ("asluav", 8014, m_asluav_MessageGsmLinkStatus),
  ("asluav", 8015, m_asluav_MessageSatcomLinkStatus),
  ("asluav", 8009, m_asluav_MessageSensAtmos),
  ("asluav", 8010, m_asluav_MessageSensBatmon),
  ("asluav", 8003, m_asluav_MessageSensMppt),
  ("asluav", 8002, m_asluav_MessageSensPower),
  ("asluav", 8013, m_asluav_MessageSensPowerBoard),
  ("asluav", 8016, m_asluav_MessageSensorAirflowAngles),
  ("asluav", 8012, m_asluav_MessageSensorpodStatus),
  ("avssuas", 60052, m_avssuas_MessageAvssDroneImu),
  ("avssuas", 60053, m_avssuas_MessageAvssDroneOperationMode),
  ("avssuas", 60051, m_avssuas_MessageAvssDronePosition),
  ("avssuas", 60050, m_avssuas_MessageAvssPrsSysStatus),
  ("common", 140, m_common_MessageActuatorControlTarget),
  ("common", 375, m_common_MessageActuatorOutputStatus),
  ("common", 246, m_common_MessageAdsbVehicle)]

end Mav.Gen
