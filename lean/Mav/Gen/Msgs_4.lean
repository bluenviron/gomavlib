-- GENERATED by tools/extract from pkg/dialects/*/message_*.go — do not edit
import Mav.Model.Msg
namespace Mav.Gen
open Mav.Msg

def m_common_MessageAisVessel : GoStruct := { name := "MessageAisVessel", fields := [
    { goName := "Mmsi", elemType := "uint32", mavname := "MMSI" },
    { goName := "Lat", elemType := "int32" },
    { goName := "Lon", elemType := "int32" },
    { goName := "Cog", elemType := "uint16", mavname := "COG" },
    { goName := "Heading", elemType := "uint16" },
    { goName := "Velocity", elemType := "uint16" },
    { goName := "TurnRate", elemType := "int8" },
    { goName := "NavigationalStatus", elemType := "AIS_NAV_STATUS", elemIsUint64 := true, mavenum := "uint8" },
    { goName := "Type", elemType := "AIS_TYPE", elemIsUint64 := true, mavenum := "uint8" },
    { goName := "DimensionBow", elemType := "uint16" },
    { goName := "DimensionStern", elemType := "uint16" },
    { goName := "DimensionPort", elemType := "uint8" },
    { goName := "DimensionStarboard", elemType := "uint8" },
    { goName := "Callsign", elemType := "string", mavlen := "7" },
    { goName := "Name", elemType := "string", mavlen := "20" },
    { goName := "Tslc", elemType := "uint16" },
    { goName := "Flags", elemType := "AIS_FLAGS", elemIsUint64 := true, mavenum := "uint16" }] }

def m_common_MessageAltitude : GoStruct := { name := "MessageAltitude", fields := [
    { goName := "TimeUsec", elemType := "uint64", elemIsUint64 := true },
    { goName := "AltitudeMonotonic", elemType := "float32" },
    { goName := "AltitudeAmsl", elemType := "float32" },
    { goName := "AltitudeLocal", elemType := "float32" },
    { goName := "AltitudeRelative", elemType := "float32" },
    { goName := "AltitudeTerrain", elemType := "float32" },
    { goName := "BottomClearance", elemType := "float32" }] }

def m_common_MessageAttPosMocap : GoStruct := { name := "MessageAttPosMocap", fields := [
    { goName := "TimeUsec", elemType := "uint64", elemIsUint64 := true },
    { goName := "Q", elemType := "float32", isArray := true, arrLen := 4 },
    { goName := "X", elemType := "float32" },
    { goName := "Y", elemType := "float32" },
    { goName := "Z", elemType := "float32" },
    { goName := "Covariance", elemType := "float32", isArray := true, arrLen := 21, mavext := "true" }] }

def m_common_MessageAttitude : GoStruct := { name := "MessageAttitude", fields := [
    { goName := "TimeBootMs", elemType := "uint32" },
    { goName := "Roll", elemType := "float32" },
    { goName := "Pitch", elemType := "float32" },
    { goName := "Yaw", elemType := "float32" },
    { goName := "Rollspeed", elemType := "float32" },
    { goName := "Pitchspeed", elemType := "float32" },
    { goName := "Yawspeed", elemType := "float32" }] }

def m_common_MessageAttitudeQuaternion : GoStruct := { name := "MessageAttitudeQuaternion", fields := [
    { goName := "TimeBootMs", elemType := "uint32" },
    { goName := "Q1", elemType := "float32" },
    { goName := "Q2", elemType := "float32" },
    { goName := "Q3", elemType := "float32" },
    { goName := "Q4", elemType := "float32" },
    { goName := "Rollspeed", elemType := "float32" },
    { goName := "Pitchspeed", elemType := "float32" },
    { goName := "Yawspeed", elemType := "float32" },
    { goName := "ReprOffsetQ", elemType := "float32", isArray := true, arrLen := 4, mavext := "true" }] }

def m_common_MessageAttitudeQuaternionCov : GoStruct := { name := "MessageAttitudeQuaternionCov", fields := [
    { goName := "TimeUsec", elemType := "uint64", elemIsUint64 := true },
    { goName := "Q", elemType := "float32", isArray := true, arrLen := 4 },
    { goName := "Rollspeed", elemType := "float32" },
    { goName := "Pitchspeed", elemType := "float32" },
    { goName := "Yawspeed", elemType := "float32" },
    { goName := "Covariance", elemType := "float32", isArray := true, arrLen := 9 }] }

def m_common_MessageAttitudeTarget : GoStruct := { name := "MessageAttitudeTarget", fields := [
    { goName := "TimeBootMs", elemType := "uint32" },
    { goName := "TypeMask", elemType := "ATTITUDE_TARGET_TYPEMASK", elemIsUint64 := true, mavenum := "uint8" },
    { goName := "Q", elemType := "float32", isArray := true, arrLen := 4 },
    { goName := "BodyRollRate", elemType := "float32" },
    { goName := "BodyPitchRate", elemType := "float32" },
    { goName := "BodyYawRate", elemType := "float32" },
    { goName := "Thrust", elemType := "float32" }] }

def m_common_MessageAuthKey : GoStruct := { name := "MessageAuthKey", fields := [
    { goName := "Key", elemType := "string", mavlen := "32" }] }

def m_common_MessageAutopilotStateForGimbalDevice : GoStruct := { name := "MessageAutopilotStateForGimbalDevice", fields := [
    { goName := "TargetSystem", elemType := "uint8" },
    { goName := "TargetComponent", elemType := "uint8" },
    { goName := "TimeBootUs", elemType := "uint64", elemIsUint64 := true },
    { goName := "Q", elemType := "float32", isArray := true, arrLen := 4 },
    { goName := "QEstimatedDelayUs", elemType := "uint32" },
    { goName := "Vx", elemType := "float32" },
    { goName := "Vy", elemType := "float32" },
    { goName := "Vz", elemType := "float32" },
    { goName := "VEstimatedDelayUs", elemType := "uint32" },
    { goName := "FeedForwardAngularVelocityZ", elemType := "float32" },
    { goName := "EstimatorStatus", elemType := "ESTIMATOR_STATUS_FLAGS", elemIsUint64 := true, mavenum := "uint16" },
    { goName := "LandedState", elemType := "MAV_LANDED_STATE", elemIsUint64 := true, mavenum := "uint8" },
    { goName := "AngularVelocityZ", elemType := "float32", mavext := "true" }] }

def m_common_MessageAutopilotVersion : GoStruct := { name := "MessageAutopilotVersion", fields := [
    { goName := "Capabilities", elemType := "MAV_PROTOCOL_CAPABILITY", elemIsUint64 := true, mavenum := "uint64" },
    { goName := "FlightSwVersion", elemType := "uint32" },
    { goName := "MiddlewareSwVersion", elemType := "uint32" },
    { goName := "OsSwVersion", elemType := "uint32" },
    { goName := "BoardVersion", elemType := "uint32" },
    { goName := "FlightCustomVersion", elemType := "uint8", isArray := true, arrLen := 8 },
    { goName := "MiddlewareCustomVersion", elemType := "uint8", isArray := true, arrLen := 8 },
    { goName := "OsCustomVersion", elemType := "uint8", isArray := true, arrLen := 8 },
    { goName := "VendorId", elemType := "uint16" },
    { goName := "ProductId", elemType := "uint16" },
    { goName := "Uid", elemType := "uint64", elemIsUint64 := true },
    { goName := "Uid2", elemType := "uint8", isArray := true, arrLen := 18, mavext := "true" }] }

def m_common_MessageAvailableModes : GoStruct := { name := "MessageAvailableModes", fields := [
    { goName := "NumberModes", elemType := "uint8" },
    { goName := "ModeIndex", elemType := "uint8" },
    { goName := "StandardMode", elemType := "MAV_STANDARD_MODE", elemIsUint64 := true, mavenum := "uint8" },
    { goName := "CustomMode", elemType := "uint32" },
    { goName := "Properties", elemType := "MAV_MODE_PROPERTY", elemIsUint64 := true, mavenum := "uint32" },
    { goName := "ModeName", elemType := "string", mavlen := "35" }] }

def m_common_MessageAvailableModesMonitor : GoStruct := { name := "MessageAvailableModesMonitor", fields := [
    { goName := "Seq", elemType := "uint8" }] }

def m_common_MessageBatteryInfo : GoStruct := { name := "MessageBatteryInfo", fields := [
    { goName := "Id", elemType := "uint8" },
    { goName := "BatteryFunction", elemType := "MAV_BATTERY_FUNCTION", elemIsUint64 := true, mavenum := "uint8" },
    { goName := "Type", elemType := "MAV_BATTERY_TYPE", elemIsUint64 := true, mavenum := "uint8" },
    { goName := "StateOfHealth", elemType := "uint8" },
    { goName := "CellsInSeries", elemType := "uint8" },
    { goName := "CycleCount", elemType := "uint16" },
    { goName := "Weight", elemType := "uint16" },
    { goName := "DischargeMinimumVoltage", elemType := "float32" },
    { goName := "ChargingMinimumVoltage", elemType := "float32" },
    { goName := "RestingMinimumVoltage", elemType := "float32" },
    { goName := "ChargingMaximumVoltage", elemType := "float32" },
    { goName := "ChargingMaximumCurrent", elemType := "float32" },
    { goName := "NominalVoltage", elemType := "float32" },
    { goName := "DischargeMaximumCurrent", elemType := "float32" },
    { goName := "DischargeMaximumBurstCurrent", elemType := "float32" },
    { goName := "DesignCapacity", elemType := "float32" },
    { goName := "FullChargeCapacity", elemType := "float32" },
    { goName := "ManufactureDate", elemType := "string", mavlen := "9" },
    { goName := "SerialNumber", elemType := "string", mavlen := "32" },
    { goName := "Name", elemType := "string", mavlen := "50" }] }

def m_common_MessageBatteryStatus : GoStruct := { name := "MessageBatteryStatus", fields := [
    { goName := "Id", elemType := "uint8" },
    { goName := "BatteryFunction", elemType := "MAV_BATTERY_FUNCTION", elemIsUint64 := true, mavenum := "uint8" },
    { goName := "Type", elemType := "MAV_BATTERY_TYPE", elemIsUint64 := true, mavenum := "uint8" },
    { goName := "Temperature", elemType := "int16" },
    { goName := "Voltages", elemType := "uint16", isArray := true, arrLen := 10 },
    { goName := "CurrentBattery", elemType := "int16" },
    { goName := "CurrentConsumed", elemType := "int32" },
    { goName := "EnergyConsumed", elemType := "int32" },
    { goName := "BatteryRemaining", elemType := "int8" },
    { goName := "TimeRemaining", elemType := "int32", mavext := "true" },
    { goName := "ChargeState", elemType := "MAV_BATTERY_CHARGE_STATE", elemIsUint64 := true, mavenum := "uint8", mavext := "true" },
    { goName := "VoltagesExt", elemType := "uint16", isArray := true, arrLen := 4, mavext := "true" },
    { goName := "Mode", elemType := "MAV_BATTERY_MODE", elemIsUint64 := true, mavenum := "uint8", mavext := "true" },
    { goName := "FaultBitmask", elemType := "MAV_BATTERY_FAULT", elemIsUint64 := true, mavenum := "uint32", mavext := "true" }] }

def m_common_MessageButtonChange : GoStruct := { name := "MessageButtonChange", fields := [
    { goName := "TimeBootMs", elemType := "uint32" },
    { goName := "LastChangeMs", elemType := "uint32" },
    { goName := "State", elemType := "uint8" }] }

def m_common_MessageCameraCaptureStatus : GoStruct := { name := "MessageCameraCaptureStatus", fields := [
    { goName := "TimeBootMs", elemType := "uint32" },
    { goName := "ImageStatus", elemType := "uint8" },
    { goName := "VideoStatus", elemType := "uint8" },
    { goName := "ImageInterval", elemType := "float32" },
    { goName := "RecordingTimeMs", elemType := "uint32" },
    { goName := "AvailableCapacity", elemType := "float32" },
    { goName := "ImageCount", elemType := "int32", mavext := "true" },
    { goName := "CameraDeviceId", elemType := "uint8", mavext := "true" }] }

def m_common_MessageCameraFovStatus : GoStruct := { name := "MessageCameraFovStatus", fields := [
    { goName := "TimeBootMs", elemType := "uint32" },
    { goName := "LatCamera", elemType := "int32" },
    { goName := "LonCamera", elemType := "int32" },
    { goName := "AltCamera", elemType := "int32" },
    { goName := "LatImage", elemType := "int32" },
    { goName := "LonImage", elemType := "int32" },
    { goName := "AltImage", elemType := "int32" },
    { goName := "Q", elemType := "float32", isArray := true, arrLen := 4 },
    { goName := "Hfov", elemType := "float32" },
    { goName := "Vfov", elemType := "float32" },
    { goName := "CameraDeviceId", elemType := "uint8", mavext := "true" }] }

def m_common_MessageCameraImageCaptured : GoStruct := { name := "MessageCameraImageCaptured", fields := [
    { goName := "TimeBootMs", elemType := "uint32" },
    { goName := "TimeUtc", elemType := "uint64", elemIsUint64 := true },
    { goName := "CameraId", elemType := "uint8" },
    { goName := "Lat", elemType := "int32" },
    { goName := "Lon", elemType := "int32" },
    { goName := "Alt", elemType := "int32" },
    { goName := "RelativeAlt", elemType := "int32" },
    { goName := "Q", elemType := "float32", isArray := true, arrLen := 4 },
    { goName := "ImageIndex", elemType := "int32" },
    { goName := "CaptureResult", elemType := "int8" },
    { goName := "FileUrl", elemType := "string", mavlen := "205" }] }

def m_common_MessageCameraInformation : GoStruct := { name := "MessageCameraInformation", fields := [
    { goName := "TimeBootMs", elemType := "uint32" },
    { goName := "VendorName", elemType := "uint8", isArray := true, arrLen := 32 },
    { goName := "ModelName", elemType := "uint8", isArray := true, arrLen := 32 },
    { goName := "FirmwareVersion", elemType := "uint32" },
    { goName := "FocalLength", elemType := "float32" },
    { goName := "SensorSizeH", elemType := "float32" },
    { goName := "SensorSizeV", elemType := "float32" },
    { goName := "ResolutionH", elemType := "uint16" },
    { goName := "ResolutionV", elemType := "uint16" },
    { goName := "LensId", elemType := "uint8" },
    { goName := "Flags", elemType := "CAMERA_CAP_FLAGS", elemIsUint64 := true, mavenum := "uint32" },
    { goName := "CamDefinitionVersion", elemType := "uint16" },
    { goName := "CamDefinitionUri", elemType := "string", mavlen := "140" },
    { goName := "GimbalDeviceId", elemType := "uint8", mavext := "true" },
    { goName := "CameraDeviceId", elemType := "uint8", mavext := "true" }] }

def m_common_MessageCameraSettings : GoStruct := { name := "MessageCameraSettings", fields := [
    { goName := "TimeBootMs", elemType := "uint32" },
    { goName := "ModeId", elemType := "CAMERA_MODE", elemIsUint64 := true, mavenum := "uint8" },
    { goName := "Zoomlevel", elemType := "float32", mavext := "true", mavname := "zoomLevel" },
    { goName := "Focuslevel", elemType := "float32", mavext := "true", mavname := "focusLevel" },
    { goName := "CameraDeviceId", elemType := "uint8", mavext := "true" }] }

def m_common_MessageCameraThermalRange : GoStruct := { name := "MessageCameraThermalRange", fields := [
    { goName := "TimeBootMs", elemType := "uint32" },
    { goName := "StreamId", elemType := "uint8" },
    { goName := "CameraDeviceId", elemType := "uint8" },
    { goName := "Max", elemType := "float32" },
    { goName := "MaxPointX", elemType := "float32" },
    { goName := "MaxPointY", elemType := "float32" },
    { goName := "Min", elemType := "float32" },
    { goName := "MinPointX", elemType := "float32" },
    { goName := "MinPointY", elemType := "float32" }] }

def m_common_MessageCameraTrackingGeoStatus : GoStruct := { name := "MessageCameraTrackingGeoStatus", fields := [
    { goName := "TrackingStatus", elemType := "CAMERA_TRACKING_STATUS_FLAGS", elemIsUint64 := true, mavenum := "uint8" },
    { goName := "Lat", elemType := "int32" },
    { goName := "Lon", elemType := "int32" },
    { goName := "Alt", elemType := "float32" },
    { goName := "HAcc", elemType := "float32" },
    { goName := "VAcc", elemType := "float32" },
    { goName := "VelN", elemType := "float32" },
    { goName := "VelE", elemType := "float32" },
    { goName := "VelD", elemType := "float32" },
    { goName := "VelAcc", elemType := "float32" },
    { goName := "Dist", elemType := "float32" },
    { goName := "Hdg", elemType := "float32" },
    { goName := "HdgAcc", elemType := "float32" },
    { goName := "CameraDeviceId", elemType := "uint8", mavext := "true" }] }

def m_common_MessageCameraTrackingImageStatus : GoStruct := { name := "MessageCameraTrackingImageStatus", fields := [
    { goName := "TrackingStatus", elemType := "CAMERA_TRACKING_STATUS_FLAGS", elemIsUint64 := true, mavenum := "uint8" },
    { goName := "TrackingMode", elemType := "CAMERA_TRACKING_MODE", elemIsUint64 := true, mavenum := "uint8" },
    { goName := "TargetData", elemType := "CAMERA_TRACKING_TARGET_DATA", elemIsUint64 := true, mavenum := "uint8" },
    { goName := "PointX", elemType := "float32" },
    { goName := "PointY", elemType := "float32" },
    { goName := "Radius", elemType := "float32" },
    { goName := "RecTopX", elemType := "float32" },
    { goName := "RecTopY", elemType := "float32" },
    { goName := "RecBottomX", elemType := "float32" },
    { goName := "RecBottomY", elemType := "float32" },
    { goName := "CameraDeviceId", elemType := "uint8", mavext := "true" }] }

def m_common_MessageCameraTrigger : GoStruct := { name := "MessageCameraTrigger", fields := [
    { goName := "TimeUsec", elemType := "uint64", elemIsUint64 := true },
    { goName := "Seq", elemType := "uint32" }] }

def msgs_4 : List (String × Nat × GoStruct) := [
  ("common", 301, m_common_MessageAisVessel),
  ("common", 141, m_common_MessageAltitude),
  ("common", 138, m_common_MessageAttPosMocap),
  ("common", 30, m_common_MessageAttitude),
  ("common", 31, m_common_MessageAttitudeQuaternion),
  ("common", 61, m_common_MessageAttitudeQuaternionCov),
  ("common", 83, m_common_MessageAttitudeTarget),
  ("common", 7, m_common_MessageAuthKey),
  ("common", 286, m_common_MessageAutopilotStateForGimbalDevice),
  ("common", 148, m_common_MessageAutopilotVersion),
  ("common", 435, m_common_MessageAvailableModes),
  ("common", 437, m_common_MessageAvailableModesMonitor),
  ("common", 372, m_common_MessageBatteryInfo),
  ("common", 147, m_common_MessageBatteryStatus),
  ("common", 257, m_common_MessageButtonChange),
  ("common", 262, m_common_MessageCameraCaptureStatus),
  ("common", 271, m_common_MessageCameraFovStatus),
  ("common", 263, m_common_MessageCameraImageCaptured),
  ("common", 259, m_common_MessageCameraInformation),
  ("common", 260, m_common_MessageCameraSettings),
  ("common", 277, m_common_MessageCameraThermalRange),
  ("common", 276, m_common_MessageCameraTrackingGeoStatus),
  ("common", 275, m_common_MessageCameraTrackingImageStatus),
  ("common", 112, m_common_MessageCameraTrigger)]

end Mav.Gen
