-- GENERATED by tools/extract from pkg/dialects/*/message_*.go — do not edit
import Mav.Model.Msg
namespace Mav.Gen
open Mav.Msg

def m_common_MessageCanFilterModify : GoStruct := { name := "MessageCanFilterModify", fields := [
    { goName := "TargetSystem", elemType := "uint8" },
    { goName := "TargetComponent", elemType := "uint8" },
    { goName := "Bus", elemType := "uint8" },
    { goName := "Operation", elemType := "CAN_FILTER_OP", elemIsUint64 := true, mavenum := "uint8" },
    { goName := "NumIds", elemType := "uint8" },
    { goName := "Ids", elemType := "uint16", isArray := true, arrLen := 16 }] }

def m_common_MessageCanFrame : GoStruct := { name := "MessageCanFrame", fields := [
    { goName := "TargetSystem", elemType := "uint8" },
    { goName := "TargetComponent", elemType := "uint8" },
    { goName := "Bus", elemType := "uint8" },
    { goName := "Len", elemType := "uint8" },
    { goName := "Id", elemType := "uint32" },
    { goName := "Data", elemType := "uint8", isArray := true, arrLen := 8 }] }

def m_common_MessageCanfdFrame : GoStruct := { name := "MessageCanfdFrame", fields := [
    { goName := "TargetSystem", elemType := "uint8" },
    { goName := "TargetComponent", elemType := "uint8" },
    { goName := "Bus", elemType := "uint8" },
    { goName := "Len", elemType := "uint8" },
    { goName := "Id", elemType := "uint32" },
    { goName := "Data", elemType := "uint8", isArray := true, arrLen := 64 }] }

def m_common_MessageCellularConfig : GoStruct := { name := "MessageCellularConfig", fields := [
    { goName := "EnableLte", elemType := "uint8" },
    { goName := "EnablePin", elemType := "uint8" },
    { goName := "Pin", elemType := "string", mavlen := "16" },
    { goName := "NewPin", elemType := "string", mavlen := "16" },
    { goName := "Apn", elemType := "string", mavlen := "32" },
    { goName := "Puk", elemType := "string", mavlen := "16" },
    { goName := "Roaming", elemType := "uint8" },
    { goName := "Response", elemType := "CELLULAR_CONFIG_RESPONSE", elemIsUint64 := true, mavenum := "uint8" }] }

def m_common_MessageCellularStatus : GoStruct := { name := "MessageCellularStatus", fields := [
    { goName := "Status", elemType := "CELLULAR_STATUS_FLAG", elemIsUint64 := true, mavenum := "uint8" },
    { goName := "FailureReason", elemType := "CELLULAR_NETWORK_FAILED_REASON", elemIsUint64 := true, mavenum := "uint8" },
    { goName := "Type", elemType := "CELLULAR_NETWORK_RADIO_TYPE", elemIsUint64 := true, mavenum := "uint8" },
    { goName := "Quality", elemType := "uint8" },
    { goName := "Mcc", elemType := "uint16" },
    { goName := "Mnc", elemType := "uint16" },
    { goName := "Lac", elemType := "uint16" }] }

def m_common_MessageChangeOperatorControl : GoStruct := { name := "MessageChangeOperatorControl", fields := [
    { goName := "TargetSystem", elemType := "uint8" },
    { goName := "ControlRequest", elemType := "uint8" },
    { goName := "Version", elemType := "uint8" },
    { goName := "Passkey", elemType := "string", mavlen := "25" }] }

def m_common_MessageChangeOperatorControlAck : GoStruct := { name := "MessageChangeOperatorControlAck", fields := [
    { goName := "GcsSystemId", elemType := "uint8" },
    { goName := "ControlRequest", elemType := "uint8" },
    { goName := "Ack", elemType := "uint8" }] }

def m_common_MessageCollision : GoStruct := { name := "MessageCollision", fields := [
    { goName := "Src", elemType := "MAV_COLLISION_SRC", elemIsUint64 := true, mavenum := "uint8" },
    { goName := "Id", elemType := "uint32" },
    { goName := "Action", elemType := "MAV_COLLISION_ACTION", elemIsUint64 := true, mavenum := "uint8" },
    { goName := "ThreatLevel", elemType := "MAV_COLLISION_THREAT_LEVEL", elemIsUint64 := true, mavenum := "uint8" },
    { goName := "TimeToMinimumDelta", elemType := "float32" },
    { goName := "AltitudeMinimumDelta", elemType := "float32" },
    { goName := "HorizontalMinimumDelta", elemType := "float32" }] }

def m_common_MessageCommandAck : GoStruct := { name := "MessageCommandAck", fields := [
    { goName := "Command", elemType := "MAV_CMD", elemIsUint64 := true, mavenum := "uint16" },
    { goName := "Result", elemType := "MAV_RESULT", elemIsUint64 := true, mavenum := "uint8" },
    { goName := "Progress", elemType := "uint8", mavext := "true" },
    { goName := "ResultParam2", elemType := "int32", mavext := "true" },
    { goName := "TargetSystem", elemType := "uint8", mavext := "true" },
    { goName := "TargetComponent", elemType := "uint8", mavext := "true" }] }

def m_common_MessageCommandCancel : GoStruct := { name := "MessageCommandCancel", fields := [
    { goName := "TargetSystem", elemType := "uint8" },
    { goName := "TargetComponent", elemType := "uint8" },
    { goName := "Command", elemType := "MAV_CMD", elemIsUint64 := true, mavenum := "uint16" }] }

def m_common_MessageCommandInt : GoStruct := { name := "MessageCommandInt", fields := [
    { goName := "TargetSystem", elemType := "uint8" },
    { goName := "TargetComponent", elemType := "uint8" },
    { goName := "Frame", elemType := "MAV_FRAME", elemIsUint64 := true, mavenum := "uint8" },
    { goName := "Command", elemType := "MAV_CMD", elemIsUint64 := true, mavenum := "uint16" },
    { goName := "Current", elemType := "uint8" },
    { goName := "Autocontinue", elemType := "uint8" },
    { goName := "Param1", elemType := "float32" },
    { goName := "Param2", elemType := "float32" },
    { goName := "Param3", elemType := "float32" },
    { goName := "Param4", elemType := "float32" },
    { goName := "X", elemType := "int32" },
    { goName := "Y", elemType := "int32" },
    { goName := "Z", elemType := "float32" }] }

def m_common_MessageCommandLong : GoStruct := { name := "MessageCommandLong", fields := [
    { goName := "TargetSystem", elemType := "uint8" },
    { goName := "TargetComponent", elemType := "uint8" },
    { goName := "Command", elemType := "MAV_CMD", elemIsUint64 := true, mavenum := "uint16" },
    { goName := "Confirmation", elemType := "uint8" },
    { goName := "Param1", elemType := "float32" },
    { goName := "Param2", elemType := "float32" },
    { goName := "Param3", elemType := "float32" },
    { goName := "Param4", elemType := "float32" },
    { goName := "Param5", elemType := "float32" },
    { goName := "Param6", elemType := "float32" },
    { goName := "Param7", elemType := "float32" }] }

def m_common_MessageComponentInformation : GoStruct := { name := "MessageComponentInformation", fields := [
    { goName := "TimeBootMs", elemType := "uint32" },
    { goName := "GeneralMetadataFileCrc", elemType := "uint32" },
    { goName := "GeneralMetadataUri", elemType := "string", mavlen := "100" },
    { goName := "PeripheralsMetadataFileCrc", elemType := "uint32" },
    { goName := "PeripheralsMetadataUri", elemType := "string", mavlen := "100" }] }

def m_common_MessageComponentInformationBasic : GoStruct := { name := "MessageComponentInformationBasic", fields := [
    { goName := "TimeBootMs", elemType := "uint32" },
    { goName := "Capabilities", elemType := "MAV_PROTOCOL_CAPABILITY", elemIsUint64 := true, mavenum := "uint64" },
    { goName := "TimeManufactureS", elemType := "uint32" },
    { goName := "VendorName", elemType := "string", mavlen := "32" },
    { goName := "ModelName", elemType := "string", mavlen := "32" },
    { goName := "SoftwareVersion", elemType := "string", mavlen := "24" },
    { goName := "HardwareVersion", elemType := "string", mavlen := "24" },
    { goName := "SerialNumber", elemType := "string", mavlen := "32" }] }

def m_common_MessageComponentMetadata : GoStruct := { name := "MessageComponentMetadata", fields := [
    { goName := "TimeBootMs", elemType := "uint32" },
    { goName := "FileCrc", elemType := "uint32" },
    { goName := "Uri", elemType := "string", mavlen := "100" }] }

def m_common_MessageControlSystemState : GoStruct := { name := "MessageControlSystemState", fields := [
    { goName := "TimeUsec", elemType := "uint64", elemIsUint64 := true },
    { goName := "XAcc", elemType := "float32" },
    { goName := "YAcc", elemType := "float32" },
    { goName := "ZAcc", elemType := "float32" },
    { goName := "XVel", elemType := "float32" },
    { goName := "YVel", elemType := "float32" },
    { goName := "ZVel", elemType := "float32" },
    { goName := "XPos", elemType := "float32" },
    { goName := "YPos", elemType := "float32" },
    { goName := "ZPos", elemType := "float32" },
    { goName := "Airspeed", elemType := "float32" },
    { goName := "VelVariance", elemType := "float32", isArray := true, arrLen := 3 },
    { goName := "PosVariance", elemType := "float32", isArray := true, arrLen := 3 },
    { goName := "Q", elemType := "float32", isArray := true, arrLen := 4 },
    { goName := "RollRate", elemType := "float32" },
    { goName := "PitchRate", elemType := "float32" },
    { goName := "YawRate", elemType := "float32" }] }

def m_common_MessageCurrentEventSequence : GoStruct := { name := "MessageCurrentEventSequence", fields := [
    { goName := "Sequence", elemType := "uint16" },
    { goName := "Flags", elemType := "MAV_EVENT_CURRENT_SEQUENCE_FLAGS", elemIsUint64 := true, mavenum := "uint8" }] }

def m_common_MessageCurrentMode : GoStruct := { name := "MessageCurrentMode", fields := [
    { goName := "StandardMode", elemType := "MAV_STANDARD_MODE", elemIsUint64 := true, mavenum := "uint8" },
    { goName := "CustomMode", elemType := "uint32" },
    { goName := "IntendedCustomMode", elemType := "uint32" }] }

def m_common_MessageDataStream : GoStruct := { name := "MessageDataStream", fields := [
    { goName := "StreamId", elemType := "uint8" },
    { goName := "MessageRate", elemType := "uint16" },
    { goName := "OnOff", elemType := "uint8" }] }

def m_common_MessageDataTransmissionHandshake : GoStruct := { name := "MessageDataTransmissionHandshake", fields := [
    { goName := "Type", elemType := "MAVLINK_DATA_STREAM_TYPE", elemIsUint64 := true, mavenum := "uint8" },
    { goName := "Size", elemType := "uint32" },
    { goName := "Width", elemType := "uint16" },
    { goName := "Height", elemType := "uint16" },
    { goName := "Packets", elemType := "uint16" },
    { goName := "Payload", elemType := "uint8" },
    { goName := "JpgQuality", elemType := "uint8" }] }

def m_common_MessageDebug : GoStruct := { name := "MessageDebug", fields := [
    { goName := "TimeBootMs", elemType := "uint32" },
    { goName := "Ind", elemType := "uint8" },
    { goName := "Value", elemType := "float32" }] }

def m_common_MessageDebugFloatArray : GoStruct := { name := "MessageDebugFloatArray", fields := [
    { goName := "TimeUsec", elemType := "uint64", elemIsUint64 := true },
    { goName := "Name", elemType := "string", mavlen := "10" },
    { goName := "ArrayId", elemType := "uint16" },
    { goName := "Data", elemType := "float32", isArray := true, arrLen := 58, mavext := "true" }] }

def m_common_MessageDebugVect : GoStruct := { name := "MessageDebugVect", fields := [
    { goName := "Name", elemType := "string", mavlen := "10" },
    { goName := "TimeUsec", elemType := "uint64", elemIsUint64 := true },
    { goName := "X", elemType := "float32" },
    { goName := "Y", elemType := "float32" },
    { goName := "Z", elemType := "float32" }] }

def m_common_MessageDistanceSensor : GoStruct := { name := "MessageDistanceSensor", fields := [
    { goName := "TimeBootMs", elemType := "uint32" },
    { goName := "MinDistance", elemType := "uint16" },
    { goName := "MaxDistance", elemType := "uint16" },
    { goName := "CurrentDistance", elemType := "uint16" },
    { goName := "Type", elemType := "MAV_DISTANCE_SENSOR", elemIsUint64 := true, mavenum := "uint8" },
    { goName := "Id", elemType := "uint8" },
    { goName := "Orientation", elemType := "MAV_SENSOR_ORIENTATION", elemIsUint64 := true, mavenum := "uint8" },
    { goName := "Covariance", elemType := "uint8" },
    { goName := "HorizontalFov", elemType := "float32", mavext := "true" },
    { goName := "VerticalFov", elemType := "float32", mavext := "true" },
    { goName := "Quaternion", elemType := "float32", isArray := true, arrLen := 4, mavext := "true" },
    { goName := "SignalQuality", elemType := "uint8", mavext := "true" }] }

def msgs_5 : List (String × Nat × GoStruct) := [
  ("common", 388, m_common_MessageCanFilterModify),
  ("common", 386, m_common_MessageCanFrame),
  ("common", 387, m_common_MessageCanfdFrame),
  ("common", 336, m_common_MessageCellularConfig),
  ("common", 334, m_common_MessageCellularStatus),
  ("common", 5, m_common_MessageChangeOperatorControl),
  ("common", 6, m_common_MessageChangeOperatorControlAck),
  ("common", 247, m_common_MessageCollision),
  ("common", 77, m_common_MessageCommandAck),
  ("common", 80, m_common_MessageCommandCancel),
  ("common", 75, m_common_MessageCommandInt),
  ("common", 76, m_common_MessageCommandLong),
  ("common", 395, m_common_MessageComponentInformation),
  ("common", 396, m_common_MessageComponentInformationBasic),
  ("common", 397, m_common_MessageComponentMetadata),
  ("common", 146, m_common_MessageControlSystemState),
  ("common", 411, m_common_MessageCurrentEventSequence),
  ("common", 436, m_common_MessageCurrentMode),
  ("common", 67, m_common_MessageDataStream),
  ("common", 130, m_common_MessageDataTransmissionHandshake),
  ("common", 254, m_common_MessageDebug),
  ("common", 350, m_common_MessageDebugFloatArray),
  ("common", 250, m_common_MessageDebugVect),
  ("common", 132, m_common_MessageDistanceSensor)]

end Mav.Gen
