-- GENERATED by tools/extract from pkg/dialects/*/message_*.go — do not edit
import Mav.Model.Msg
namespace Mav.Gen
open Mav.Msg

def m_common_MessageEfiStatus : GoStruct := { name := "MessageEfiStatus", fields := [
    { goName := "Health", elemType := "uint8" },
    { goName := "EcuIndex", elemType := "float32" },
    { goName := "Rpm", elemType := "float32" },
    { goName := "FuelConsumed", elemType := "float32" },
    { goName := "FuelFlow", elemType := "float32" },
    { goName := "EngineLoad", elemType := "float32" },
    { goName := "ThrottlePosition", elemType := "float32" },
    { goName := "SparkDwellTime", elemType := "float32" },
    { goName := "BarometricPressure", elemType := "float32" },
    { goName := "IntakeManifoldPressure", elemType := "float32" },
    { goName := "IntakeManifoldTemperature", elemType := "float32" },
    { goName := "CylinderHeadTemperature", elemType := "float32" },
    { goName := "IgnitionTiming", elemType := "float32" },
    { goName := "InjectionTime", elemType := "float32" },
    { goName := "ExhaustGasTemperature", elemType := "float32" },
    { goName := "ThrottleOut", elemType := "float32" },
    { goName := "PtCompensation", elemType := "float32" },
    { goName := "IgnitionVoltage", elemType := "float32", mavext := "true" },
    { goName := "FuelPressure", elemType := "float32", mavext := "true" }] }

def m_common_MessageEncapsulatedData : GoStruct := { name := "MessageEncapsulatedData", fields := [
    { goName := "Seqnr", elemType := "uint16" },
    { goName := "Data", elemType := "uint8", isArray := true, arrLen := 253 }] }

def m_common_MessageEscInfo : GoStruct := { name := "MessageEscInfo", fields := [
    { goName := "Index", elemType := "uint8" },
    { goName := "TimeUsec", elemType := "uint64", elemIsUint64 := true },
    { goName := "Counter", elemType := "uint16" },
    { goName := "Count", elemType := "uint8" },
    { goName := "ConnectionType", elemType := "ESC_CONNECTION_TYPE", elemIsUint64 := true, mavenum := "uint8" },
    { goName := "Info", elemType := "uint8" },
    { goName := "FailureFlags", elemType := "ESC_FAILURE_FLAGS", isArray := true, arrLen := 4, elemIsUint64 := true, mavenum := "uint16" },
    { goName := "ErrorCount", elemType := "uint32", isArray := true, arrLen := 4 },
    { goName := "Temperature", elemType := "int16", isArray := true, arrLen := 4 }] }

def m_common_MessageEscStatus : GoStruct := { name := "MessageEscStatus", fields := [
    { goName := "Index", elemType := "uint8" },
    { goName := "TimeUsec", elemType := "uint64", elemIsUint64 := true },
    { goName := "Rpm", elemType := "int32", isArray := true, arrLen := 4 },
    { goName := "Voltage", elemType := "float32", isArray := true, arrLen := 4 },
    { goName := "Current", elemType := "float32", isArray := true, arrLen := 4 }] }

def m_common_MessageEstimatorStatus : GoStruct := { name := "MessageEstimatorStatus", fields := [
    { goName := "TimeUsec", elemType := "uint64", elemIsUint64 := true },
    { goName := "Flags", elemType := "ESTIMATOR_STATUS_FLAGS", elemIsUint64 := true, mavenum := "uint16" },
    { goName := "VelRatio", elemType := "float32" },
    { goName := "PosHorizRatio", elemType := "float32" },
    { goName := "PosVertRatio", elemType := "float32" },
    { goName := "MagRatio", elemType := "float32" },
    { goName := "HaglRatio", elemType := "float32" },
    { goName := "TasRatio", elemType := "float32" },
    { goName := "PosHorizAccuracy", elemType := "float32" },
    { goName := "PosVertAccuracy", elemType := "float32" }] }

def m_common_MessageEvent : GoStruct := { name := "MessageEvent", fields := [
    { goName := "DestinationComponent", elemType := "uint8" },
    { goName := "DestinationSystem", elemType := "uint8" },
    { goName := "Id", elemType := "uint32" },
    { goName := "EventTimeBootMs", elemType := "uint32" },
    { goName := "Sequence", elemType := "uint16" },
    { goName := "LogLevels", elemType := "uint8" },
    { goName := "Arguments", elemType := "uint8", isArray := true, arrLen := 40 }] }

def m_common_MessageExtendedSysState : GoStruct := { name := "MessageExtendedSysState", fields := [
    { goName := "VtolState", elemType := "MAV_VTOL_STATE", elemIsUint64 := true, mavenum := "uint8" },
    { goName := "LandedState", elemType := "MAV_LANDED_STATE", elemIsUint64 := true, mavenum := "uint8" }] }

def m_common_MessageFenceStatus : GoStruct := { name := "MessageFenceStatus", fields := [
    { goName := "BreachStatus", elemType := "uint8" },
    { goName := "BreachCount", elemType := "uint16" },
    { goName := "BreachType", elemType := "FENCE_BREACH", elemIsUint64 := true, mavenum := "uint8" },
    { goName := "BreachTime", elemType := "uint32" },
    { goName := "BreachMitigation", elemType := "FENCE_MITIGATE", elemIsUint64 := true, mavenum := "uint8", mavext := "true" }] }

def m_common_MessageFileTransferProtocol : GoStruct := { name := "MessageFileTransferProtocol", fields := [
    { goName := "TargetNetwork", elemType := "uint8" },
    { goName := "TargetSystem", elemType := "uint8" },
    { goName := "TargetComponent", elemType := "uint8" },
    { goName := "Payload", elemType := "uint8", isArray := true, arrLen := 251 }] }

def m_common_MessageFlightInformation : GoStruct := { name := "MessageFlightInformation", fields := [
    { goName := "TimeBootMs", elemType := "uint32" },
    { goName := "ArmingTimeUtc", elemType := "uint64", elemIsUint64 := true },
    { goName := "TakeoffTimeUtc", elemType := "uint64", elemIsUint64 := true },
    { goName := "FlightUuid", elemType := "uint64", elemIsUint64 := true },
    { goName := "LandingTime", elemType := "uint32", mavext := "true" }] }

def m_common_MessageFollowTarget : GoStruct := { name := "MessageFollowTarget", fields := [
    { goName := "Timestamp", elemType := "uint64", elemIsUint64 := true },
    { goName := "EstCapabilities", elemType := "uint8" },
    { goName := "Lat", elemType := "int32" },
    { goName := "Lon", elemType := "int32" },
    { goName := "Alt", elemType := "float32" },
    { goName := "Vel", elemType := "float32", isArray := true, arrLen := 3 },
    { goName := "Acc", elemType := "float32", isArray := true, arrLen := 3 },
    { goName := "AttitudeQ", elemType := "float32", isArray := true, arrLen := 4 },
    { goName := "Rates", elemType := "float32", isArray := true, arrLen := 3 },
    { goName := "PositionCov", elemType := "float32", isArray := true, arrLen := 3 },
    { goName := "CustomState", elemType := "uint64", elemIsUint64 := true }] }

def m_common_MessageFuelStatus : GoStruct := { name := "MessageFuelStatus", fields := [
    { goName := "Id", elemType := "uint8" },
    { goName := "MaximumFuel", elemType := "float32" },
    { goName := "ConsumedFuel", elemType := "float32" },
    { goName := "RemainingFuel", elemType := "float32" },
    { goName := "PercentRemaining", elemType := "uint8" },
    { goName := "FlowRate", elemType := "float32" },
    { goName := "Temperature", elemType := "float32" },
    { goName := "FuelType", elemType := "MAV_FUEL_TYPE", elemIsUint64 := true, mavenum := "uint32" }] }

def m_common_MessageGeneratorStatus : GoStruct := { name := "MessageGeneratorStatus", fields := [
    { goName := "Status", elemType := "MAV_GENERATOR_STATUS_FLAG", elemIsUint64 := true, mavenum := "uint64" },
    { goName := "GeneratorSpeed", elemType := "uint16" },
    { goName := "BatteryCurrent", elemType := "float32" },
    { goName := "LoadCurrent", elemType := "float32" },
    { goName := "PowerGenerated", elemType := "float32" },
    { goName := "BusVoltage", elemType := "float32" },
    { goName := "RectifierTemperature", elemType := "int16" },
    { goName := "BatCurrentSetpoint", elemType := "float32" },
    { goName := "GeneratorTemperature", elemType := "int16" },
    { goName := "Runtime", elemType := "uint32" },
    { goName := "TimeUntilMaintenance", elemType := "int32" }] }

def m_common_MessageGimbalDeviceAttitudeStatus : GoStruct := { name := "MessageGimbalDeviceAttitudeStatus", fields := [
    { goName := "TargetSystem", elemType := "uint8" },
    { goName := "TargetComponent", elemType := "uint8" },
    { goName := "TimeBootMs", elemType := "uint32" },
    { goName := "Flags", elemType := "GIMBAL_DEVICE_FLAGS", elemIsUint64 := true, mavenum := "uint16" },
    { goName := "Q", elemType := "float32", isArray := true, arrLen := 4 },
    { goName := "AngularVelocityX", elemType := "float32" },
    { goName := "AngularVelocityY", elemType := "float32" },
    { goName := "AngularVelocityZ", elemType := "float32" },
    { goName := "FailureFlags", elemType := "GIMBAL_DEVICE_ERROR_FLAGS", elemIsUint64 := true, mavenum := "uint32" },
    { goName := "DeltaYaw", elemType := "float32", mavext := "true" },
    { goName := "DeltaYawVelocity", elemType := "float32", mavext := "true" },
    { goName := "GimbalDeviceId", elemType := "uint8", mavext := "true" }] }

def m_common_MessageGimbalDeviceInformation : GoStruct := { name := "MessageGimbalDeviceInformation", fields := [
    { goName := "TimeBootMs", elemType := "uint32" },
    { goName := "VendorName", elemType := "string", mavlen := "32" },
    { goName := "ModelName", elemType := "string", mavlen := "32" },
    { goName := "CustomName", elemType := "string", mavlen := "32" },
    { goName := "FirmwareVersion", elemType := "uint32" },
    { goName := "HardwareVersion", elemType := "uint32" },
    { goName := "Uid", elemType := "uint64", elemIsUint64 := true },
    { goName := "CapFlags", elemType := "GIMBAL_DEVICE_CAP_FLAGS", elemIsUint64 := true, mavenum := "uint16" },
    { goName := "CustomCapFlags", elemType := "uint16" },
    { goName := "RollMin", elemType := "float32" },
    { goName := "RollMax", elemType := "float32" },
    { goName := "PitchMin", elemType := "float32" },
    { goName := "PitchMax", elemType := "float32" },
    { goName := "YawMin", elemType := "float32" },
    { goName := "YawMax", elemType := "float32" },
    { goName := "GimbalDeviceId", elemType := "uint8", mavext := "true" }] }

def m_common_MessageGimbalDeviceSetAttitude : GoStruct := { name := "MessageGimbalDeviceSetAttitude", fields := [
    { goName := "TargetSystem", elemType := "uint8" },
    { goName := "TargetComponent", elemType := "uint8" },
    { goName := "Flags", elemType := "GIMBAL_DEVICE_FLAGS", elemIsUint64 := true, mavenum := "uint16" },
    { goName := "Q", elemType := "float32", isArray := true, arrLen := 4 },
    { goName := "AngularVelocityX", elemType := "float32" },
    { goName := "AngularVelocityY", elemType := "float32" },
    { goName := "AngularVelocityZ", elemType := "float32" }] }

def m_common_MessageGimbalManagerInformation : GoStruct := { name := "MessageGimbalManagerInformation", fields := [
    { goName := "TimeBootMs", elemType := "uint32" },
    { goName := "CapFlags", elemType := "GIMBAL_MANAGER_CAP_FLAGS", elemIsUint64 := true, mavenum := "uint32" },
    { goName := "GimbalDeviceId", elemType := "uint8" },
    { goName := "RollMin", elemType := "float32" },
    { goName := "RollMax", elemType := "float32" },
    { goName := "PitchMin", elemType := "float32" },
    { goName := "PitchMax", elemType := "float32" },
    { goName := "YawMin", elemType := "float32" },
    { goName := "YawMax", elemType := "float32" }] }

def m_common_MessageGimbalManagerSetAttitude : GoStruct := { name := "MessageGimbalManagerSetAttitude", fields := [
    { goName := "TargetSystem", elemType := "uint8" },
    { goName := "TargetComponent", elemType := "uint8" },
    { goName := "Flags", elemType := "GIMBAL_MANAGER_FLAGS", elemIsUint64 := true, mavenum := "uint32" },
    { goName := "GimbalDeviceId", elemType := "uint8" },
    { goName := "Q", elemType := "float32", isArray := true, arrLen := 4 },
    { goName := "AngularVelocityX", elemType := "float32" },
    { goName := "AngularVelocityY", elemType := "float32" },
    { goName := "AngularVelocityZ", elemType := "float32" }] }

def m_common_MessageGimbalManagerSetManualControl : GoStruct := { name := "MessageGimbalManagerSetManualControl", fields := [
    { goName := "TargetSystem", elemType := "uint8" },
    { goName := "TargetComponent", elemType := "uint8" },
    { goName := "Flags", elemType := "GIMBAL_MANAGER_FLAGS", elemIsUint64 := true, mavenum := "uint32" },
    { goName := "GimbalDeviceId", elemType := "uint8" },
    { goName := "Pitch", elemType := "float32" },
    { goName := "Yaw", elemType := "float32" },
    { goName := "PitchRate", elemType := "float32" },
    { goName := "YawRate", elemType := "float32" }] }

def m_common_MessageGimbalManagerSetPitchyaw : GoStruct := { name := "MessageGimbalManagerSetPitchyaw", fields := [
    { goName := "TargetSystem", elemType := "uint8" },
    { goName := "TargetComponent", elemType := "uint8" },
    { goName := "Flags", elemType := "GIMBAL_MANAGER_FLAGS", elemIsUint64 := true, mavenum := "uint32" },
    { goName := "GimbalDeviceId", elemType := "uint8" },
    { goName := "Pitch", elemType := "float32" },
    { goName := "Yaw", elemType := "float32" },
    { goName := "PitchRate", elemType := "float32" },
    { goName := "YawRate", elemType := "float32" }] }

def m_common_MessageGimbalManagerStatus : GoStruct := { name := "MessageGimbalManagerStatus", fields := [
    { goName := "TimeBootMs", elemType := "uint32" },
    { goName := "Flags", elemType := "GIMBAL_MANAGER_FLAGS", elemIsUint64 := true, mavenum := "uint32" },
    { goName := "GimbalDeviceId", elemType := "uint8" },
    { goName := "PrimaryControlSysid", elemType := "uint8" },
    { goName := "PrimaryControlCompid", elemType := "uint8" },
    { goName := "SecondaryControlSysid", elemType := "uint8" },
    { goName := "SecondaryControlCompid", elemType := "uint8" }] }

def m_common_MessageGlobalPositionInt : GoStruct := { name := "MessageGlobalPositionInt", fields := [
    { goName := "TimeBootMs", elemType := "uint32" },
    { goName := "Lat", elemType := "int32" },
    { goName := "Lon", elemType := "int32" },
    { goName := "Alt", elemType := "int32" },
    { goName := "RelativeAlt", elemType := "int32" },
    { goName := "Vx", elemType := "int16" },
    { goName := "Vy", elemType := "int16" },
    { goName := "Vz", elemType := "int16" },
    { goName := "Hdg", elemType := "uint16" }] }

def m_common_MessageGlobalPositionIntCov : GoStruct := { name := "MessageGlobalPositionIntCov", fields := [
    { goName := "TimeUsec", elemType := "uint64", elemIsUint64 := true },
    { goName := "EstimatorType", elemType := "MAV_ESTIMATOR_TYPE", elemIsUint64 := true, mavenum := "uint8" },
    { goName := "Lat", elemType := "int32" },
    { goName := "Lon", elemType := "int32" },
    { goName := "Alt", elemType := "int32" },
    { goName := "RelativeAlt", elemType := "int32" },
    { goName := "Vx", elemType := "float32" },
    { goName := "Vy", elemType := "float32" },
    { goName := "Vz", elemType := "float32" },
    { goName := "Covariance", elemType := "float32", isArray := true, arrLen := 36 }] }

def m_common_MessageGlobalVisionPositionEstimate : GoStruct := { name := "MessageGlobalVisionPositionEstimate", fields := [
    { goName := "Usec", elemType := "uint64", elemIsUint64 := true },
    { goName := "X", elemType := "float32" },
    { goName := "Y", elemType := "float32" },
    { goName := "Z", elemType := "float32" },
    { goName := "Roll", elemType := "float32" },
    { goName := "Pitch", elemType := "float32" },
    { goName := "Yaw", elemType := "float32" },
    { goName := "Covariance", elemType := "float32", isArray := true, arrLen := 21, mavext := "true" },
    { goName := "ResetCounter", elemType := "uint8", mavext := "true" }] }

def msgs_6 : List (String × Nat × GoStruct) := [
  ("common", 225, m_common_MessageEfiStatus),
  ("common", 131, m_common_MessageEncapsulatedData),
  ("common", 290, m_common_MessageEscInfo),
  ("common", 291, m_common_MessageEscStatus),
  ("common", 230, m_common_MessageEstimatorStatus),
  ("common", 410, m_common_MessageEvent),
  ("common", 245, m_common_MessageExtendedSysState),
  ("common", 162, m_common_MessageFenceStatus),
  ("common", 110, m_common_MessageFileTransferProtocol),
  ("common", 264, m_common_MessageFlightInformation),
  ("common", 144, m_common_MessageFollowTarget),
  ("common", 371, m_common_MessageFuelStatus),
  ("common", 373, m_common_MessageGeneratorStatus),
  ("common", 285, m_common_MessageGimbalDeviceAttitudeStatus),
  ("common", 283, m_common_MessageGimbalDeviceInformation),
  ("common", 284, m_common_MessageGimbalDeviceSetAttitude),
  ("common", 280, m_common_MessageGimbalManagerInformation),
  ("common", 282, m_common_MessageGimbalManagerSetAttitude),
  ("common", 288, m_common_MessageGimbalManagerSetManualControl),
  ("common", 287, m_common_MessageGimbalManagerSetPitchyaw),
  ("common", 281, m_common_MessageGimbalManagerStatus),
  ("common", 33, m_common_MessageGlobalPositionInt),
  ("common", 63, m_common_MessageGlobalPositionIntCov),
  ("common", 101, m_common_MessageGlobalVisionPositionEstimate)]

end Mav.Gen
