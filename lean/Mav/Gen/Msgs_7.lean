-- GENERATED by tools/extract from pkg/dialects/*/message_*.go — do not edit
import Mav.Model.Msg
namespace Mav.Gen
open Mav.Msg

def m_common_MessageGps2Raw : GoStruct := { name := "MessageGps2Raw", fields := [
    { goName := "TimeUsec", elemType := "uint64", elemIsUint64 := true },
    { goName := "FixType", elemType := "GPS_FIX_TYPE", elemIsUint64 := true, mavenum := "uint8" },
    { goName := "Lat", elemType := "int32" },
    { goName := "Lon", elemType := "int32" },
    { goName := "Alt", elemType := "int32" },
    { goName := "Eph", elemType := "uint16" },
    { goName := "Epv", elemType := "uint16" },
    { goName := "Vel", elemType := "uint16" },
    { goName := "Cog", elemType := "uint16" },
    { goName := "SatellitesVisible", elemType := "uint8" },
    { goName := "DgpsNumch", elemType := "uint8" },
    { goName := "DgpsAge", elemType := "uint32" },
    { goName := "Yaw", elemType := "uint16", mavext := "true" },
    { goName := "AltEllipsoid", elemType := "int32", mavext := "true" },
    { goName := "HAcc", elemType := "uint32", mavext := "true" },
    { goName := "VAcc", elemType := "uint32", mavext := "true" },
    { goName := "VelAcc", elemType := "uint32", mavext := "true" },
    { goName := "HdgAcc", elemType := "uint32", mavext := "true" }] }

def m_common_MessageGps2Rtk : GoStruct := { name := "MessageGps2Rtk", fields := [
    { goName := "TimeLastBaselineMs", elemType := "uint32" },
    { goName := "RtkReceiverId", elemType := "uint8" },
    { goName := "Wn", elemType := "uint16" },
    { goName := "Tow", elemType := "uint32" },
    { goName := "RtkHealth", elemType := "uint8" },
    { goName := "RtkRate", elemType := "uint8" },
    { goName := "Nsats", elemType := "uint8" },
    { goName := "BaselineCoordsType", elemType := "RTK_BASELINE_COORDINATE_SYSTEM", elemIsUint64 := true, mavenum := "uint8" },
    { goName := "BaselineAMm", elemType := "int32" },
    { goName := "BaselineBMm", elemType := "int32" },
    { goName := "BaselineCMm", elemType := "int32" },
    { goName := "Accuracy", elemType := "uint32" },
    { goName := "IarNumHypotheses", elemType := "int32" }] }

def m_common_MessageGpsGlobalOrigin : GoStruct := { name := "MessageGpsGlobalOrigin", fields := [
    { goName := "Latitude", elemType := "int32" },
    { goName := "Longitude", elemType := "int32" },
    { goName := "Altitude", elemType := "int32" },
    { goName := "TimeUsec", elemType := "uint64", elemIsUint64 := true, mavext := "true" }] }

def m_common_MessageGpsInjectData : GoStruct := { name := "MessageGpsInjectData", fields := [
    { goName := "TargetSystem", elemType := "uint8" },
    { goName := "TargetComponent", elemType := "uint8" },
    { goName := "Len", elemType := "uint8" },
    { goName := "Data", elemType := "uint8", isArray := true, arrLen := 110 }] }

def m_common_MessageGpsInput : GoStruct := { name := "MessageGpsInput", fields := [
    { goName := "TimeUsec", elemType := "uint64", elemIsUint64 := true },
    { goName := "GpsId", elemType := "uint8" },
    { goName := "IgnoreFlags", elemType := "GPS_INPUT_IGNORE_FLAGS", elemIsUint64 := true, mavenum := "uint16" },
    { goName := "TimeWeekMs", elemType := "uint32" },
    { goName := "TimeWeek", elemType := "uint16" },
    { goName := "FixType", elemType := "uint8" },
    { goName := "Lat", elemType := "int32" },
    { goName := "Lon", elemType := "int32" },
    { goName := "Alt", elemType := "float32" },
    { goName := "Hdop", elemType := "float32" },
    { goName := "Vdop", elemType := "float32" },
    { goName := "Vn", elemType := "float32" },
    { goName := "Ve", elemType := "float32" },
    { goName := "Vd", elemType := "float32" },
    { goName := "SpeedAccuracy", elemType := "float32" },
    { goName := "HorizAccuracy", elemType := "float32" },
    { goName := "VertAccuracy", elemType := "float32" },
    { goName := "SatellitesVisible", elemType := "uint8" },
    { goName := "Yaw", elemType := "uint16", mavext := "true" }] }

def m_common_MessageGpsRawInt : GoStruct := { name := "MessageGpsRawInt", fields := [
    { goName := "TimeUsec", elemType := "uint64", elemIsUint64 := true },
    { goName := "FixType", elemType := "GPS_FIX_TYPE", elemIsUint64 := true, mavenum := "uint8" },
    { goName := "Lat", elemType := "int32" },
    { goName := "Lon", elemType := "int32" },
    { goName := "Alt", elemType := "int32" },
    { goName := "Eph", elemType := "uint16" },
    { goName := "Epv", elemType := "uint16" },
    { goName := "Vel", elemType := "uint16" },
    { goName := "Cog", elemType := "uint16" },
    { goName := "SatellitesVisible", elemType := "uint8" },
    { goName := "AltEllipsoid", elemType := "int32", mavext := "true" },
    { goName := "HAcc", elemType := "uint32", mavext := "true" },
    { goName := "VAcc", elemType := "uint32", mavext := "true" },
    { goName := "VelAcc", elemType := "uint32", mavext := "true" },
    { goName := "HdgAcc", elemType := "uint32", mavext := "true" },
    { goName := "Yaw", elemType := "uint16", mavext := "true" }] }

def m_common_MessageGpsRtcmData : GoStruct := { name := "MessageGpsRtcmData", fields := [
    { goName := "Flags", elemType := "uint8" },
    { goName := "Len", elemType := "uint8" },
    { goName := "Data", elemType := "uint8", isArray := true, arrLen := 180 }] }

def m_common_MessageGpsRtk : GoStruct := { name := "MessageGpsRtk", fields := [
    { goName := "TimeLastBaselineMs", elemType := "uint32" },
    { goName := "RtkReceiverId", elemType := "uint8" },
    { goName := "Wn", elemType := "uint16" },
    { goName := "Tow", elemType := "uint32" },
    { goName := "RtkHealth", elemType := "uint8" },
    { goName := "RtkRate", elemType := "uint8" },
    { goName := "Nsats", elemType := "uint8" },
    { goName := "BaselineCoordsType", elemType := "RTK_BASELINE_COORDINATE_SYSTEM", elemIsUint64 := true, mavenum := "uint8" },
    { goName := "BaselineAMm", elemType := "int32" },
    { goName := "BaselineBMm", elemType := "int32" },
    { goName := "BaselineCMm", elemType := "int32" },
    { goName := "Accuracy", elemType := "uint32" },
    { goName := "IarNumHypotheses", elemType := "int32" }] }

def m_common_MessageGpsStatus : GoStruct := { name := "MessageGpsStatus", fields := [
    { goName := "SatellitesVisible", elemType := "uint8" },
    { goName := "SatellitePrn", elemType := "uint8", isArray := true, arrLen := 20 },
    { goName := "SatelliteUsed", elemType := "uint8", isArray := true, arrLen := 20 },
    { goName := "SatelliteElevation", elemType := "uint8", isArray := true, arrLen := 20 },
    { goName := "SatelliteAzimuth", elemType := "uint8", isArray := true, arrLen := 20 },
    { goName := "SatelliteSnr", elemType := "uint8", isArray := true, arrLen := 20 }] }

def m_common_MessageHighLatency : GoStruct := { name := "MessageHighLatency", fields := [
    { goName := "BaseMode", elemType := "MAV_MODE_FLAG", elemIsUint64 := true, mavenum := "uint8" },
    { goName := "CustomMode", elemType := "uint32" },
    { goName := "LandedState", elemType := "MAV_LANDED_STATE", elemIsUint64 := true, mavenum := "uint8" },
    { goName := "Roll", elemType := "int16" },
    { goName := "Pitch", elemType := "int16" },
    { goName := "Heading", elemType := "uint16" },
    { goName := "Throttle", elemType := "int8" },
    { goName := "HeadingSp", elemType := "int16" },
    { goName := "Latitude", elemType := "int32" },
    { goName := "Longitude", elemType := "int32" },
    { goName := "AltitudeAmsl", elemType := "int16" },
    { goName := "AltitudeSp", elemType := "int16" },
    { goName := "Airspeed", elemType := "uint8" },
    { goName := "AirspeedSp", elemType := "uint8" },
    { goName := "Groundspeed", elemType := "uint8" },
    { goName := "ClimbRate", elemType := "int8" },
    { goName := "GpsNsat", elemType := "uint8" },
    { goName := "GpsFixType", elemType := "GPS_FIX_TYPE", elemIsUint64 := true, mavenum := "uint8" },
    { goName := "BatteryRemaining", elemType := "uint8" },
    { goName := "Temperature", elemType := "int8" },
    { goName := "TemperatureAir", elemType := "int8" },
    { goName := "Failsafe", elemType := "uint8" },
    { goName := "WpNum", elemType := "uint8" },
    { goName := "WpDistance", elemType := "uint16" }] }

def m_common_MessageHighLatency2 : GoStruct := { name := "MessageHighLatency2", fields := [
    { goName := "Timestamp", elemType := "uint32" },
    { goName := "Type", elemType := "MAV_TYPE", elemIsUint64 := true, mavenum := "uint8" },
    { goName := "Autopilot", elemType := "MAV_AUTOPILOT", elemIsUint64 := true, mavenum := "uint8" },
    { goName := "CustomMode", elemType := "uint16" },
    { goName := "Latitude", elemType := "int32" },
    { goName := "Longitude", elemType := "int32" },
    { goName := "Altitude", elemType := "int16" },
    { goName := "TargetAltitude", elemType := "int16" },
    { goName := "Heading", elemType := "uint8" },
    { goName := "TargetHeading", elemType := "uint8" },
    { goName := "TargetDistance", elemType := "uint16" },
    { goName := "Throttle", elemType := "uint8" },
    { goName := "Airspeed", elemType := "uint8" },
    { goName := "AirspeedSp", elemType := "uint8" },
    { goName := "Groundspeed", elemType := "uint8" },
    { goName := "Windspeed", elemType := "uint8" },
    { goName := "WindHeading", elemType := "uint8" },
    { goName := "Eph", elemType := "uint8" },
    { goName := "Epv", elemType := "uint8" },
    { goName := "TemperatureAir", elemType := "int8" },
    { goName := "ClimbRate", elemType := "int8" },
    { goName := "Battery", elemType := "int8" },
    { goName := "WpNum", elemType := "uint16" },
    { goName := "FailureFlags", elemType := "HL_FAILURE_FLAG", elemIsUint64 := true, mavenum := "uint16" },
    { goName := "Custom0", elemType := "int8" },
    { goName := "Custom1", elemType := "int8" },
    { goName := "Custom2", elemType := "int8" }] }

def m_common_MessageHighresImu : GoStruct := { name := "MessageHighresImu", fields := [
    { goName := "TimeUsec", elemType := "uint64", elemIsUint64 := true },
    { goName := "Xacc", elemType := "float32" },
    { goName := "Yacc", elemType := "float32" },
    { goName := "Zacc", elemType := "float32" },
    { goName := "Xgyro", elemType := "float32" },
    { goName := "Ygyro", elemType := "float32" },
    { goName := "Zgyro", elemType := "float32" },
    { goName := "Xmag", elemType := "float32" },
    { goName := "Ymag", elemType := "float32" },
    { goName := "Zmag", elemType := "float32" },
    { goName := "AbsPressure", elemType := "float32" },
    { goName := "DiffPressure", elemType := "float32" },
    { goName := "PressureAlt", elemType := "float32" },
    { goName := "Temperature", elemType := "float32" },
    { goName := "FieldsUpdated", elemType := "HIGHRES_IMU_UPDATED_FLAGS", elemIsUint64 := true, mavenum := "uint16" },
    { goName := "Id", elemType := "uint8", mavext := "true" }] }

def m_common_MessageHilActuatorControls : GoStruct := { name := "MessageHilActuatorControls", fields := [
    { goName := "TimeUsec", elemType := "uint64", elemIsUint64 := true },
    { goName := "Controls", elemType := "float32", isArray := true, arrLen := 16 },
    { goName := "Mode", elemType := "MAV_MODE_FLAG", elemIsUint64 := true, mavenum := "uint8" },
    { goName := "Flags", elemType := "uint64", elemIsUint64 := true }] }

def m_common_MessageHilControls : GoStruct := { name := "MessageHilControls", fields := [
    { goName := "TimeUsec", elemType := "uint64", elemIsUint64 := true },
    { goName := "RollAilerons", elemType := "float32" },
    { goName := "PitchElevator", elemType := "float32" },
    { goName := "YawRudder", elemType := "float32" },
    { goName := "Throttle", elemType := "float32" },
    { goName := "Aux1", elemType := "float32" },
    { goName := "Aux2", elemType := "float32" },
    { goName := "Aux3", elemType := "float32" },
    { goName := "Aux4", elemType := "float32" },
    { goName := "Mode", elemType := "MAV_MODE", elemIsUint64 := true, mavenum := "uint8" },
    { goName := "NavMode", elemType := "uint8" }] }

def m_common_MessageHilGps : GoStruct := { name := "MessageHilGps", fields := [
    { goName := "TimeUsec", elemType := "uint64", elemIsUint64 := true },
    { goName := "FixType", elemType := "uint8" },
    { goName := "Lat", elemType := "int32" },
    { goName := "Lon", elemType := "int32" },
    { goName := "Alt", elemType := "int32" },
    { goName := "Eph", elemType := "uint16" },
    { goName := "Epv", elemType := "uint16" },
    { goName := "Vel", elemType := "uint16" },
    { goName := "Vn", elemType := "int16" },
    { goName := "Ve", elemType := "int16" },
    { goName := "Vd", elemType := "int16" },
    { goName := "Cog", elemType := "uint16" },
    { goName := "SatellitesVisible", elemType := "uint8" },
    { goName := "Id", elemType := "uint8", mavext := "true" },
    { goName := "Yaw", elemType := "uint16", mavext := "true" }] }

def m_common_MessageHilOpticalFlow : GoStruct := { name := "MessageHilOpticalFlow", fields := [
    { goName := "TimeUsec", elemType := "uint64", elemIsUint64 := true },
    { goName := "SensorId", elemType := "uint8" },
    { goName := "IntegrationTimeUs", elemType := "uint32" },
    { goName := "IntegratedX", elemType := "float32" },
    { goName := "IntegratedY", elemType := "float32" },
    { goName := "IntegratedXgyro", elemType := "float32" },
    { goName := "IntegratedYgyro", elemType := "float32" },
    { goName := "IntegratedZgyro", elemType := "float32" },
    { goName := "Temperature", elemType := "int16" },
    { goName := "Quality", elemType := "uint8" },
    { goName := "TimeDeltaDistanceUs", elemType := "uint32" },
    { goName := "Distance", elemType := "float32" }] }

def m_common_MessageHilRcInputsRaw : GoStruct := { name := "MessageHilRcInputsRaw", fields := [
    { goName := "TimeUsec", elemType := "uint64", elemIsUint64 := true },
    { goName := "Chan1Raw", elemType := "uint16" },
    { goName := "Chan2Raw", elemType := "uint16" },
    { goName := "Chan3Raw", elemType := "uint16" },
    { goName := "Chan4Raw", elemType := "uint16" },
    { goName := "Chan5Raw", elemType := "uint16" },
    { goName := "Chan6Raw", elemType := "uint16" },
    { goName := "Chan7Raw", elemType := "uint16" },
    { goName := "Chan8Raw", elemType := "uint16" },
    { goName := "Chan9Raw", elemType := "uint16" },
    { goName := "Chan10Raw", elemType := "uint16" },
    { goName := "Chan11Raw", elemType := "uint16" },
    { goName := "Chan12Raw", elemType := "uint16" },
    { goName := "Rssi", elemType := "uint8" }] }

def m_common_MessageHilSensor : GoStruct := { name := "MessageHilSensor", fields := [
    { goName := "TimeUsec", elemType := "uint64", elemIsUint64 := true },
    { goName := "Xacc", elemType := "float32" },
    { goName := "Yacc", elemType := "float32" },
    { goName := "Zacc", elemType := "float32" },
    { goName := "Xgyro", elemType := "float32" },
    { goName := "Ygyro", elemType := "float32" },
    { goName := "Zgyro", elemType := "float32" },
    { goName := "Xmag", elemType := "float32" },
    { goName := "Ymag", elemType := "float32" },
    { goName := "Zmag", elemType := "float32" },
    { goName := "AbsPressure", elemType := "float32" },
    { goName := "DiffPressure", elemType := "float32" },
    { goName := "PressureAlt", elemType := "float32" },
    { goName := "Temperature", elemType := "float32" },
    { goName := "FieldsUpdated", elemType := "HIL_SENSOR_UPDATED_FLAGS", elemIsUint64 := true, mavenum := "uint32" },
    { goName := "Id", elemType := "uint8", mavext := "true" }] }

def m_common_MessageHilState : GoStruct := { name := "MessageHilState", fields := [
    { goName := "TimeUsec", elemType := "uint64", elemIsUint64 := true },
    { goName := "Roll", elemType := "float32" },
    { goName := "Pitch", elemType := "float32" },
    { goName := "Yaw", elemType := "float32" },
    { goName := "Rollspeed", elemType := "float32" },
    { goName := "Pitchspeed", elemType := "float32" },
    { goName := "Yawspeed", elemType := "float32" },
    { goName := "Lat", elemType := "int32" },
    { goName := "Lon", elemType := "int32" },
    { goName := "Alt", elemType := "int32" },
    { goName := "Vx", elemType := "int16" },
    { goName := "Vy", elemType := "int16" },
    { goName := "Vz", elemType := "int16" },
    { goName := "Xacc", elemType := "int16" },
    { goName := "Yacc", elemType := "int16" },
    { goName := "Zacc", elemType := "int16" }] }

def m_common_MessageHilStateQuaternion : GoStruct := { name := "MessageHilStateQuaternion", fields := [
    { goName := "TimeUsec", elemType := "uint64", elemIsUint64 := true },
    { goName := "AttitudeQuaternion", elemType := "float32", isArray := true, arrLen := 4 },
    { goName := "Rollspeed", elemType := "float32" },
    { goName := "Pitchspeed", elemType := "float32" },
    { goName := "Yawspeed", elemType := "float32" },
    { goName := "Lat", elemType := "int32" },
    { goName := "Lon", elemType := "int32" },
    { goName := "Alt", elemType := "int32" },
    { goName := "Vx", elemType := "int16" },
    { goName := "Vy", elemType := "int16" },
    { goName := "Vz", elemType := "int16" },
    { goName := "IndAirspeed", elemType := "uint16" },
    { goName := "TrueAirspeed", elemType := "uint16" },
    { goName := "Xacc", elemType := "int16" },
    { goName := "Yacc", elemType := "int16" },
    { goName := "Zacc", elemType := "int16" }] }

def m_common_MessageHomePosition : GoStruct := { name := "MessageHomePosition", fields := [
    { goName := "Latitude", elemType := "int32" },
    { goName := "Longitude", elemType := "int32" },
    { goName := "Altitude", elemType := "int32" },
    { goName := "X", elemType := "float32" },
    { goName := "Y", elemType := "float32" },
    { goName := "Z", elemType := "float32" },
    { goName := "Q", elemType := "float32", isArray := true, arrLen := 4 },
    { goName := "ApproachX", elemType := "float32" },
    { goName := "ApproachY", elemType := "float32" },
    { goName := "ApproachZ", elemType := "float32" },
    { goName := "TimeUsec", elemType := "uint64", elemIsUint64 := true, mavext := "true" }] }

def m_common_MessageHygrometerSensor : GoStruct := { name := "MessageHygrometerSensor", fields := [
    { goName := "Id", elemType := "uint8" },
    { goName := "Temperature", elemType := "int16" },
    { goName := "Humidity", elemType := "uint16" }] }

def m_common_MessageIlluminatorStatus : GoStruct := { name := "MessageIlluminatorStatus", fields := [
    { goName := "UptimeMs", elemType := "uint32" },
    { goName := "Enable", elemType := "uint8" },
    { goName := "ModeBitmask", elemType := "ILLUMINATOR_MODE", elemIsUint64 := true, mavenum := "uint8" },
    { goName := "ErrorStatus", elemType := "ILLUMINATOR_ERROR_FLAGS", elemIsUint64 := true, mavenum := "uint32" },
    { goName := "Mode", elemType := "ILLUMINATOR_MODE", elemIsUint64 := true, mavenum := "uint8" },
    { goName := "Brightness", elemType := "float32" },
    { goName := "StrobePeriod", elemType := "float32" },
    { goName := "StrobeDutyCycle", elemType := "float32" },
    { goName := "TempC", elemType := "float32" },
    { goName := "MinStrobePeriod", elemType := "float32" },
    { goName := "MaxStrobePeriod", elemType := "float32" }] }

def m_common_MessageIsbdLinkStatus : GoStruct := { name := "MessageIsbdLinkStatus", fields := [
    { goName := "Timestamp", elemType := "uint64", elemIsUint64 := true },
    { goName := "LastHeartbeat", elemType := "uint64", elemIsUint64 := true },
    { goName := "FailedSessions", elemType := "uint16" },
    { goName := "SuccessfulSessions", elemType := "uint16" },
    { goName := "SignalQuality", elemType := "uint8" },
    { goName := "RingPending", elemType := "uint8" },
    { goName := "TxSessionPending", elemType := "uint8" },
    { goName := "RxSessionPending", elemType := "uint8" }] }

def msgs_7 : List (String × Nat × GoStruct) := [
  ("common", 124, m_common_MessageGps2Raw),
  ("common", 128, m_common_MessageGps2Rtk),
  ("common", 49, m_common_MessageGpsGlobalOrigin),
  ("common", 123, m_common_MessageGpsInjectData),
  ("common", 232, m_common_MessageGpsInput),
  ("common", 24, m_common_MessageGpsRawInt),
  ("common", 233, m_common_MessageGpsRtcmData),
  ("common", 127, m_common_MessageGpsRtk),
  ("common", 25, m_common_MessageGpsStatus),
  ("common", 234, m_common_MessageHighLatency),
  ("common", 235, m_common_MessageHighLatency2),
  ("common", 105, m_common_MessageHighresImu),
  ("common", 93, m_common_MessageHilActuatorControls),
  ("common", 91, m_common_MessageHilControls),
  ("common", 113, m_common_MessageHilGps),
  ("common", 114, m_common_MessageHilOpticalFlow),
  ("common", 92, m_common_MessageHilRcInputsRaw),
  ("common", 107, m_common_MessageHilSensor),
  ("common", 90, m_common_MessageHilState),
  ("common", 115, m_common_MessageHilStateQuaternion),
  ("common", 242, m_common_MessageHomePosition),
  ("common", 12920, m_common_MessageHygrometerSensor),
  ("common", 440, m_common_MessageIlluminatorStatus),
  ("common", 335, m_common_MessageIsbdLinkStatus)]

end Mav.Gen
