-- GENERATED by tools/extract from pkg/dialects/*/message_*.go — do not edit
import Mav.Model.Msg
namespace Mav.Gen
open Mav.Msg

def m_common_MessageLandingTarget : GoStruct := { name := "MessageLandingTarget", fields := [
    { goName := "TimeUsec", elemType := "uint64", elemIsUint64 := true },
    { goName := "TargetNum", elemType := "uint8" },
    { goName := "Frame", elemType := "MAV_FRAME", elemIsUint64 := true, mavenum := "uint8" },
    { goName := "AngleX", elemType := "float32" },
    { goName := "AngleY", elemType := "float32" },
    { goName := "Distance", elemType := "float32" },
    { goName := "SizeX", elemType := "float32" },
    { goName := "SizeY", elemType := "float32" },
    { goName := "X", elemType := "float32", mavext := "true" },
    { goName := "Y", elemType := "float32", mavext := "true" },
    { goName := "Z", elemType := "float32", mavext := "true" },
    { goName := "Q", elemType := "float32", isArray := true, arrLen := 4, mavext := "true" },
    { goName := "Type", elemType := "LANDING_TARGET_TYPE", elemIsUint64 := true, mavenum := "uint8", mavext := "true" },
    { goName := "PositionValid", elemType := "uint8", mavext := "true" }] }

def m_common_MessageLinkNodeStatus : GoStruct := { name := "MessageLinkNodeStatus", fields := [
    { goName := "Timestamp", elemType := "uint64", elemIsUint64 := true },
    { goName := "TxBuf", elemType := "uint8" },
    { goName := "RxBuf", elemType := "uint8" },
    { goName := "TxRate", elemType := "uint32" },
    { goName := "RxRate", elemType := "uint32" },
    { goName := "RxParseErr", elemType := "uint16" },
    { goName := "TxOverflows", elemType := "uint16" },
    { goName := "RxOverflows", elemType := "uint16" },
    { goName := "MessagesSent", elemType := "uint32" },
    { goName := "MessagesReceived", elemType := "uint32" },
    { goName := "MessagesLost", elemType := "uint32" }] }

def m_common_MessageLocalPositionNed : GoStruct := { name := "MessageLocalPositionNed", fields := [
    { goName := "TimeBootMs", elemType := "uint32" },
    { goName := "X", elemType := "float32" },
    { goName := "Y", elemType := "float32" },
    { goName := "Z", elemType := "float32" },
    { goName := "Vx", elemType := "float32" },
    { goName := "Vy", elemType := "float32" },
    { goName := "Vz", elemType := "float32" }] }

def m_common_MessageLocalPositionNedCov : GoStruct := { name := "MessageLocalPositionNedCov", fields := [
    { goName := "TimeUsec", elemType := "uint64", elemIsUint64 := true },
    { goName := "EstimatorType", elemType := "MAV_ESTIMATOR_TYPE", elemIsUint64 := true, mavenum := "uint8" },
    { goName := "X", elemType := "float32" },
    { goName := "Y", elemType := "float32" },
    { goName := "Z", elemType := "float32" },
    { goName := "Vx", elemType := "float32" },
    { goName := "Vy", elemType := "float32" },
    { goName := "Vz", elemType := "float32" },
    { goName := "Ax", elemType := "float32" },
    { goName := "Ay", elemType := "float32" },
    { goName := "Az", elemType := "float32" },
    { goName := "Covariance", elemType := "float32", isArray := true, arrLen := 45 }] }

def m_common_MessageLocalPositionNedSystemGlobalOffset : GoStruct := { name := "MessageLocalPositionNedSystemGlobalOffset", fields := [
    { goName := "TimeBootMs", elemType := "uint32" },
    { goName := "X", elemType := "float32" },
    { goName := "Y", elemType := "float32" },
    { goName := "Z", elemType := "float32" },
    { goName := "Roll", elemType := "float32" },
    { goName := "Pitch", elemType := "float32" },
    { goName := "Yaw", elemType := "float32" }] }

def m_common_MessageLogData : GoStruct := { name := "MessageLogData", fields := [
    { goName := "Id", elemType := "uint16" },
    { goName := "Ofs", elemType := "uint32" },
    { goName := "Count", elemType := "uint8" },
    { goName := "Data", elemType := "uint8", isArray := true, arrLen := 90 }] }

def m_common_MessageLogEntry : GoStruct := { name := "MessageLogEntry", fields := [
    { goName := "Id", elemType := "uint16" },
    { goName := "NumLogs", elemType := "uint16" },
    { goName := "LastLogNum", elemType := "uint16" },
    { goName := "TimeUtc", elemType := "uint32" },
    { goName := "Size", elemType := "uint32" }] }

def m_common_MessageLogErase : GoStruct := { name := "MessageLogErase", fields := [
    { goName := "TargetSystem", elemType := "uint8" },
    { goName := "TargetComponent", elemType := "uint8" }] }

def m_common_MessageLogRequestData : GoStruct := { name := "MessageLogRequestData", fields := [
    { goName := "TargetSystem", elemType := "uint8" },
    { goName := "TargetComponent", elemType := "uint8" },
    { goName := "Id", elemType := "uint16" },
    { goName := "Ofs", elemType := "uint32" },
    { goName := "Count", elemType := "uint32" }] }

def m_common_MessageLogRequestEnd : GoStruct := { name := "MessageLogRequestEnd", fields := [
    { goName := "TargetSystem", elemType := "uint8" },
    { goName := "TargetComponent", elemType := "uint8" }] }

def m_common_MessageLogRequestList : GoStruct := { name := "MessageLogRequestList", fields := [
    { goName := "TargetSystem", elemType := "uint8" },
    { goName := "TargetComponent", elemType := "uint8" },
    { goName := "Start", elemType := "uint16" },
    { goName := "End", elemType := "uint16" }] }

def m_common_MessageLoggingAck : GoStruct := { name := "MessageLoggingAck", fields := [
    { goName := "TargetSystem", elemType := "uint8" },
    { goName := "TargetComponent", elemType := "uint8" },
    { goName := "Sequence", elemType := "uint16" }] }

def m_common_MessageLoggingData : GoStruct := { name := "MessageLoggingData", fields := [
    { goName := "TargetSystem", elemType := "uint8" },
    { goName := "TargetComponent", elemType := "uint8" },
    { goName := "Sequence", elemType := "uint16" },
    { goName := "Length", elemType := "uint8" },
    { goName := "FirstMessageOffset", elemType := "uint8" },
    { goName := "Data", elemType := "uint8", isArray := true, arrLen := 249 }] }

def m_common_MessageLoggingDataAcked : GoStruct := { name := "MessageLoggingDataAcked", fields := [
    { goName := "TargetSystem", elemType := "uint8" },
    { goName := "TargetComponent", elemType := "uint8" },
    { goName := "Sequence", elemType := "uint16" },
    { goName := "Length", elemType := "uint8" },
    { goName := "FirstMessageOffset", elemType := "uint8" },
    { goName := "Data", elemType := "uint8", isArray := true, arrLen := 249 }] }

def m_common_MessageMagCalReport : GoStruct := { name := "MessageMagCalReport", fields := [
    { goName := "CompassId", elemType := "uint8" },
    { goName := "CalMask", elemType := "uint8" },
    { goName := "CalStatus", elemType := "MAG_CAL_STATUS", elemIsUint64 := true, mavenum := "uint8" },
    { goName := "Autosaved", elemType := "uint8" },
    { goName := "Fitness", elemType := "float32" },
    { goName := "OfsX", elemType := "float32" },
    { goName := "OfsY", elemType := "float32" },
    { goName := "OfsZ", elemType := "float32" },
    { goName := "DiagX", elemType := "float32" },
    { goName := "DiagY", elemType := "float32" },
    { goName := "DiagZ", elemType := "float32" },
    { goName := "OffdiagX", elemType := "float32" },
    { goName := "OffdiagY", elemType := "float32" },
    { goName := "OffdiagZ", elemType := "float32" },
    { goName := "OrientationConfidence", elemType := "float32", mavext := "true" },
    { goName := "OldOrientation", elemType := "MAV_SENSOR_ORIENTATION", elemIsUint64 := true, mavenum := "uint8", mavext := "true" },
    { goName := "NewOrientation", elemType := "MAV_SENSOR_ORIENTATION", elemIsUint64 := true, mavenum := "uint8", mavext := "true" },
    { goName := "ScaleFactor", elemType := "float32", mavext := "true" }] }

def m_common_MessageManualControl : GoStruct := { name := "MessageManualControl", fields := [
    { goName := "Target", elemType := "uint8" },
    { goName := "X", elemType := "int16" },
    { goName := "Y", elemType := "int16" },
    { goName := "Z", elemType := "int16" },
    { goName := "R", elemType := "int16" },
    { goName := "Buttons", elemType := "uint16" },
    { goName := "Buttons2", elemType := "uint16", mavext := "true" },
    { goName := "EnabledExtensions", elemType := "uint8", mavext := "true" },
    { goName := "S", elemType := "int16", mavext := "true" },
    { goName := "T", elemType := "int16", mavext := "true" },
    { goName := "Aux1", elemType := "int16", mavext := "true" },
    { goName := "Aux2", elemType := "int16", mavext := "true" },
    { goName := "Aux3", elemType := "int16", mavext := "true" },
    { goName := "Aux4", elemType := "int16", mavext := "true" },
    { goName := "Aux5", elemType := "int16", mavext := "true" },
    { goName := "Aux6", elemType := "int16", mavext := "true" }] }

def m_common_MessageManualSetpoint : GoStruct := { name := "MessageManualSetpoint", fields := [
    { goName := "TimeBootMs", elemType := "uint32" },
    { goName := "Roll", elemType := "float32" },
    { goName := "Pitch", elemType := "float32" },
    { goName := "Yaw", elemType := "float32" },
    { goName := "Thrust", elemType := "float32" },
    { goName := "ModeSwitch", elemType := "uint8" },
    { goName := "ManualOverrideSwitch", elemType := "uint8" }] }

def m_common_MessageMemoryVect : GoStruct := { name := "MessageMemoryVect", fields := [
    { goName := "Address", elemType := "uint16" },
    { goName := "Ver", elemType := "uint8" },
    { goName := "Type", elemType := "uint8" },
    { goName := "Value", elemType := "int8", isArray := true, arrLen := 32 }] }

def m_common_MessageMessageInterval : GoStruct := { name := "MessageMessageInterval", fields := [
    { goName := "MessageId", elemType := "uint16" },
    { goName := "IntervalUs", elemType := "int32" }] }

def m_common_MessageMissionAck : GoStruct := { name := "MessageMissionAck", fields := [
    { goName := "TargetSystem", elemType := "uint8" },
    { goName := "TargetComponent", elemType := "uint8" },
    { goName := "Type", elemType := "MAV_MISSION_RESULT", elemIsUint64 := true, mavenum := "uint8" },
    { goName := "MissionType", elemType := "MAV_MISSION_TYPE", elemIsUint64 := true, mavenum := "uint8", mavext := "true" },
    { goName := "OpaqueId", elemType := "uint32", mavext := "true" }] }

def m_common_MessageMissionClearAll : GoStruct := { name := "MessageMissionClearAll", fields := [
    { goName := "TargetSystem", elemType := "uint8" },
    { goName := "TargetComponent", elemType := "uint8" },
    { goName := "MissionType", elemType := "MAV_MISSION_TYPE", elemIsUint64 := true, mavenum := "uint8", mavext := "true" }] }

def m_common_MessageMissionCount : GoStruct := { name := "MessageMissionCount", fields := [
    { goName := "TargetSystem", elemType := "uint8" },
    { goName := "TargetComponent", elemType := "uint8" },
    { goName := "Count", elemType := "uint16" },
    { goName := "MissionType", elemType := "MAV_MISSION_TYPE", elemIsUint64 := true, mavenum := "uint8", mavext := "true" },
    { goName := "OpaqueId", elemType := "uint32", mavext := "true" }] }

def m_common_MessageMissionCurrent : GoStruct := { name := "MessageMissionCurrent", fields := [
    { goName := "Seq", elemType := "uint16" },
    { goName := "Total", elemType := "uint16", mavext := "true" },
    { goName := "MissionState", elemType := "MISSION_STATE", elemIsUint64 := true, mavenum := "uint8", mavext := "true" },
    { goName := "MissionMode", elemType := "uint8", mavext := "true" },
    { goName := "MissionId", elemType := "uint32", mavext := "true" },
    { goName := "FenceId", elemType := "uint32", mavext := "true" },
    { goName := "RallyPointsId", elemType := "uint32", mavext := "true" }] }

def m_common_MessageMissionItem : GoStruct := { name := "MessageMissionItem", fields := [
    { goName := "TargetSystem", elemType := "uint8" },
    { goName := "TargetComponent", elemType := "uint8" },
    { goName := "Seq", elemType := "uint16" },
    { goName := "Frame", elemType := "MAV_FRAME", elemIsUint64 := true, mavenum := "uint8" },
    { goName := "Command", elemType := "MAV_CMD", elemIsUint64 := true, mavenum := "uint16" },
    { goName := "Current", elemType := "uint8" },
    { goName := "Autocontinue", elemType := "uint8" },
    { goName := "Param1", elemType := "float32" },
    { goName := "Param2", elemType := "float32" },
    { goName := "Param3", elemType := "float32" },
    { goName := "Param4", elemType := "float32" },
    { goName := "X", elemType := "float32" },
    { goName := "Y", elemType := "float32" },
    { goName := "Z", elemType := "float32" },
    { goName := "MissionType", elemType := "MAV_MISSION_TYPE", elemIsUint64 := true, mavenum := "uint8", mavext := "true" }] }

def msgs_8 : List (String × Nat × GoStruct) := [
  ("common", 149, m_common_MessageLandingTarget),
  ("common", 8, m_common_MessageLinkNodeStatus),
  ("common", 32, m_common_MessageLocalPositionNed),
  ("common", 64, m_common_MessageLocalPositionNedCov),
  ("common", 89, m_common_MessageLocalPositionNedSystemGlobalOffset),
  ("common", 120, m_common_MessageLogData),
  ("common", 118, m_common_MessageLogEntry),
  ("common", 121, m_common_MessageLogErase),
  ("common", 119, m_common_MessageLogRequestData),
  ("common", 122, m_common_MessageLogRequestEnd),
  ("common", 117, m_common_MessageLogRequestList),
  ("common", 268, m_common_MessageLoggingAck),
  ("common", 266, m_common_MessageLoggingData),
  ("common", 267, m_common_MessageLoggingDataAcked),
  ("common", 192, m_common_MessageMagCalReport),
  ("common", 69, m_common_MessageManualControl),
  ("common", 81, m_common_MessageManualSetpoint),
  ("common", 249, m_common_MessageMemoryVect),
  ("common", 244, m_common_MessageMessageInterval),
  ("common", 47, m_common_MessageMissionAck),
  ("common", 45, m_common_MessageMissionClearAll),
  ("common", 44, m_common_MessageMissionCount),
  ("common", 42, m_common_MessageMissionCurrent),
  ("common", 39, m_common_MessageMissionItem)]

end Mav.Gen
