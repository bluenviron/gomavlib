-- GENERATED by tools/extract from pkg/dialects/*/message_*.go — do not edit
import Mav.Model.Msg
namespace Mav.Gen
open Mav.Msg

def m_common_MessageMissionItemInt : GoStruct := { name := "MessageMissionItemInt", fields := [
    { goName := "TargetSystem", elemType := "uint8" },
    { goName := "TargetComponent", elemType := "uint8" },
    { goName := "Seq", elemType := "uint16" },
    { goName := "Frame", elemType := "MAV_FRAME", elemIsUint64 := true, mavenum := "uint8" },
    { goName := "Command", elemType := "MAV_CMD", elemIsUint64 := true, mavenum := "uint16" },
    { goName := "Current", elemType := "uint8" },
    { goName := "Autocontinue", elemType := "uint8" },
    { goName := "Param1", elemType := "float32" },
    { goName := "Param2", elemType := "float32" },
    { goName := "Param3", elemType := "float32" },
    { goName := "Param4", elemType := "float32" },
    { goName := "X", elemType := "int32" },
    { goName := "Y", elemType := "int32" },
    { goName := "Z", elemType := "float32" },
    { goName := "MissionType", elemType := "MAV_MISSION_TYPE", elemIsUint64 := true, mavenum := "uint8", mavext := "true" }] }

def m_common_MessageMissionItemReached : GoStruct := { name := "MessageMissionItemReached", fields := [
    { goName := "Seq", elemType := "uint16" }] }

def m_common_MessageMissionRequest : GoStruct := { name := "MessageMissionRequest", fields := [
    { goName := "TargetSystem", elemType := "uint8" },
    { goName := "TargetComponent", elemType := "uint8" },
    { goName := "Seq", elemType := "uint16" },
    { goName := "MissionType", elemType := "MAV_MISSION_TYPE", elemIsUint64 := true, mavenum := "uint8", mavext := "true" }] }

def m_common_MessageMissionRequestInt : GoStruct := { name := "MessageMissionRequestInt", fields := [
    { goName := "TargetSystem", elemType := "uint8" },
    { goName := "TargetComponent", elemType := "uint8" },
    { goName := "Seq", elemType := "uint16" },
    { goName := "MissionType", elemType := "MAV_MISSION_TYPE", elemIsUint64 := true, mavenum := "uint8", mavext := "true" }] }

def m_common_MessageMissionRequestList : GoStruct := { name := "MessageMissionRequestList", fields := [
    { goName := "TargetSystem", elemType := "uint8" },
    { goName := "TargetComponent", elemType := "uint8" },
    { goName := "MissionType", elemType := "MAV_MISSION_TYPE", elemIsUint64 := true, mavenum := "uint8", mavext := "true" }] }

def m_common_MessageMissionRequestPartialList : GoStruct := { name := "MessageMissionRequestPartialList", fields := [
    { goName := "TargetSystem", elemType := "uint8" },
    { goName := "TargetComponent", elemType := "uint8" },
    { goName := "StartIndex", elemType := "int16" },
    { goName := "EndIndex", elemType := "int16" },
    { goName := "MissionType", elemType := "MAV_MISSION_TYPE", elemIsUint64 := true, mavenum := "uint8", mavext := "true" }] }

def m_common_MessageMissionSetCurrent : GoStruct := { name := "MessageMissionSetCurrent", fields := [
    { goName := "TargetSystem", elemType := "uint8" },
    { goName := "TargetComponent", elemType := "uint8" },
    { goName := "Seq", elemType := "uint16" }] }

def m_common_MessageMissionWritePartialList : GoStruct := { name := "MessageMissionWritePartialList", fields := [
    { goName := "TargetSystem", elemType := "uint8" },
    { goName := "TargetComponent", elemType := "uint8" },
    { goName := "StartIndex", elemType := "int16" },
    { goName := "EndIndex", elemType := "int16" },
    { goName := "MissionType", elemType := "MAV_MISSION_TYPE", elemIsUint64 := true, mavenum := "uint8", mavext := "true" }] }

def m_common_MessageMountOrientation : GoStruct := { name := "MessageMountOrientation", fields := [
    { goName := "TimeBootMs", elemType := "uint32" },
    { goName := "Roll", elemType := "float32" },
    { goName := "Pitch", elemType := "float32" },
    { goName := "Yaw", elemType := "float32" },
    { goName := "YawAbsolute", elemType := "float32", mavext := "true" }] }

def m_common_MessageNamedValueFloat : GoStruct := { name := "MessageNamedValueFloat", fields := [
    { goName := "TimeBootMs", elemType := "uint32" },
    { goName := "Name", elemType := "string", mavlen := "10" },
    { goName := "Value", elemType := "float32" }] }

def m_common_MessageNamedValueInt : GoStruct := { name := "MessageNamedValueInt", fields := [
    { goName := "TimeBootMs", elemType := "uint32" },
    { goName := "Name", elemType := "string", mavlen := "10" },
    { goName := "Value", elemType := "int32" }] }

def m_common_MessageNavControllerOutput : GoStruct := { name := "MessageNavControllerOutput", fields := [
    { goName := "NavRoll", elemType := "float32" },
    { goName := "NavPitch", elemType := "float32" },
    { goName := "NavBearing", elemType := "int16" },
    { goName := "TargetBearing", elemType := "int16" },
    { goName := "WpDist", elemType := "uint16" },
    { goName := "AltError", elemType := "float32" },
    { goName := "AspdError", elemType := "float32" },
    { goName := "XtrackError", elemType := "float32" }] }

def m_common_MessageObstacleDistance : GoStruct := { name := "MessageObstacleDistance", fields := [
    { goName := "TimeUsec", elemType := "uint64", elemIsUint64 := true },
    { goName := "SensorType", elemType := "MAV_DISTANCE_SENSOR", elemIsUint64 := true, mavenum := "uint8" },
    { goName := "Distances", elemType := "uint16", isArray := true, arrLen := 72 },
    { goName := "Increment", elemType := "uint8" },
    { goName := "MinDistance", elemType := "uint16" },
    { goName := "MaxDistance", elemType := "uint16" },
    { goName := "IncrementF", elemType := "float32", mavext := "true" },
    { goName := "AngleOffset", elemType := "float32", mavext := "true" },
    { goName := "Frame", elemType := "MAV_FRAME", elemIsUint64 := true, mavenum := "uint8", mavext := "true" }] }

def m_common_MessageOdometry : GoStruct := { name := "MessageOdometry", fields := [
    { goName := "TimeUsec", elemType := "uint64", elemIsUint64 := true },
    { goName := "FrameId", elemType := "MAV_FRAME", elemIsUint64 := true, mavenum := "uint8" },
    { goName := "ChildFrameId", elemType := "MAV_FRAME", elemIsUint64 := true, mavenum := "uint8" },
    { goName := "X", elemType := "float32" },
    { goName := "Y", elemType := "float32" },
    { goName := "Z", elemType := "float32" },
    { goName := "Q", elemType := "float32", isArray := true, arrLen := 4 },
    { goName := "Vx", elemType := "float32" },
    { goName := "Vy", elemType := "float32" },
    { goName := "Vz", elemType := "float32" },
    { goName := "Rollspeed", elemType := "float32" },
    { goName := "Pitchspeed", elemType := "float32" },
    { goName := "Yawspeed", elemType := "float32" },
    { goName := "PoseCovariance", elemType := "float32", isArray := true, arrLen := 21 },
    { goName := "VelocityCovariance", elemType := "float32", isArray := true, arrLen := 21 },
    { goName := "ResetCounter", elemType := "uint8", mavext := "true" },
    { goName := "EstimatorType", elemType := "MAV_ESTIMATOR_TYPE", elemIsUint64 := true, mavenum := "uint8", mavext := "true" },
    { goName := "Quality", elemType := "int8", mavext := "true" }] }

def m_common_MessageOnboardComputerStatus : GoStruct := { name := "MessageOnboardComputerStatus", fields := [
    { goName := "TimeUsec", elemType := "uint64", elemIsUint64 := true },
    { goName := "Uptime", elemType := "uint32" },
    { goName := "Type", elemType := "uint8" },
    { goName := "CpuCores", elemType := "uint8", isArray := true, arrLen := 8 },
    { goName := "CpuCombined", elemType := "uint8", isArray := true, arrLen := 10 },
    { goName := "GpuCores", elemType := "uint8", isArray := true, arrLen := 4 },
    { goName := "GpuCombined", elemType := "uint8", isArray := true, arrLen := 10 },
    { goName := "TemperatureBoard", elemType := "int8" },
    { goName := "TemperatureCore", elemType := "int8", isArray := true, arrLen := 8 },
    { goName := "FanSpeed", elemType := "int16", isArray := true, arrLen := 4 },
    { goName := "RamUsage", elemType := "uint32" },
    { goName := "RamTotal", elemType := "uint32" },
    { goName := "StorageType", elemType := "uint32", isArray := true, arrLen := 4 },
    { goName := "StorageUsage", elemType := "uint32", isArray := true, arrLen := 4 },
    { goName := "StorageTotal", elemType := "uint32", isArray := true, arrLen := 4 },
    { goName := "LinkType", elemType := "uint32", isArray := true, arrLen := 6 },
    { goName := "LinkTxRate", elemType := "uint32", isArray := true, arrLen := 6 },
    { goName := "LinkRxRate", elemType := "uint32", isArray := true, arrLen := 6 },
    { goName := "LinkTxMax", elemType := "uint32", isArray := true, arrLen := 6 },
    { goName := "LinkRxMax", elemType := "uint32", isArray := true, arrLen := 6 }] }

def m_common_MessageOpenDroneIdArmStatus : GoStruct := { name := "MessageOpenDroneIdArmStatus", fields := [
    { goName := "Status", elemType := "MAV_ODID_ARM_STATUS", elemIsUint64 := true, mavenum := "uint8" },
    { goName := "Error", elemType := "string", mavlen := "50" }] }

def m_common_MessageOpenDroneIdAuthentication : GoStruct := { name := "MessageOpenDroneIdAuthentication", fields := [
    { goName := "TargetSystem", elemType := "uint8" },
    { goName := "TargetComponent", elemType := "uint8" },
    { goName := "IdOrMac", elemType := "uint8", isArray := true, arrLen := 20 },
    { goName := "AuthenticationType", elemType := "MAV_ODID_AUTH_TYPE", elemIsUint64 := true, mavenum := "uint8" },
    { goName := "DataPage", elemType := "uint8" },
    { goName := "LastPageIndex", elemType := "uint8" },
    { goName := "Length", elemType := "uint8" },
    { goName := "Timestamp", elemType := "uint32" },
    { goName := "AuthenticationData", elemType := "uint8", isArray := true, arrLen := 23 }] }

def m_common_MessageOpenDroneIdBasicId : GoStruct := { name := "MessageOpenDroneIdBasicId", fields := [
    { goName := "TargetSystem", elemType := "uint8" },
    { goName := "TargetComponent", elemType := "uint8" },
    { goName := "IdOrMac", elemType := "uint8", isArray := true, arrLen := 20 },
    { goName := "IdType", elemType := "MAV_ODID_ID_TYPE", elemIsUint64 := true, mavenum := "uint8" },
    { goName := "UaType", elemType := "MAV_ODID_UA_TYPE", elemIsUint64 := true, mavenum := "uint8" },
    { goName := "UasId", elemType := "uint8", isArray := true, arrLen := 20 }] }

def m_common_MessageOpenDroneIdLocation : GoStruct := { name := "MessageOpenDroneIdLocation", fields := [
    { goName := "TargetSystem", elemType := "uint8" },
    { goName := "TargetComponent", elemType := "uint8" },
    { goName := "IdOrMac", elemType := "uint8", isArray := true, arrLen := 20 },
    { goName := "Status", elemType := "MAV_ODID_STATUS", elemIsUint64 := true, mavenum := "uint8" },
    { goName := "Direction", elemType := "uint16" },
    { goName := "SpeedHorizontal", elemType := "uint16" },
    { goName := "SpeedVertical", elemType := "int16" },
    { goName := "Latitude", elemType := "int32" },
    { goName := "Longitude", elemType := "int32" },
    { goName := "AltitudeBarometric", elemType := "float32" },
    { goName := "AltitudeGeodetic", elemType := "float32" },
    { goName := "HeightReference", elemType := "MAV_ODID_HEIGHT_REF", elemIsUint64 := true, mavenum := "uint8" },
    { goName := "Height", elemType := "float32" },
    { goName := "HorizontalAccuracy", elemType := "MAV_ODID_HOR_ACC", elemIsUint64 := true, mavenum := "uint8" },
    { goName := "VerticalAccuracy", elemType := "MAV_ODID_VER_ACC", elemIsUint64 := true, mavenum := "uint8" },
    { goName := "BarometerAccuracy", elemType := "MAV_ODID_VER_ACC", elemIsUint64 := true, mavenum := "uint8" },
    { goName := "SpeedAccuracy", elemType := "MAV_ODID_SPEED_ACC", elemIsUint64 := true, mavenum := "uint8" },
    { goName := "Timestamp", elemType := "float32" },
    { goName := "TimestampAccuracy", elemType := "MAV_ODID_TIME_ACC", elemIsUint64 := true, mavenum := "uint8" }] }

def m_common_MessageOpenDroneIdMessagePack : GoStruct := { name := "MessageOpenDroneIdMessagePack", fields := [
    { goName := "TargetSystem", elemType := "uint8" },
    { goName := "TargetComponent", elemType := "uint8" },
    { goName := "IdOrMac", elemType := "uint8", isArray := true, arrLen := 20 },
    { goName := "SingleMessageSize", elemType := "uint8" },
    { goName := "MsgPackSize", elemType := "uint8" },
    { goName := "Messages", elemType := "uint8", isArray := true, arrLen := 225 }] }

def m_common_MessageOpenDroneIdOperatorId : GoStruct := { name := "MessageOpenDroneIdOperatorId", fields := [
    { goName := "TargetSystem", elemType := "uint8" },
    { goName := "TargetComponent", elemType := "uint8" },
    { goName := "IdOrMac", elemType := "uint8", isArray := true, arrLen := 20 },
    { goName := "OperatorIdType", elemType := "MAV_ODID_OPERATOR_ID_TYPE", elemIsUint64 := true, mavenum := "uint8" },
    { goName := "OperatorId", elemType := "string", mavlen := "20" }] }

def m_common_MessageOpenDroneIdSelfId : GoStruct := { name := "MessageOpenDroneIdSelfId", fields := [
    { goName := "TargetSystem", elemType := "uint8" },
    { goName := "TargetComponent", elemType := "uint8" },
    { goName := "IdOrMac", elemType := "uint8", isArray := true, arrLen := 20 },
    { goName := "DescriptionType", elemType := "MAV_ODID_DESC_TYPE", elemIsUint64 := true, mavenum := "uint8" },
    { goName := "Description", elemType := "string", mavlen := "23" }] }

def m_common_MessageOpenDroneIdSystem : GoStruct := { name := "MessageOpenDroneIdSystem", fields := [
    { goName := "TargetSystem", elemType := "uint8" },
    { goName := "TargetComponent", elemType := "uint8" },
    { goName := "IdOrMac", elemType := "uint8", isArray := true, arrLen := 20 },
    { goName := "OperatorLocationType", elemType := "MAV_ODID_OPERATOR_LOCATION_TYPE", elemIsUint64 := true, mavenum := "uint8" },
    { goName := "ClassificationType", elemType := "MAV_ODID_CLASSIFICATION_TYPE", elemIsUint64 := true, mavenum := "uint8" },
    { goName := "OperatorLatitude", elemType := "int32" },
    { goName := "OperatorLongitude", elemType := "int32" },
    { goName := "AreaCount", elemType := "uint16" },
    { goName := "AreaRadius", elemType := "uint16" },
    { goName := "AreaCeiling", elemType := "float32" },
    { goName := "AreaFloor", elemType := "float32" },
    { goName := "CategoryEu", elemType := "MAV_ODID_CATEGORY_EU", elemIsUint64 := true, mavenum := "uint8" },
    { goName := "ClassEu", elemType := "MAV_ODID_CLASS_EU", elemIsUint64 := true, mavenum := "uint8" },
    { goName := "OperatorAltitudeGeo", elemType := "float32" },
    { goName := "Timestamp", elemType := "uint32" }] }

def m_common_MessageOpenDroneIdSystemUpdate : GoStruct := { name := "MessageOpenDroneIdSystemUpdate", fields := [
    { goName := "TargetSystem", elemType := "uint8" },
    { goName := "TargetComponent", elemType := "uint8" },
    { goName := "OperatorLatitude", elemType := "int32" },
    { goName := "OperatorLongitude", elemType := "int32" },
    { goName := "OperatorAltitudeGeo", elemType := "float32" },
    { goName := "Timestamp", elemType := "uint32" }] }

def msgs_9 : List (String × Nat × GoStruct) := [
  ("common", 73, m_common_MessageMissionItemInt),
  ("common", 46, m_common_MessageMissionItemReached),
  ("common", 40, m_common_MessageMissionRequest),
  ("common", 51, m_common_MessageMissionRequestInt),
  ("common", 43, m_common_MessageMissionRequestList),
  ("common", 37, m_common_MessageMissionRequestPartialList),
  ("common", 41, m_common_MessageMissionSetCurrent),
  ("common", 38, m_common_MessageMissionWritePartialList),
  ("common", 265, m_common_MessageMountOrientation),
  ("common", 251, m_common_MessageNamedValueFloat),
  ("common", 252, m_common_MessageNamedValueInt),
  ("common", 62, m_common_MessageNavControllerOutput),
  ("common", 330, m_common_MessageObstacleDistance),
  ("common", 331, m_common_MessageOdometry),
  ("common", 390, m_common_MessageOnboardComputerStatus),
  ("common", 12918, m_common_MessageOpenDroneIdArmStatus),
  ("common", 12902, m_common_MessageOpenDroneIdAuthentication),
  ("common", 12900, m_common_MessageOpenDroneIdBasicId),
  ("common", 12901, m_common_MessageOpenDroneIdLocation),
  ("common", 12915, m_common_MessageOpenDroneIdMessagePack),
  ("common", 12905, m_common_MessageOpenDroneIdOperatorId),
  ("common", 12903, m_common_MessageOpenDroneIdSelfId),
  ("common", 12904, m_common_MessageOpenDroneIdSystem),
  ("common", 12919, m_common_MessageOpenDroneIdSystemUpdate)]

end Mav.Gen
