import Mav.Model.EnumText
/-
  Decidable well-formedness of an enum table, used by the enumerated (G-table) theorems of C19:
  what the Go compiler guarantees of a generated enum file (distinct constant names, distinct map keys),
  MAVLink naming (identifiers: no leading digit or sign, no blank), values within 64 bits, and — for bitmask
  enums — that MarshalText ranges over every declared value.
-/
namespace Mav.EnumText

/-- a Go identifier cannot start like a numeral -/
def nameOk (n : String) : Bool :=
  match n.toList with
  | [] => false
  | c :: _ => !(('0' ≤ c && c ≤ '9') || c == '-' || c == '+')

def distinctBy {α β} [BEq β] (f : α → β) : List α → Bool
  | [] => true
  | x :: r => r.all (fun y => !(f x == f y)) && distinctBy f r

/-- decidable well-formedness of an enum table (what the Go compiler guarantees of the generated file, plus MAVLink naming) -/
def tableOk (d : EnumDef) : Bool :=
  d.consts.all (fun c => nameOk c.1 && decide (c.2 < 2 ^ 64)) &&
  distinctBy (fun c : String × Nat => c.1.toList) d.consts &&
  distinctBy (fun c : String × Nat => c.2) d.consts

def noSpace (d : EnumDef) : Bool := d.consts.all (fun c => c.1.toList.all (· != ' '))

/-- the repaired template ranges over every declared value, in declaration order -/
def listOk (d : EnumDef) : Bool :=
  match d.form with
  | .valueList vs => vs == d.consts.map (·.2)
  | _ => false


def enumOk (d : EnumDef) : Bool :=
  tableOk d && (match d.form with
    | .plain => true
    | .valueList _ => listOk d && noSpace d
    | .bitLoop _ => false)

/-- the part of `enumOk` that only looks at VALUES (cheap for the kernel; decided for every shipped enum in `C19.shipped_values_ok`) -/
def valuesOk (d : EnumDef) : Bool :=
  d.consts.all (fun c => decide (c.2 < 2 ^ 64)) &&
  distinctBy (fun c : String × Nat => c.2) d.consts &&
  (match d.form with
    | .plain => true
    | .valueList _ => listOk d
    | .bitLoop _ => false)

/-- the part that looks at NAMES (string contents are very slow in the kernel: evaluated by the compiled driver on
    every run for every shipped enum, and guaranteed for real code by the Go compiler / MAVLink naming) -/
def namesOk (d : EnumDef) : Bool :=
  d.consts.all (fun c => nameOk c.1) &&
  distinctBy (fun c : String × Nat => c.1.toList) d.consts &&
  noSpace d

theorem enumOk_of_parts (d : EnumDef) (hv : valuesOk d = true) (hn : namesOk d = true) : enumOk d = true := by
  simp only [valuesOk, namesOk, enumOk, tableOk, Bool.and_eq_true, List.all_eq_true, decide_eq_true_eq] at *
  obtain ⟨⟨hv1, hv2⟩, hv3⟩ := hv
  obtain ⟨⟨hn1, hn2⟩, hn3⟩ := hn
  refine ⟨⟨⟨fun c hc => ⟨hn1 c hc, hv1 c hc⟩, hn2⟩, hv2⟩, ?_⟩
  cases hf : d.form <;> simp_all

end Mav.EnumText
