import Mav.Gen.Consts
/-
  MODEL of the node's goroutine protocol (node.go, channel.go, channel_provider.go) as a labelled transition system
  over an UNBOUNDED set of channels (`Cid → ChanSt`). One step = one rendezvous on an unbuffered Go channel, one
  non-blocking action, or one environment action (a transport read/write completing, the application calling Close).
  A `select` with several enabled cases is one step per case (the model over-approximates Go's random choice).

  Modelled after the fixes recorded in known_findings.txt:
    * pushEvent tests `terminate` first (pSkip), then selects between delivering (pDeliver) and `terminate` (pDrop);
    * runWriter survives a failed write (wFail returns to `idle`);
    * Channel.run, when its context is cancelled, closes the transport BEFORE waiting for the writer
      (cCtxDone → bCloseRwc → bTermW → bRecvW → bRecvR), so that a write blocked in the transport cannot hang Close.

  The steps rReadOk / cARecvW / cBRecvR carry the premise `push = idle` (the goroutine is not inside pushEvent) and
  newChanTerm carries premises saying that the channel is fresh; they are redundant (theorems `premises_redundant` in
  Mav/Proofs/Node.lean: they follow from the invariant `Shape`) and only spare the other proofs a case split.

  Ghost fields (not in the code, only for stating the theorems): consumed, taken, want, closeEv, produced, delivered, acc, done, seen,
  and the global logs `log`, `disp`.
-/
namespace Mav.Nd

abbrev Cid := Nat

def qcap : Nat := Gen.writeBufferSize

/-- something written through the node: the payload is abstract (a tag) -/
abbrev Item := Nat

/-- result of one `frame.Reader.Read` on the channel's transport -/
inductive RdRes | frame (f : Nat) | perr | fatal (e : Nat)
deriving DecidableEq, Repr

/-- events as the application sees them (for one channel) -/
inductive Ev | opn | frame (f : Nat) | perr | close (e : Option Nat)
deriving DecidableEq, Repr

/-- a call of `Node.pushEvent` on behalf of the channel (by its reader, or by `Channel.run` for the close event — never both
    at once): `begin ev` = about to test `terminate`; `pushing ev` = blocked in the second select -/
inductive PushPc | idle | begin (ev : Ev) | pushing (ev : Ev)
deriving DecidableEq, Repr

/-- reader goroutine: `waitPush` = inside pushEvent -/
inductive RPc | waitPush | read | sendDone (e : Nat) | exited
deriving DecidableEq, Repr

/-- writer goroutine -/
inductive WPc | idle | writing (it : Item) | sendDone | exited
deriving DecidableEq, Repr

/-- `Channel.run` -/
inductive CPc
  | notStarted | wait
  | aCloseRwc (e : Nat) | aTermW (e : Nat) | aRecvW (e : Nat)
  | bTermW | bRecvW | bCloseRwc | bRecvR
  | closeWait | sendCloseChan | finished
deriving DecidableEq, Repr

structure ChanSt where
  rp : RPc := .waitPush
  push : PushPc := .begin .opn
  wp : WPc := .idle
  cp : CPc := .notStarted
  inputs : List RdRes := []
  queue : List Item := []
  ctxDone : Bool := false
  rwcClosed : Bool := false
  writerTerm : Bool := false
  -- ghost
  consumed : List RdRes := []          -- non-fatal results returned by Read so far
  want : List Ev := [.opn]             -- events the channel has decided to emit, in order
  produced : List Ev := []             -- events whose pushEvent got past the terminate test
  delivered : List Ev := []            -- events received by the application
  closeEv : List Ev := []              -- the close event, once Channel.run has decided on it
  taken : List RdRes := []             -- every result the transport has returned to the reader so far
  acc : List Item := []                -- everything ever enqueued for this channel
  done : List (Item × Bool) := []      -- transport writes completed: (item, succeeded)
  seen : List Item := []               -- everything dispatched while the channel was a member and was a target

inductive NPc | loop | epilogue | waiting | done
deriving DecidableEq, Repr

inductive Tgt | all | to (c : Cid) | except (c : Cid)
deriving DecidableEq, Repr

def Tgt.hits : Tgt → Cid → Bool
  | .all, _ => true
  | .to c, d => c == d
  | .except c, d => c != d

structure St where
  chans : Cid → ChanSt
  members : List Cid := []
  npc : NPc := .loop
  terminate : Bool := false
  provDone : Bool := false            -- every provider goroutine has exited
  evClosed : Bool := false            -- close(chEvent) executed
  log : List (Cid × Ev) := []         -- ghost: global order of delivered events
  disp : List (Tgt × Item) := []      -- ghost: dispatch order (linearisation of the Write* calls)

def upd (s : St) (c : Cid) (f : ChanSt → ChanSt) : St :=
  { s with chans := fun i => if i = c then f (s.chans i) else s.chans i }

def toEv : RdRes → Option Ev
  | .frame f => some (.frame f)
  | .perr => some .perr
  | .fatal _ => none

def evsOf (l : List RdRes) : List Ev := l.filterMap toEv

/-- effect of `Channel.write` on one channel during a dispatch. `pick c` resolves Go's random choice between a ready send
    and a ready `ctx.Done()`; it is irrelevant while the channel's context is live. -/
def enq (s : St) (t : Tgt) (it : Item) (pick : Cid → Bool) (c : Cid) (x : ChanSt) : ChanSt :=
  if s.members.contains c && t.hits c then
    let x := { x with seen := x.seen ++ [it] }
    if x.queue.length < qcap && (!x.ctxDone || pick c) then
      { x with queue := x.queue ++ [it], acc := x.acc ++ [it] }
    else x
  else x

def dispatch (s : St) (t : Tgt) (it : Item) (pick : Cid → Bool) : St :=
  { s with chans := fun c => enq s t it pick c (s.chans c), disp := s.disp ++ [(t, it)] }

inductive Step : St → St → Prop
  -- providers / node loop -----------------------------------------------------------------------------------
  | newChan (s c) : s.npc = .loop → s.provDone = false → (s.chans c).cp = .notStarted → c ∉ s.members →
      Step s { upd s c (fun x => { x with cp := .wait }) with members := c :: s.members }
  | newChanTerm (s c) : s.terminate = true → s.provDone = false → (s.chans c).cp = .notStarted → c ∉ s.members →
      (s.chans c).wp = .idle → (s.chans c).produced = [] → (s.chans c).delivered = [] →
      Step s (upd s c (fun x => { x with cp := .finished, rp := .exited, push := .idle, wp := .exited, ctxDone := true,
                                         rwcClosed := true, writerTerm := true }))
  | provExit (s) : s.terminate = true → Step s { s with provDone := true }
  | dispatch (s t it pick) : s.npc = .loop → Step s (dispatch s t it pick)
  | closeNode (s) : Step s { s with terminate := true }
  | nodeBreak (s) : s.npc = .loop → s.terminate = true → Step s { s with npc := .epilogue }
  | nodeCloseChan (s c) : s.npc = .epilogue → c ∈ s.members → (s.chans c).ctxDone = false →
      Step s (upd s c (fun x => { x with ctxDone := true }))
  | nodeToWait (s) : s.npc = .epilogue → (∀ c ∈ s.members, (s.chans c).ctxDone = true) → Step s { s with npc := .waiting }
  | nodeFinish (s) : s.npc = .waiting → s.provDone = true → (∀ c ∈ s.members, (s.chans c).cp = .finished) →
      Step s { s with npc := .done, evClosed := true }
  -- pushEvent (shared by the reader and Channel.run) -----------------------------------------------------------
  | pBegin (s c ev) : (s.chans c).cp ≠ .notStarted → (s.chans c).push = .begin ev → s.terminate = false →
      Step s (upd s c (fun x => { x with push := .pushing ev, produced := x.produced ++ [ev] }))
  | pSkip (s c ev) : (s.chans c).cp ≠ .notStarted → (s.chans c).push = .begin ev → s.terminate = true →
      Step s (upd s c (fun x => { x with push := .idle }))
  | pDeliver (s c ev) : (s.chans c).push = .pushing ev → s.evClosed = false →
      Step s { upd s c (fun x => { x with push := .idle, delivered := x.delivered ++ [ev] }) with log := s.log ++ [(c, ev)] }
  | pDrop (s c ev) : (s.chans c).push = .pushing ev → s.terminate = true →
      Step s (upd s c (fun x => { x with push := .idle }))
  -- reader --------------------------------------------------------------------------------------------------
  | rResume (s c) : (s.chans c).rp = .waitPush → (s.chans c).push = .idle →
      Step s (upd s c (fun x => { x with rp := .read }))
  | rReadOk (s c r rest ev) : (s.chans c).rp = .read → (s.chans c).push = .idle → (s.chans c).inputs = r :: rest → toEv r = some ev →
      Step s (upd s c (fun x => { x with rp := .waitPush, push := .begin ev, inputs := rest, consumed := x.consumed ++ [r],
                                         want := x.want ++ [ev], taken := x.taken ++ [r] }))
  | rReadFatal (s c e rest) : (s.chans c).rp = .read → (s.chans c).inputs = .fatal e :: rest →
      Step s (upd s c (fun x => { x with rp := .sendDone e, inputs := rest, taken := x.taken ++ [.fatal e] }))
  | rReadClosed (s c) : (s.chans c).rp = .read → (s.chans c).rwcClosed = true →
      Step s (upd s c (fun x => { x with rp := .sendDone 0 }))
  -- writer --------------------------------------------------------------------------------------------------
  | wDequeue (s c it rest) : (s.chans c).wp = .idle → (s.chans c).cp ≠ .notStarted → (s.chans c).queue = it :: rest →
      Step s (upd s c (fun x => { x with wp := .writing it, queue := rest }))
  | wOk (s c it) : (s.chans c).wp = .writing it →
      Step s (upd s c (fun x => { x with wp := .idle, done := x.done ++ [(it, true)] }))
  | wFail (s c it) : (s.chans c).wp = .writing it →
      Step s (upd s c (fun x => { x with wp := .idle, done := x.done ++ [(it, false)] }))
  | wTerm (s c) : (s.chans c).wp = .idle → (s.chans c).writerTerm = true →
      Step s (upd s c (fun x => { x with wp := .sendDone }))
  -- Channel.run ---------------------------------------------------------------------------------------------
  | cReaderDone (s c e) : (s.chans c).cp = .wait → (s.chans c).rp = .sendDone e →
      Step s (upd s c (fun x => { x with cp := .aCloseRwc e, rp := .exited }))
  | cCtxDone (s c) : (s.chans c).cp = .wait → (s.chans c).ctxDone = true →
      Step s (upd s c (fun x => { x with cp := .bCloseRwc }))
  | cACloseRwc (s c e) : (s.chans c).cp = .aCloseRwc e →
      Step s (upd s c (fun x => { x with cp := .aTermW e, rwcClosed := true }))
  | cATermW (s c e) : (s.chans c).cp = .aTermW e →
      Step s (upd s c (fun x => { x with cp := .aRecvW e, writerTerm := true }))
  | cARecvW (s c e) : (s.chans c).cp = .aRecvW e → (s.chans c).wp = .sendDone → (s.chans c).push = .idle →
      Step s (upd s c (fun x => { x with cp := .closeWait, push := .begin (.close (some e)), wp := .exited, ctxDone := true,
                                         want := x.want ++ [.close (some e)], closeEv := [.close (some e)] }))
  | cBTermW (s c) : (s.chans c).cp = .bTermW →
      Step s (upd s c (fun x => { x with cp := .bRecvW, writerTerm := true }))
  | cBRecvW (s c) : (s.chans c).cp = .bRecvW → (s.chans c).wp = .sendDone →
      Step s (upd s c (fun x => { x with cp := .bRecvR, wp := .exited }))
  | cBCloseRwc (s c) : (s.chans c).cp = .bCloseRwc →
      Step s (upd s c (fun x => { x with cp := .bTermW, rwcClosed := true }))
  | cBRecvR (s c e) : (s.chans c).cp = .bRecvR → (s.chans c).rp = .sendDone e → (s.chans c).push = .idle →
      Step s (upd s c (fun x => { x with cp := .closeWait, push := .begin (.close none), rp := .exited,
                                         want := x.want ++ [.close none], closeEv := [.close none] }))
  | cCloseResume (s c) : (s.chans c).cp = .closeWait → (s.chans c).push = .idle →
      Step s (upd s c (fun x => { x with cp := .sendCloseChan }))
  | cUnregister (s c) : (s.chans c).cp = .sendCloseChan → s.npc = .loop →
      Step s { upd s c (fun x => { x with cp := .finished }) with members := s.members.filter (· ≠ c) }
  | cUnregisterTerm (s c) : (s.chans c).cp = .sendCloseChan → s.terminate = true →
      Step s (upd s c (fun x => { x with cp := .finished }))

inductive Reach (s0 : St) : St → Prop
  | refl : Reach s0 s0
  | step {s s'} : Reach s0 s → Step s s' → Reach s0 s'

/-- initial state: no channel started; `inputs c` is what channel c's transport will deliver -/
def init (inputs : Cid → List RdRes) : St :=
  { chans := fun c => { inputs := inputs c } }

end Mav.Nd
