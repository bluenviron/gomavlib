import Mav.Spec.AutoMsgs
/-
  C16, stream requests: the module keeps a table of the last request per sender and cleans it up from time to time; the
  specification looks at the history of arrivals only. `Agree` relates the two; an arrival and a cleanup keep it.
-/
namespace Mav.C16
open Mav.Auto Mav.Spec.Auto

theorem get_set_same (l : Last) (k : Key) (t : Nat) : (l.set k t).get k = some t := by simp [Last.set, Last.get]
theorem get_set_other (l : Last) (k k' : Key) (t : Nat) (h : k' ≠ k) : (l.set k t).get k' = l.get k' := by
  simp [Last.set, Last.get, h]

/-- the table agrees with the history: for every sender, the time of its last triggering heartbeat — or nothing, when the
    entry was cleaned up after it had become irrelevant (older than 30 s at a time not later than `clock`) -/
def Agree (last : Last) (older : List Arrival) (clock : Nat) : Prop :=
  ∀ k, last.get k = lastTrigger k older ∨
       (last.get k = none ∧ ∃ t, lastTrigger k older = some t ∧ clock - t ≥ 30000000000)

theorem onEventFrame_eq (freq : Nat) (last : Last) (a : Arrival) :
    onEventFrame freq last a =
      if qualifies a && fresh (last.get a.key) a.t then (last.set a.key a.t, requestsFor freq a.key) else (last, []) := by
  unfold onEventFrame qualifies fresh
  by_cases hq : a.msgId ≠ 0 ∨ a.autopilot ≠ 3
  · rw [if_pos hq, if_neg]; simp; omega
  · rw [if_neg hq]
    have : (a.msgId == 0 && a.autopilot == 3) = true := by simp; omega
    rw [this]
    cases last.get a.key <;> simp [Gen.streamRequestPeriodNs]

theorem lastTrigger_cons (k : Key) (a : Arrival) (older : List Arrival) :
    lastTrigger k (a :: older) = if a.key = k ∧ triggers older a = true then some a.t else lastTrigger k older := by
  by_cases hk : a.key = k
  · subst hk; simp [lastTrigger, triggers]
  · simp [lastTrigger, hk]

theorem Agree.mono {last : Last} {older : List Arrival} {c c' : Nat} (hag : Agree last older c) (h : c ≤ c') :
    Agree last older c' := fun k =>
  (hag k).imp_right fun ⟨h1, t, h2, h3⟩ => ⟨h1, t, h2, by omega⟩

theorem fresh_agree {last : Last} {older : List Arrival} {clock : Nat} (hag : Agree last older clock) (k : Key) {t : Nat}
    (h : clock ≤ t) : fresh (last.get k) t = fresh (lastTrigger k older) t := by
  rcases hag k with h0 | ⟨h1, t0, h2, h3⟩
  · rw [h0]
  · rw [h1, h2]; simp [fresh]; omega

theorem onEventFrame_spec (freq : Nat) (last : Last) (older : List Arrival) (clock : Nat) (a : Arrival)
    (hag : Agree last older clock) (hclk : clock ≤ a.t) :
    (onEventFrame freq last a).2 = (if triggers older a then sevenRequests freq a.key else []) ∧
    Agree (onEventFrame freq last a).1 (a :: older) a.t := by
  rw [onEventFrame_eq, fresh_agree hag a.key hclk, ← triggers]
  have hag' := hag.mono hclk
  by_cases htr : triggers older a = true
  · rw [if_pos htr, if_pos htr]
    refine ⟨rfl, fun k => ?_⟩
    rw [lastTrigger_cons]
    by_cases hk : a.key = k
    · subst hk; rw [if_pos ⟨rfl, htr⟩]; exact .inl (get_set_same ..)
    · rw [if_neg (fun h => hk h.1)]
      show (last.set a.key a.t).get k = _ ∨ _
      rw [get_set_other _ _ _ _ (Ne.symm hk)]; exact hag' k
  · rw [if_neg htr, if_neg htr]
    refine ⟨rfl, fun k => ?_⟩
    rw [lastTrigger_cons, if_neg (fun h => htr h.2)]
    exact hag' k

/-- a cleanup at any time `now`, even one that lies before `clock`: what it forgets is old at `max clock now` -/
theorem cleanup_agree (last : Last) (older : List Arrival) (clock now : Nat) (hag : Agree last older clock) :
    Agree (cleanup now last) older (max clock now) := by
  intro k
  rcases hag.mono (Nat.le_max_left clock now) k with hk | ⟨h1, r⟩ <;> simp only [cleanup, Last.get] at *
  · rw [hk]
    cases lastTrigger k older with
    | none => exact .inl rfl
    | some t =>
      by_cases hold : now - t ≥ Gen.streamRequestPeriodNs
      · exact .inr ⟨if_pos hold, t, rfl, Nat.le_trans hold (Nat.sub_le_sub_right (Nat.le_max_right clock now) t)⟩
      · exact .inl (if_neg hold)
  · rw [h1]; exact .inr ⟨rfl, r⟩

end Mav.C16

#print axioms Mav.C16.get_set_same
#print axioms Mav.C16.get_set_other
#print axioms Mav.C16.onEventFrame_spec
#print axioms Mav.C16.cleanup_agree
