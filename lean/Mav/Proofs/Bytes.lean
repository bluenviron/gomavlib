import Mav.Model.Frame
import Mav.Proofs.LeBytes
/-
  The frame's fixed-width packings (16-bit checksum, 24-bit message id, 48-bit timestamp) as instances of `leN` / `unLeN`.
  Each encoder is `leN w` of the value widened to 64 bits, by definition, hence `leBytes w`. Each decoder is an OR of shifted
  bytes where `unLeN` shifts the ORs: distributing the shifts turns `unLeN` of the bytes, narrowed to the decoder's width, into
  the decoder, whose value is therefore `ofLe`. The model's `uint24Encode` / `uint48Encode` (regenerated from v2_frame.go) are
  the spec's `le24` / `le48` term for term.
-/
namespace Mav
open Mav.Spec.Msg

theorem le16_eq (x : UInt16) : le16 x = leBytes 2 x.toNat := PayloadLink.leN_eq_leBytes 2 (by decide) x.toUInt64
theorem le24_eq (x : UInt32) : le24 x = leBytes 3 x.toNat := PayloadLink.leN_eq_leBytes 3 (by decide) x.toUInt64
theorem le48_eq (x : UInt64) : le48 x = leBytes 6 x.toNat := PayloadLink.leN_eq_leBytes 6 (by decide) x

theorem uint24Encode_eq_le24 (x : UInt32) : uint24Encode x = le24 x := rfl
theorem uint48Encode_eq_le48 (x : UInt64) : uint48Encode x = le48 x := rfl

theorem unLe16_toNat (a b : UInt8) : (unLe16 a b).toNat = ofLe [a, b] := by
  have h : (Msg.unLeN [a, b]).toUInt16 = unLe16 a b := by
    simp (disch := decide) only [Msg.unLeN, List.foldr, UInt64.zero_shiftLeft, UInt64.zero_or, UInt64.toUInt16_or,
      UInt64.toUInt16_shiftLeft, UInt8.toUInt16_toUInt64, UInt64.toUInt16_ofNat]
    exact UInt16.or_comm _ _
  rw [← h, UInt64.toNat_toUInt16, Msg.unLeN_toNat _ (by simp)]
  exact Nat.mod_eq_of_lt (ofLe_lt_of_length_le [a, b] (w := 2) (Nat.le_refl _))

theorem uint24Decode_toNat (a b c : UInt8) : (uint24Decode a b c).toNat = ofLe [a, b, c] := by
  have h : (Msg.unLeN [a, b, c]).toUInt32 = uint24Decode a b c := by
    simp (disch := decide) only [Msg.unLeN, List.foldr, UInt64.zero_shiftLeft, UInt64.zero_or, UInt64.shiftLeft_or,
      ← UInt64.shiftLeft_add_of_toNat_lt, UInt64.reduceAdd, UInt64.toUInt32_or, UInt64.toUInt32_shiftLeft,
      UInt8.toUInt32_toUInt64, UInt64.toUInt32_ofNat]
    rfl
  rw [← h, UInt64.toNat_toUInt32, Msg.unLeN_toNat _ (by simp)]
  exact Nat.mod_eq_of_lt (ofLe_lt_of_length_le [a, b, c] (w := 4) (by simp))

theorem uint48Decode_toNat (a b c d e f : UInt8) : (uint48Decode a b c d e f).toNat = ofLe [a, b, c, d, e, f] := by
  have h : Msg.unLeN [a, b, c, d, e, f] = uint48Decode a b c d e f := by
    simp (disch := decide) only [Msg.unLeN, List.foldr, UInt64.zero_shiftLeft, UInt64.zero_or, UInt64.shiftLeft_or,
      ← UInt64.shiftLeft_add_of_toNat_lt, UInt64.reduceAdd]
    rfl
  rw [← h, Msg.unLeN_toNat _ (by simp)]

theorem unLe16_le16 (c : UInt16) : unLe16 c.toUInt8 (c >>> 8).toUInt8 = c := by
  apply UInt16.toNat_inj.mp
  rw [unLe16_toNat, show [c.toUInt8, (c >>> 8).toUInt8] = le16 c from rfl, le16_eq, ofLe_leBytes]
  exact Nat.mod_eq_of_lt c.toNat_lt

theorem uint24Decode_le24 (x : UInt32) (h : x < 0x1000000) :
    uint24Decode x.toUInt8 (x >>> 8).toUInt8 (x >>> 16).toUInt8 = x := by
  apply UInt32.toNat_inj.mp
  rw [uint24Decode_toNat, show [x.toUInt8, (x >>> 8).toUInt8, (x >>> 16).toUInt8] = le24 x from rfl, le24_eq,
    ofLe_leBytes]
  exact Nat.mod_eq_of_lt (UInt32.lt_iff_toNat_lt.mp h)

theorem uint48Decode_le48 (x : UInt64) (h : x < 0x1000000000000) :
    uint48Decode x.toUInt8 (x >>> 8).toUInt8 (x >>> 16).toUInt8 (x >>> 24).toUInt8 (x >>> 32).toUInt8 (x >>> 40).toUInt8 = x := by
  apply UInt64.toNat_inj.mp
  rw [uint48Decode_toNat, show [x.toUInt8, (x >>> 8).toUInt8, (x >>> 16).toUInt8, (x >>> 24).toUInt8, (x >>> 32).toUInt8,
    (x >>> 40).toUInt8] = le48 x from rfl, le48_eq, ofLe_leBytes]
  exact Nat.mod_eq_of_lt (UInt64.lt_iff_toNat_lt.mp h)

theorem le16_unLe16 (a b : UInt8) : le16 (unLe16 a b) = [a, b] := by
  rw [le16_eq, unLe16_toNat]; exact leBytes_ofLe [a, b]

theorem le24_uint24Decode (a b c : UInt8) : le24 (uint24Decode a b c) = [a, b, c] := by
  rw [le24_eq, uint24Decode_toNat]; exact leBytes_ofLe [a, b, c]

theorem le48_uint48Decode (a b c d e f : UInt8) : le48 (uint48Decode a b c d e f) = [a, b, c, d, e, f] := by
  rw [le48_eq, uint48Decode_toNat]; exact leBytes_ofLe [a, b, c, d, e, f]

theorem uint24Decode_lt (a b c : UInt8) : uint24Decode a b c < 0x1000000 := by
  rw [UInt32.lt_iff_toNat_lt, uint24Decode_toNat]
  exact ofLe_lt_of_length_le [a, b, c] (w := 3) (Nat.le_refl _)

theorem uint48Decode_lt (a b c d e f : UInt8) : uint48Decode a b c d e f < 0x1000000000000 := by
  rw [UInt64.lt_iff_toNat_lt, uint48Decode_toNat]
  exact ofLe_lt_of_length_le [a, b, c, d, e, f] (w := 6) (Nat.le_refl _)

end Mav
