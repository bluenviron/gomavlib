import Mav.Proofs.LeBytes
/-
  Payload codec (Mav/Model/Msg.lean: `ReadWriter.Read` = `decode`, `ReadWriter.Write` = `encode`) in closed form: a field is
  read from exactly its `fsize` bytes, a message from the `window` of its payload (its first `size` bytes, zeros where it is
  shorter); `Write` strips zeros off the end, which the window puts back.
  Statements of C03, C04, C08 and C17 are written in the words defined here: `RWok` (the stored sizes are what the fields
  consume), `wellTyped` (a value a Go field of that type can hold), `canonF` (what such a value comes back as); `IdxOk` (every
  field at its own position of the struct) is in Recode.
-/
namespace Mav.Msg

/-- the numbers in `n` consecutive groups of `w` little-endian bytes -/
def elems (w : Nat) : Nat → Bytes → List UInt64
  | 0, _ => []
  | n + 1, s => unLeN (s.take w) :: elems w n (s.drop w)

/-- what `Read` makes of the bytes `s` of field `f` -/
def decVal (f : DField) (s : Bytes) : FVal :=
  if isStr f then .str (s.takeWhile (· != 0)) else .num (elems (width f) (nElems f) s)

theorem width_ok (f : DField) : width f = 1 ∨ width f = 2 ∨ width f = 4 ∨ width f = 8 := by
  unfold width; cases f.ftype <;> simp [Gen.fieldTypeSizes]

theorem width_le (f : DField) : width f ≤ 8 := by have := width_ok f; omega

theorem elems_length (w n : Nat) (s : Bytes) : (elems w n s).length = n := by
  induction n generalizing s with
  | zero => rfl
  | succ n ih => simp [elems, ih]

theorem elems_take (w n : Nat) (s : Bytes) : elems w n (s.take (w * n)) = elems w n s := by
  induction n generalizing s with
  | zero => rfl
  | succ n ih =>
    have h : w * (n + 1) - w = w * n := by rw [Nat.mul_succ]; omega
    simp only [elems, List.take_take, List.drop_take, h, ih]
    rw [Nat.min_eq_left (Nat.le_mul_of_pos_right w (Nat.succ_pos n))]

theorem decElems_eq (w n : Nat) (buf : Bytes) :
    decElems w n buf = if buf.length < w * n then none else some (elems w n buf, buf.drop (w * n)) := by
  induction n generalizing buf with
  | zero => simp [decElems, elems]
  | succ n ih =>
    have hm : w * (n + 1) = w + w * n := by rw [Nat.mul_succ, Nat.add_comm]
    simp only [decElems, ih, List.length_drop, elems, List.drop_drop, hm]
    by_cases h1 : buf.length < w
    · rw [if_pos h1, if_pos (by omega)]
    · have h2 : buf.length - w < w * n ↔ buf.length < w + w * n := by omega
      simp only [if_neg h1, h2]
      by_cases h3 : buf.length < w + w * n <;> simp only [h3, if_true, if_false]

theorem decField_eq (f : DField) (buf : Bytes) :
    decField f buf = if buf.length < fsize f then none else some (decVal f (buf.take (fsize f)), buf.drop (fsize f)) := by
  rw [decField, show (f.ftype == .char && !f.isEnum) = isStr f from rfl, decVal, fsize]
  by_cases hs : isStr f = true
  · simp only [hs, if_true, decString]
  · simp only [hs, Bool.false_eq_true, if_false, elems_take]
    show (match decElems (width f) (nElems f) buf with | none => none | some (xs, r) => some (FVal.num xs, r)) = _
    rw [decElems_eq]
    by_cases h : buf.length < width f * nElems f <;> simp only [h, if_true, if_false]

/-- canonical form of a field value: numbers reduced to the wire width; strings cut at the declared length or the first NUL -/
def canonF (f : DField) : FVal → FVal
  | .num xs => .num ((xs.take (nElems f)).map (maskW (width f)))
  | .str s => .str ((s.take f.arrayLength.toNat).takeWhile (· != 0))

/-- the value has the shape of the field (what a Go struct field of that type can hold) -/
def wellTyped (f : DField) : FVal → Bool
  | .num xs => !isStr f && xs.length == nElems f
  | .str _ => isStr f

theorem wellTyped_num {f : DField} {xs : List UInt64} (h : wellTyped f (.num xs) = true) :
    isStr f = false ∧ xs.length = nElems f := by
  simpa [wellTyped] using h

theorem encField_num (f : DField) (xs : List UInt64) (h : xs.length = nElems f) :
    encField f (.num xs) = xs.flatMap (leN (width f)) := by
  have : (if f.goIsArray then xs.take f.goArrLen else xs.take 1) = xs.take (nElems f) := by unfold nElems; split <;> rfl
  simp only [encField, this, ← h, List.take_length]
  rfl

theorem encField_len (f : DField) (v : FVal) (h : wellTyped f v = true) : (encField f v).length = fsize f := by
  cases v with
  | num xs =>
    obtain ⟨hs, hn⟩ := wellTyped_num h
    rw [encField_num f xs hn, fsize, hs, ← hn]
    simp [leN_length, List.map_const', Nat.mul_comm]
  | str s =>
    have h : isStr f = true := h
    simp only [encField, encString, fsize, h, if_true, List.length_append, List.length_take, replicateZ, List.length_replicate]
    omega

theorem elems_flatMap (w : Nat) (hw : w = 1 ∨ w = 2 ∨ w = 4 ∨ w = 8) (xs : List UInt64) :
    elems w xs.length (xs.flatMap (leN w)) = xs.map (maskW w) := by
  induction xs with
  | nil => rfl
  | cons x r ih =>
    have hl := leN_length w x
    simp only [List.length_cons, elems, List.flatMap_cons, List.map_cons]
    rw [List.take_left' hl, List.drop_left' hl, ih, unLeN_leN w hw]

theorem takeWhile_append_zeros (a : Bytes) (k : Nat) : (a ++ replicateZ k).takeWhile (· != 0) = a.takeWhile (· != 0) := by
  induction a with
  | nil => cases k <;> simp [replicateZ, List.replicate_succ]
  | cons x r ih => by_cases hx : (x != 0) = true <;> simp [hx, ih]

theorem decVal_encField (f : DField) (v : FVal) (h : wellTyped f v = true) : decVal f (encField f v) = canonF f v := by
  cases v with
  | num xs =>
    obtain ⟨hs, hn⟩ := wellTyped_num h
    simp only [decVal, hs, Bool.false_eq_true, if_false, canonF, encField_num f xs hn, ← hn, List.take_length,
      elems_flatMap _ (width_ok f)]
  | str s =>
    have h : isStr f = true := h
    simp only [decVal, h, if_true, canonF, encField, encString, takeWhile_append_zeros]

/-- each of the fields `fs` with the value `Read` gives it, from a buffer that holds the fields' bytes back to back -/
def fieldVals : List DField → Bytes → List (DField × FVal)
  | [], _ => []
  | f :: r, buf => (f, decVal f (buf.take (fsize f))) :: fieldVals r (buf.drop (fsize f))

/-- every value stored at its field's index, in order (its lemmas are in Recode.lean, which needs them) -/
def setAll (ps : List (DField × FVal)) (acc : List FVal) : List FVal :=
  ps.foldl (fun a p => setAt a p.1.index p.2) acc

/-- what `Read` stores for the fields `fs` found at the head of `buf` -/
def readFields (fs : List DField) (buf : Bytes) (z : List FVal) : List FVal := setAll (fieldVals fs buf) z

theorem readFields_cons (f : DField) (r : List DField) (buf : Bytes) (z : List FVal) :
    readFields (f :: r) buf z = readFields r (buf.drop (fsize f)) (setAt z f.index (decVal f (buf.take (fsize f)))) := rfl

theorem total_cons (f : DField) (r : List DField) : total (f :: r) = fsize f + total r := rfl

theorem decFields_eq (fs : List DField) (buf : Bytes) (acc : List FVal) :
    decFields fs buf acc = if buf.length < total fs then none else some (readFields fs buf acc) := by
  induction fs generalizing buf acc with
  | nil => rfl
  | cons f r ih =>
    simp only [decFields, decField_eq, readFields_cons]
    by_cases h1 : buf.length < fsize f
    · rw [if_pos h1, if_pos (by rw [total_cons]; omega)]
    · have h2 : buf.length - fsize f < total r ↔ buf.length < total (f :: r) := by rw [total_cons]; omega
      simp only [if_neg h1, ih, List.length_drop, h2]

theorem readFields_take (fs : List DField) (buf : Bytes) (z : List FVal) : readFields fs (buf.take (total fs)) z = readFields fs buf z := by
  induction fs generalizing buf z with
  | nil => rfl
  | cons f r ih =>
    simp only [readFields_cons, total_cons, List.take_take, List.drop_take, Nat.add_sub_cancel_left, ih]
    rw [Nat.min_eq_left (Nat.le_add_right _ _)]

/-- sizes as `Initialize` computed them agree with what the fields consume (true whenever the message fits in 255 bytes);
    the model's `rwOkB` is the same fact as a Bool, a conjunct of `layoutAgrees` -/
structure RWok (rw : RW) : Prop where
  ext : total rw.fields = rw.sizeExtended.toNat
  base : total (rw.fields.filter (fun f => !f.isExt)) = rw.sizeNormal.toNat

theorem rwOk_of_bool (rw : RW) (h : rwOkB rw = true) : RWok rw := by
  simp only [rwOkB, Bool.and_eq_true, beq_iff_eq] at h
  exact ⟨h.1, h.2⟩

/-- the first `n` bytes of the zero-extended payload: all that the v2 decoder looks at -/
def window (n : Nat) (p : Bytes) : Bytes := (p ++ replicateZ n).take n

theorem replicateZ_add (a b : Nat) : replicateZ a ++ replicateZ b = replicateZ (a + b) := by
  simp [replicateZ, List.replicate_append_replicate]

theorem window_of_le (n : Nat) (p : Bytes) (h : n ≤ p.length) : window n p = p.take n :=
  List.take_append_of_le_length h

theorem window_self (n : Nat) (p : Bytes) (h : p.length = n) : window n p = p := by
  rw [window_of_le n p (Nat.le_of_eq h.symm), List.take_of_length_le (Nat.le_of_eq h)]

theorem window_append_zeros (n : Nat) (p : Bytes) (k : Nat) : window n (p ++ replicateZ k) = window n p := by
  rw [window, window, List.append_assoc, replicateZ_add, Nat.add_comm, ← replicateZ_add, ← List.append_assoc,
    List.take_append_of_le_length (by simp [replicateZ])]

/-- the zero-extension `Read` performs, cut at the size, is the window -/
theorem window_pad (n : Nat) (p : Bytes) : (p ++ replicateZ (n - p.length)).take n = window n p := by
  rw [← window_of_le n _ (by simp [replicateZ]; omega), window_append_zeros]

theorem decode_v2 (rw : RW) (hok : RWok rw) (p : Bytes) :
    decode rw true p = .ok (readFields rw.fields (window rw.sizeExtended.toNat p) (zeroVals rw)) := by
  have hpad : (if p.length < rw.sizeExtended.toNat then p ++ replicateZ (rw.sizeExtended.toNat - p.length) else p) =
      p ++ replicateZ (rw.sizeExtended.toNat - p.length) := by
    split
    · rfl
    · rw [Nat.sub_eq_zero_of_le (by omega)]; exact (List.append_nil p).symm
  simp only [decode, if_true, hpad, decFields_eq, hok.ext]
  rw [if_neg (by simp [replicateZ]; omega), ← readFields_take, hok.ext, window_pad]
  rfl

theorem decode_v1 (rw : RW) (hok : RWok rw) (p : Bytes) :
    decode rw false p = if p.length ≠ rw.sizeNormal.toNat then .errSize
      else .ok (readFields (rw.fields.filter (fun f => !f.isExt)) p (zeroVals rw)) := by
  simp only [decode, Bool.false_eq_true, if_false, decFields_eq, hok.base]
  by_cases h : p.length ≠ rw.sizeNormal.toNat
  · rw [if_pos h, if_pos h]
  · rw [if_neg h, if_neg h, if_neg (by omega)]; rfl

/-- the bytes `Write` produces for the fields `fs`, back to back -/
def writeFields (fs : List DField) (vals : List FVal) : Bytes := fs.flatMap (fun f => encField f (valAt vals f.index))

theorem encode_v2 (rw : RW) (vals : List FVal) :
    encode rw true vals = if (writeFields rw.fields vals).length = rw.sizeExtended.toNat
      then .ok (removeEmptyBytes (writeFields rw.fields vals)) else .panic := by
  have hfl : rw.fields.filter (fun f => true || !f.isExt) = rw.fields := List.filter_eq_self.mpr fun _ _ => rfl
  simp only [encode, if_true, hfl]; rfl

theorem encode_v1 (rw : RW) (vals : List FVal) :
    encode rw false vals = if (writeFields (rw.fields.filter (fun f => !f.isExt)) vals).length = rw.sizeNormal.toNat
      then .ok (writeFields (rw.fields.filter (fun f => !f.isExt)) vals) else .panic := by
  simp only [encode, Bool.false_eq_true, if_false, Bool.false_or]; rfl

theorem strip_is_zero_suffix (buf : Bytes) : ∃ k, buf = removeEmptyBytes buf ++ replicateZ k := by
  cases buf with
  | nil => exact ⟨0, rfl⟩
  | cons b r =>
    -- `r`, reversed, is its leading zeros followed by what `dropWhile` keeps
    have h := congrArg List.reverse (List.takeWhile_append_dropWhile (p := (· == 0)) (l := r.reverse))
    rw [List.reverse_append, List.reverse_reverse] at h
    refine ⟨(r.reverse.takeWhile (· == 0)).length, congrArg (b :: ·) (h.symm.trans (congrArg (List.append _) ?_))⟩
    exact List.eq_replicate_iff.mpr ⟨by simp, fun x hx => by
      simpa using List.all_eq_true.mp List.all_takeWhile x (List.mem_reverse.mp hx)⟩

theorem window_strip (n : Nat) (p : Bytes) : window n (removeEmptyBytes p) = window n p := by
  obtain ⟨k, hk⟩ := strip_is_zero_suffix p
  rw [← window_append_zeros n _ k, ← hk]

theorem strip_length_le (buf : Bytes) : (removeEmptyBytes buf).length ≤ buf.length := by
  obtain ⟨k, hk⟩ := strip_is_zero_suffix buf
  have := congrArg List.length hk
  rw [List.length_append] at this
  omega

theorem writeFields_length (vals : List FVal) (fs : List DField) (h : ∀ f ∈ fs, wellTyped f (valAt vals f.index) = true) :
    (writeFields fs vals).length = total fs := by
  rw [writeFields, List.length_flatMap, total]
  exact congrArg List.sum (List.map_congr_left fun f hf => encField_len f _ (h f hf))

theorem readFields_writeFields (vals : List FVal) (fs : List DField) (h : ∀ f ∈ fs, wellTyped f (valAt vals f.index) = true) (z : List FVal) :
    readFields fs (writeFields fs vals) z = fs.foldl (fun a f => setAt a f.index (canonF f (valAt vals f.index))) z := by
  induction fs generalizing z with
  | nil => rfl
  | cons f r ih =>
    have hl := encField_len f _ (h f List.mem_cons_self)
    rw [readFields_cons, writeFields, List.flatMap_cons, List.take_left' hl, List.drop_left' hl,
      decVal_encField f _ (h f List.mem_cons_self)]
    exact ih (fun g hg => h g (List.mem_cons_of_mem _ hg)) _

end Mav.Msg
