import Mav.Spec.Crc
/-
  CRC-16/MCRF4XX ("X.25" in MAVLink) detects every error confined to one byte: the per-byte state map is a bijection, so two
  inputs that differ in exactly one byte have different CRCs (whatever precedes and follows).
-/
namespace Mav.Spec

/-- `_ >>> 1` has bit 15 clear and 0x8408 has it set: bit 15 of `crcBit x` is the bit shifted out of `x` -/
theorem crcBit_msb (x : BitVec 16) : (crcBit x).getLsbD 15 = x.getLsbD 0 := by
  unfold crcBit
  cases x.getLsbD 0 <;> simp

theorem crcBit_inj (x y : BitVec 16) (h : crcBit x = crcBit y) : x = y := by
  have h0 : x.getLsbD 0 = y.getLsbD 0 := by rw [← crcBit_msb, ← crcBit_msb, h]
  -- so both sides were xored with the same constant, and the other fifteen bits agree as well
  have h1 : x >>> 1 = y >>> 1 := by
    unfold crcBit at h
    rw [h0] at h
    split at h
    · exact (BitVec.xor_left_inj _).mp h
    · exact h
  apply BitVec.eq_of_getLsbD_eq
  intro i _
  cases i with
  | zero => exact h0
  | succ j => simpa only [BitVec.getLsbD_ushiftRight, Nat.add_comm 1] using congrArg (·.getLsbD j) h1

theorem crcBit8_inj (x y : BitVec 16) (h : crcBit8 x = crcBit8 y) : x = y := by
  unfold crcBit8 at h
  exact crcBit_inj _ _ (crcBit_inj _ _ (crcBit_inj _ _ (crcBit_inj _ _ (crcBit_inj _ _ (crcBit_inj _ _ (crcBit_inj _ _ (crcBit_inj _ _ h)))))))

theorem crcByte_inj_state (c c' : BitVec 16) (b : BitVec 8) (h : crcByte c b = crcByte c' b) : c = c' :=
  (BitVec.xor_left_inj _).mp (crcBit8_inj _ _ h)

theorem crcByte_inj_byte (c : BitVec 16) (b b' : BitVec 8) (h : crcByte c b = crcByte c b') : b = b' := by
  have h2 : b.zeroExtend 16 = b'.zeroExtend 16 := (BitVec.xor_right_inj _).mp (crcBit8_inj _ _ h)
  simpa using congrArg (BitVec.setWidth 8) h2

theorem fold_inj (post : Bytes) : ∀ (c c' : BitVec 16), c ≠ c' →
    post.foldl (fun c b => crcByte c b.toBitVec) c ≠ post.foldl (fun c b => crcByte c b.toBitVec) c' := by
  induction post with
  | nil => intro c c' h; exact h
  | cons b r ih =>
    intro c c' h
    simp only [List.foldl_cons]
    exact ih _ _ (fun he => h (crcByte_inj_state c c' _ he))

theorem crc16_one_byte (pre post : Bytes) (x x' : UInt8) (h : x ≠ x') :
    crc16 (pre ++ x :: post) ≠ crc16 (pre ++ x' :: post) := by
  unfold crc16
  simp only [List.foldl_append, List.foldl_cons]
  apply fold_inj
  intro he
  have := crcByte_inj_byte _ _ _ he
  exact h (UInt8.toBitVec_inj.mp this)

end Mav.Spec
