import Mav.Proofs.InitIdx
/-
  C03, decoding reads the same layout: for every accepted struct that is a definition, the model of `ReadWriter.Read` returns on
  EVERY payload what the serialization guide prescribes (`Spec.Msg.decode`). The specification's fields on the wire are the
  views of the model's (`InitSound.wireOrder_eq_views`), so the two lists are `Tied` field by field: same index, type, element count and
  extension flag. That is all the links of this file and of PayloadLink (the same for `Write`) use. `Read` consumes the buffer
  field after field (`Msg.readFields`), the guide cuts each field out at its offset: for tied field lists the two agree on any
  buffer.
-/
namespace Mav.DecodeLink
open Msg SortLink InitField InitSound

/-- the pointwise facts that tie the k-th model field to the k-th specification field. The first argument is any flag on
    indexes (`strAt` in the lemmas); `isS rw` below is the instance the property theorems use. `Tied`, `All2`, `tied_all` and `tied_base`
    serve `Read` here and `Write` in PayloadLink alike. -/
def Tied (isS : Nat → Bool) (a : DField) (b : Spec.Msg.SField) : Prop :=
  a.index = b.idx ∧ a.ftype = b.ty ∧ (isStr a = false → nElems a = b.arr.getD 1) ∧
  (isStr a = true → a.arrayLength.toNat = b.arr.getD 1) ∧ isS b.idx = isStr a ∧ a.isExt = b.ext

inductive All2 {α β} (R : α → β → Prop) : List α → List β → Prop
  | nil : All2 R [] []
  | cons {a b l1 l2} : R a b → All2 R l1 l2 → All2 R (a :: l1) (b :: l2)

theorem all2_map {α β} (R : α → β → Prop) (g : α → β) (l : List α) (h : ∀ a ∈ l, R a (g a)) : All2 R l (l.map g) := by
  induction l with
  | nil => exact .nil
  | cons a r ih => exact .cons (h a List.mem_cons_self) (ih fun x hx => h x (List.mem_cons_of_mem _ hx))

/-- whether struct field i is a Go string (a fact about the Go type, which the specification takes as a parameter) -/
def isS (rw : RW) (i : Nat) : Bool :=
  match rw.fields.find? (·.index == i) with
  | some f => isStr f
  | none => false

theorem find_by_index (l : List DField) (hnd : (l.map (·.index)).Nodup) (a : DField) (ha : a ∈ l) :
    l.find? (·.index == a.index) = some a := by
  induction l with
  | nil => cases ha
  | cons x r ih =>
    rw [List.map_cons, List.nodup_cons] at hnd
    cases ha with
    | head => simp
    | tail _ hm =>
      have hne : (x.index == a.index) = false := beq_false_of_ne fun e => hnd.1 (e ▸ List.mem_map_of_mem hm)
      simp only [List.find?_cons, hne]
      exact ih hnd.2 hm

theorem tied_size (strAt : Nat → Bool) (a : DField) (b : Spec.Msg.SField) (h : Tied strAt a b) : fsize a = b.size :=
  fsize_eq_size a b h.2.1 h.2.2.1 h.2.2.2.1

theorem tied_view (st : GoStruct) (rw : RW) (h1 : Msg.init st = .ok rw) (a : DField) (ha : a ∈ rw.fields) (hfo : FieldOk a) :
    Tied (isS rw) a (view st a) := by
  refine ⟨rfl, rfl, hfo.count_num _, hfo.count_str _, ?_, rfl⟩
  show isS rw a.index = isStr a
  rw [isS, find_by_index rw.fields (accepted_idx_ok st rw h1).1 a ha]

theorem tied_all (st : GoStruct) (rw : RW) (d : Spec.Msg.SDef) (h1 : Msg.init st = .ok rw) (h2 : Spec.Msg.ofGo st = some d) :
    All2 (Tied (isS rw)) rw.fields (Spec.Msg.wireOrder d) := by
  obtain ⟨hwo, hfo⟩ := wireOrder_eq_views st rw d h1 h2
  exact hwo ▸ all2_map _ _ _ fun a ha => tied_view st rw h1 a ha (hfo a ha)

/-- the base parts: what version 1 sends -/
theorem tied_base (st : GoStruct) (rw : RW) (d : Spec.Msg.SDef) (h1 : Msg.init st = .ok rw) (h2 : Spec.Msg.ofGo st = some d) :
    All2 (Tied (isS rw)) (rw.fields.filter (fun f => !f.isExt)) (Spec.Msg.stableSortDesc (d.fields.filter (!·.ext))) := by
  obtain ⟨hwo, hfo⟩ := wireOrder_eq_views st rw d h1 h2
  rw [← wireOrder_filter_base, hwo, List.filter_map]
  exact all2_map _ _ _ fun a ha => tied_view st rw h1 a (List.mem_filter.mp ha).1 (hfo a (List.mem_filter.mp ha).1)

theorem elems_eq_range (w n : Nat) (s : Bytes) :
    elems w n s = (List.range n).map (fun k => unLeN ((s.drop (k * w)).take w)) := by
  induction n generalizing s with
  | zero => rfl
  | succ n ih =>
    rw [List.range_succ_eq_map, List.map_cons, List.map_map, elems, ih, Nat.zero_mul, List.drop_zero]
    congr 1
    apply List.map_congr_left
    intro k _
    simp only [Function.comp, List.drop_drop, Nat.succ_mul, Nat.add_comm]

theorem decVal_link (strAt : Nat → Bool) (a : DField) (b : Spec.Msg.SField) (h : Tied strAt a b) (s : Bytes) :
    decVal a s = Spec.Msg.decField b (isStr a) s := by
  obtain ⟨_, hty, hn, _, _, _⟩ := h
  unfold decVal Spec.Msg.decField
  by_cases hs : isStr a = true
  · rw [if_pos hs, if_pos hs]
  · have hs' : isStr a = false := by simpa using hs
    have hw : width a = Spec.Msg.tySize b.ty := by rw [width, sizes_tbl, hty]
    rw [if_neg hs, if_neg hs, elems_eq_range, hn hs', hw]
    exact congrArg FVal.num (List.map_congr_left fun k _ =>
      unLeN_eq_ofNat _ (Nat.le_trans (List.length_take_le _ _) (hw ▸ width_le a)))

theorem readFields_link (strAt : Nat → Bool) (l1 : List DField) (l2 : List Spec.Msg.SField) (hal : All2 (Tied strAt) l1 l2)
    (p : Bytes) (o : Nat) (acc : List FVal) :
    readFields l1 (p.drop o) acc = (Spec.Msg.offsets o l2).foldl (fun acc (fo : Spec.Msg.SField × Nat) =>
      acc.set fo.1.idx (Spec.Msg.decField fo.1 (strAt fo.1.idx) ((p.drop fo.2).take fo.1.size))) acc := by
  induction hal generalizing o acc with
  | nil => rfl
  | @cons a b r r2 hab _ ih =>
    have ⟨hidx, _, _, _, hiss, _⟩ := hab
    simp only [readFields_cons, Spec.Msg.offsets, List.foldl_cons, List.drop_drop]
    rw [decVal_link _ a b hab, ← hiss, ← hidx, ← tied_size _ a b hab]
    exact ih (o + fsize a) _

/-- (`isS` is a variable of the theorem, any flag; not `DecodeLink.isS`) -/
theorem fold_align (isS : Nat → Bool) (l1 : List DField) (l2 : List Spec.Msg.SField) (hal : All2 (Tied isS) l1 l2) :
    ∀ (p : Bytes) (o : Nat) (acc : List FVal), o + total l1 ≤ p.length →
    decFields l1 (p.drop o) acc = some ((Spec.Msg.offsets o l2).foldl (fun acc (fo : Spec.Msg.SField × Nat) =>
      acc.set fo.1.idx (Spec.Msg.decField fo.1 (isS fo.1.idx) ((p.drop fo.2).take fo.1.size))) acc) := by
  intro p o acc hfit
  rw [decFields_eq, if_neg (by rw [List.length_drop]; omega), readFields_link isS l1 l2 hal]

/-- the zero value `reflect.New` gives each field is the specification's initial value of that field -/
theorem zeroVals_eq (st : GoStruct) (rw : RW) (d : Spec.Msg.SDef) (h1 : Msg.init st = .ok rw) (h2 : Spec.Msg.ofGo st = some d) :
    zeroVals rw = d.fields.map (fun f => if isS rw f.idx then FVal.str [] else FVal.num (List.replicate (f.arr.getD 1) 0)) := by
  obtain ⟨fs, hfs, rfl⟩ := accepted_def st rw d h1 h2
  have hmem : ∀ a ∈ fs, a ∈ rw.fields := fun a => (hfs.mem_fields a).mpr
  -- position i of the struct is the index of the i-th field set up
  rw [zeroVals, hfs.nfields, List.range_eq_range', ← hfs.idx, List.map_map, List.map_map]
  refine List.map_congr_left fun a ha => ?_
  obtain ⟨_, _, hnum, _, hiss, _⟩ := tied_view st rw h1 a (hmem a ha) (hfs.fieldOk a ha)
  simp only [Function.comp, find_by_index rw.fields (accepted_idx_ok st rw h1).1 a (hmem a ha), hiss, zeroVal]
  show (if isStr a = true then _ else _) = _
  split
  · rfl
  · rename_i hs; rw [← hnum (by simpa using hs)]; rfl

def ofSpecRes : Spec.Msg.DecRes → Msg.DecRes
  | .ok v => .ok v
  | .errSize => .errSize

/-- **C03 (decoding reads the same layout, for every struct and every payload).** -/
theorem decode_eq_spec (st : GoStruct) (rw : RW) (d : Spec.Msg.SDef) (h1 : Msg.init st = .ok rw) (h2 : Spec.Msg.ofGo st = some d)
    (isV2 : Bool) (payload : Bytes) :
    Msg.decode rw isV2 payload = ofSpecRes (Spec.Msg.decode d (isS rw) isV2 payload) := by
  have hok := accepted_rwOk st rw h1
  obtain ⟨hsx, hsn⟩ := sizes_eq st rw d h1 h2
  cases isV2 with
  | true =>
    -- `Read` looks at the window of the payload, the guide at the payload zero-extended to the size: the same bytes
    have := readFields_link (isS rw) _ _ (tied_all st rw d h1 h2)
      (payload ++ replicateZ (rw.sizeExtended.toNat - payload.length)) 0 (zeroVals rw)
    rw [List.drop_zero, ← readFields_take, hok.ext, window_pad] at this
    rw [decode_v2 rw hok, this, zeroVals_eq st rw d h1 h2, hsx]
    rfl
  | false =>
    have := readFields_link (isS rw) _ _ (tied_base st rw d h1 h2) payload 0 (zeroVals rw)
    rw [List.drop_zero] at this
    rw [decode_v1 rw hok, this, zeroVals_eq st rw d h1 h2, hsn]
    simp only [Spec.Msg.decode, Bool.false_eq_true, if_false]
    split <;> rfl

end Mav.DecodeLink
