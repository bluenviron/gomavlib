import Mav.Model.Dialect
/-
  The dialect's `Initialize` in closed form (C17): the loop carries the table built so far, so `init_ok_iff` is stated for any such
  table and proved along the recursion of `init` — it succeeds exactly when the ids are distinct, none is in the table already and
  every struct is accepted, and it returns the table followed by `codecs msgs`.
-/
namespace Mav.Dialect

/-- the table a successful initialisation builds: the codec of every accepted struct, under its id, in order -/
def codecs (msgs : List (UInt32 × Msg.GoStruct)) : Table :=
  msgs.filterMap fun m => (Msg.init m.2).toOption.map (m.1, ·)

theorem codecs_cons (m : UInt32 × Msg.GoStruct) (r : List (UInt32 × Msg.GoStruct)) (rw : Msg.RW)
    (h : Msg.init m.2 = .ok rw) : codecs (m :: r) = (m.1, rw) :: codecs r := by
  simp [codecs, h, Except.toOption]

theorem has_append (t : Table) (e : UInt32 × Msg.RW) (id : UInt32) : (t ++ [e]).has id = (t.has id || id == e.1) := by
  simp [Table.has, List.any_append, BEq.comm]

theorem init_ok_iff (msgs : List (UInt32 × Msg.GoStruct)) (acc tbl : Table) :
    Dialect.init msgs acc = .ok tbl ↔
      (msgs.map (·.1)).Nodup ∧ (∀ m ∈ msgs, acc.has m.1 = false) ∧ (∀ m ∈ msgs, ∃ rw, Msg.init m.2 = .ok rw) ∧
        acc ++ codecs msgs = tbl := by
  fun_induction Dialect.init msgs acc with
  | case1 acc => simp [codecs]
  | case2 id st r acc hacc => simp [hacc]
  | case3 id st r acc hacc e hrw => simp [hrw]
  | case4 id st r acc hacc rw hrw ih =>
    rw [ih, codecs_cons (id, st) r rw hrw, List.append_assoc, List.singleton_append, List.map_cons, List.nodup_cons]
    simp only [List.forall_mem_cons, has_append, Bool.or_eq_false_iff, beq_eq_false_iff_ne]
    -- that the rest's ids differ from `id` is part of `has (acc ++ [(id, rw)])` on the left, of `Nodup` on the right
    constructor
    · rintro ⟨hn, hf, ha, ht⟩
      refine ⟨⟨fun hm => ?_, hn⟩, ⟨Bool.eq_false_iff.mpr hacc, fun m hm => (hf m hm).1⟩, ⟨⟨rw, hrw⟩, ha⟩, ht⟩
      obtain ⟨m, hm, e⟩ := List.mem_map.mp hm
      exact (hf m hm).2 e
    · rintro ⟨⟨hid, hn⟩, ⟨_, hf⟩, ⟨_, ha⟩, ht⟩
      exact ⟨hn, fun m hm => ⟨hf m hm, fun e => hid (List.mem_map.mpr ⟨m, hm, e⟩)⟩, ha, ht⟩

theorem codecs_find (msgs : List (UInt32 × Msg.GoStruct)) (h : ∀ m ∈ msgs, ∃ rw, Msg.init m.2 = .ok rw) (id : UInt32) :
    getMessage (codecs msgs) id = (msgs.find? (fun m => m.1 == id)).bind (fun m => (Msg.init m.2).toOption) := by
  induction msgs with
  | nil => rfl
  | cons m r ih =>
    obtain ⟨⟨rw, hrw⟩, hr⟩ := List.forall_mem_cons.mp h
    rw [codecs_cons m r rw hrw, List.find?_cons, getMessage, List.find?_cons]
    cases m.1 == id
    · exact ih hr
    · simp [hrw, Except.toOption]

end Mav.Dialect
