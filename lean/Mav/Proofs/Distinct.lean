import Mav.Model.DialectCheck
import Mav.Model.EnumCheck
/-
  Distinctness checks the kernel runs in (nearly) linear time, for the regenerated tables; the model's `idsDistinct` and
  `distinctBy` compare every pair. Message ids are below 2^24 and are kept as the bits of one number; enum values go up to 2^64
  and are kept in a sorted list (slower than the bits, so the ids do not use it).
-/
namespace Mav

/-- the ids seen so far are the bits of `seen` (the kernel computes on such numbers natively) -/
def distinctFrom (seen : Nat) : List Nat → Bool
  | [] => true
  | x :: r => !seen.testBit x && distinctFrom (seen ||| 1 <<< x) r

theorem idsDistinct_of_distinctFrom (seen : Nat) (l : List Nat) (h : distinctFrom seen l = true) :
    idsDistinct l = true ∧ ∀ x ∈ l, seen.testBit x = false := by
  induction l generalizing seen with
  | nil => exact ⟨rfl, by simp⟩
  | cons x r ih =>
    simp only [distinctFrom, Bool.and_eq_true, Bool.not_eq_true'] at h
    obtain ⟨hr, hs⟩ := ih _ h.2
    simp only [Nat.testBit_or, Nat.one_shiftLeft, Nat.testBit_two_pow, Bool.or_eq_false_iff, decide_eq_false_iff_not] at hs
    refine ⟨?_, ?_⟩
    · simp only [idsDistinct, Bool.and_eq_true, List.all_eq_true, bne_iff_ne]
      exact ⟨fun y hy => Ne.symm (hs y hy).2, hr⟩
    · intro y hy
      rcases List.mem_cons.mp hy with rfl | hy
      · exact h.1
      · exact (hs y hy).1

/-- insert into a strictly decreasing list; `none` if already there. Enum values are declared in nearly increasing order, so
    the place is nearly always the head. -/
def insertNew (x : Nat) : List Nat → Option (List Nat)
  | [] => some [x]
  | y :: r => if y < x then some (x :: y :: r) else if y = x then none else (insertNew x r).map (y :: ·)

def allNew : List Nat → List Nat → Bool
  | [], _ => true
  | x :: r, acc => match insertNew x acc with
    | some acc' => allNew r acc'
    | none => false

theorem insertNew_spec (x : Nat) (acc acc' : List Nat) (hs : acc.Pairwise (· > ·)) (h : insertNew x acc = some acc') :
    x ∉ acc ∧ acc'.Pairwise (· > ·) ∧ ∀ y, y ∈ acc' ↔ y = x ∨ y ∈ acc := by
  fun_induction insertNew x acc generalizing acc' with
  | case1 => cases h; simp
  | case2 y r hyx =>
    -- `x` is greater than the head, hence than everything
    cases h
    have hx : ∀ z ∈ y :: r, x > z :=
      List.forall_mem_cons.mpr ⟨hyx, fun z hz => Nat.lt_trans ((List.pairwise_cons.mp hs).1 z hz) hyx⟩
    exact ⟨fun hm => Nat.lt_irrefl _ (hx x hm), List.pairwise_cons.mpr ⟨hx, hs⟩, fun _ => List.mem_cons⟩
  | case3 y r => cases h
  | case4 y r hlt hne ih =>
    obtain ⟨hy, hr⟩ := List.pairwise_cons.mp hs
    obtain ⟨a, ha, rfl⟩ := Option.map_eq_some_iff.mp h
    obtain ⟨h1, h2, h3⟩ := ih a hr ha
    have hyx : y > x := by omega
    refine ⟨by simp only [List.mem_cons, not_or]; exact ⟨by omega, h1⟩, List.pairwise_cons.mpr ⟨fun z hz => ?_, h2⟩, fun z => ?_⟩
    · rcases (h3 z).mp hz with rfl | hz
      · exact hyx
      · exact hy z hz
    · simp only [List.mem_cons, h3, or_left_comm]

theorem distinctBy_of_allNew {α} (f : α → Nat) (l : List α) (acc : List Nat) (hs : acc.Pairwise (· > ·))
    (h : allNew (l.map f) acc = true) : EnumText.distinctBy f l = true ∧ ∀ a ∈ l, f a ∉ acc := by
  induction l generalizing acc with
  | nil => exact ⟨rfl, by simp⟩
  | cons a r ih =>
    simp only [List.map_cons, allNew] at h
    split at h
    · rename_i acc' hi
      obtain ⟨h1, h2, h3⟩ := insertNew_spec _ _ _ hs hi
      obtain ⟨hd, hn⟩ := ih acc' h2 h
      refine ⟨?_, ?_⟩
      · simp only [EnumText.distinctBy, Bool.and_eq_true, List.all_eq_true, Bool.not_eq_true', beq_eq_false_iff_ne]
        exact ⟨fun y hy e => hn y hy ((h3 _).mpr (Or.inl e.symm)), hd⟩
      · intro b hb
        rcases List.mem_cons.mp hb with rfl | hb
        · exact h1
        · exact fun hm => hn b hb ((h3 _).mpr (Or.inr hm))
    · cases h

/-- `EnumText.valuesOk` with the one-pass distinctness check -/
def valuesOkFast (d : EnumText.EnumDef) : Bool :=
  d.consts.all (fun c => decide (c.2 < 2 ^ 64)) && allNew (d.consts.map (·.2)) [] &&
  (match d.form with
    | .plain => true
    | .valueList _ => EnumText.listOk d
    | .bitLoop _ => false)

theorem valuesOk_of_fast (d : EnumText.EnumDef) (h : valuesOkFast d = true) : EnumText.valuesOk d = true := by
  simp only [valuesOkFast, EnumText.valuesOk, Bool.and_eq_true] at h ⊢
  exact ⟨⟨h.1.1, (distinctBy_of_allNew _ _ [] .nil h.1.2).1⟩, h.2⟩

end Mav
