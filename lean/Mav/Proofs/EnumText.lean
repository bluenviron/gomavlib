import Mav.Proofs.Decimal
import Mav.Model.EnumCheck
/-
  C19: the two round trips through text. A plain enum prints a declared constant as its name and anything else as a numeral, and
  each is read back. A bitmask enum prints the declared masks the value contains, joined by " | "; `strings.Split` undoes the
  join, every name is read back as its mask, and the union of the masks a value contains is the value when it is a union of
  declared masks at all (`orAll` is a least upper bound for `Submask`).
-/
namespace Mav.EnumText

theorem find_of_distinct {α β} [BEq β] [LawfulBEq β] (f : α → β) (l : List α) (h : distinctBy f l = true) (x : α) (hx : x ∈ l) :
    l.find? (fun y => f y == f x) = some x := by
  induction l with
  | nil => simp at hx
  | cons y r ih =>
    simp only [distinctBy, Bool.and_eq_true, List.all_eq_true] at h
    rcases List.mem_cons.1 hx with rfl | hx
    · simp
    · have hne : (f y == f x) = false := by simpa using h.1 x hx
      simp [hne, ih h.2 hx]

theorem toInt64_range (v : UInt64) : -9223372036854775808 ≤ toInt64 v ∧ toInt64 v ≤ 9223372036854775807 := by
  have h1 := Int64.le_toInt v.toInt64
  have h2 := Int64.toInt_lt v.toInt64
  unfold toInt64; omega

theorem ofInt64_toInt64 (v : UInt64) : ofInt64 (toInt64 v) = v := by simp [ofInt64, toInt64]

/-! ### `strings.Split` undoes `strings.Join` when no label contains a blank -/

theorem splitSep_char (c : Char) (hc : c ≠ ' ') (r cur : List Char) : splitSep (c :: r) cur = splitSep r (c :: cur) := by
  simp [splitSep, hc]

theorem splitSep_sep (r cur : List Char) : splitSep (sep ++ r) cur = cur.reverse :: splitSep r [] := by
  show splitSep (' ' :: '|' :: ' ' :: r) cur = _
  rw [splitSep, if_pos rfl]
  split <;> simp_all [sepTail]

theorem splitSep_nospace (x : List Char) (hx : ∀ c ∈ x, c ≠ ' ') (rest cur : List Char) :
    splitSep (x ++ rest) cur = splitSep rest (x.reverse ++ cur) := by
  induction x generalizing cur with
  | nil => rfl
  | cons c r ih =>
    rw [List.cons_append, splitSep_char c (hx c (by simp)), ih fun y hy => hx y (by simp [hy])]
    simp

theorem splitSep_join (x : List Char) (r : List (List Char)) (h : ∀ y ∈ x :: r, ∀ c ∈ y, c ≠ ' ') (cur : List Char) :
    splitSep (joinSep (x :: r)) cur = (cur.reverse ++ x) :: r := by
  induction r generalizing x cur with
  | nil => simpa [joinSep, splitSep] using splitSep_nospace x (h x (by simp)) [] cur
  | cons y r ih =>
    show splitSep (x ++ sep ++ joinSep (y :: r)) cur = _
    rw [List.append_assoc, splitSep_nospace x (h x (by simp)), splitSep_sep, ih y (fun z hz => h z (by simp [hz]))]
    simp

theorem splitSep_joinSep (l : List (List Char)) (hne : l ≠ []) (hl : ∀ x ∈ l, ∀ c ∈ x, c ≠ ' ') :
    splitSep (joinSep l) [] = l := by
  obtain ⟨x, r, rfl⟩ := List.exists_cons_of_ne_nil hne
  exact splitSep_join x r hl []

/-! ### flag sets: a value is the union of the declared masks it contains -/

/-- m ⊆ v as bit sets -/
def Submask (m v : UInt64) : Prop := v &&& m = m

theorem submask_iff {m v : UInt64} : Submask m v ↔ ∀ i < 64, m.toBitVec.getLsbD i = true → v.toBitVec.getLsbD i = true := by
  simp [Submask, ← UInt64.toBitVec_inj, BitVec.eq_of_getLsbD_eq_iff]

theorem submask_refl (v : UInt64) : Submask v v := UInt64.and_self
theorem submask_zero (v : UInt64) : Submask 0 v := UInt64.and_zero

theorem submask_antisymm {a b : UInt64} (h1 : Submask a b) (h2 : Submask b a) : a = b := by
  rw [submask_iff] at h1 h2
  rw [← UInt64.toBitVec_inj, BitVec.eq_of_getLsbD_eq_iff]
  exact fun i hi => Bool.eq_iff_iff.2 ⟨h1 i hi, h2 i hi⟩

theorem submask_or_iff {a b v : UInt64} : Submask (a ||| b) v ↔ Submask a v ∧ Submask b v := by
  simp [submask_iff, or_imp, forall_and]

def orAll (l : List UInt64) (acc : UInt64) : UInt64 := l.foldl (· ||| ·) acc

theorem orAll_submask_iff {l : List UInt64} {acc v : UInt64} : Submask (orAll l acc) v ↔ Submask acc v ∧ ∀ m ∈ l, Submask m v := by
  induction l generalizing acc with
  | nil => simp [orAll]
  | cons m r ih =>
    show Submask (orAll r (acc ||| m)) v ↔ _
    simp [ih, submask_or_iff, and_assoc]

theorem orAll_filter (masks S : List UInt64) (hS : ∀ s ∈ S, s ∈ masks) (v : UInt64) (hv : v = orAll S 0) :
    orAll (masks.filter (fun m => v &&& m == m)) 0 = v := by
  have hup {l : List UInt64} : ∀ m ∈ l, Submask m (orAll l 0) := (orAll_submask_iff.1 (submask_refl _)).2
  refine submask_antisymm (orAll_submask_iff.2 ⟨submask_zero v, fun m hm => by simpa [Submask] using (List.mem_filter.1 hm).2⟩) ?_
  subst hv
  exact orAll_submask_iff.2 ⟨submask_zero _, fun s hs => hup s (List.mem_filter.2 ⟨hS s hs, by simpa [Submask] using hup s hs⟩)⟩

theorem fold_labels (d : EnumDef) (F : List UInt64) (label : UInt64 → List Char)
    (h : ∀ m ∈ F, parseLabel d (label m) = some m) (acc : UInt64) :
    (F.map label).foldl (orStep d) (some acc) = some (orAll F acc) := by
  induction F generalizing acc with
  | nil => rfl
  | cons m r ih =>
    simp only [List.map_cons, List.foldl_cons, orStep, h m (by simp)]
    exact ih (fun x hx => h x (by simp [hx])) _

/-- the labels UnmarshalText parses: the whole text of an ordinary enum, the pieces between the separators of a bitmask -/
def labels (d : EnumDef) (text : List Char) : List (List Char) :=
  match d.form with
  | .plain => [text]
  | _ => splitSep text []

/-- one label that does not parse fails the whole text, whatever the form of the enum and wherever the label stands -/
theorem unmarshal_rejects (d : EnumDef) (text l : List Char) (hl : l ∈ labels d text) (h : parseLabel d l = none) :
    unmarshal d text = none := by
  have stays (ls : List (List Char)) : ls.foldl (orStep d) none = none := by
    induction ls with
    | nil => rfl
    | cons _ _ ih => exact ih
  have fold (ls : List (List Char)) (hl : l ∈ ls) : ∀ acc, ls.foldl (orStep d) acc = none := by
    induction ls with
    | nil => cases hl
    | cons x r ih =>
      intro acc
      rcases List.mem_cons.mp hl with rfl | hr
      · have : orStep d acc l = none := by cases acc <;> simp [orStep, h]
        rw [List.foldl_cons, this, stays]
      · exact ih hr _
  cases hf : d.form with
  | plain =>
    simp only [labels, hf, List.mem_singleton] at hl
    simp only [unmarshal, hf, ← hl, h]
  | bitLoop _ | valueList _ =>
    simp only [labels, hf] at hl
    simp only [unmarshal, hf]
    exact fold _ hl _

theorem label_parse (d : EnumDef) (hok : tableOk d = true) (c : String × Nat) (hc : c ∈ d.consts) :
    labelOf d (UInt64.ofNat c.2) = some c.1.toList ∧ parseLabel d c.1.toList = some (UInt64.ofNat c.2) := by
  simp only [tableOk, Bool.and_eq_true, List.all_eq_true, decide_eq_true_eq] at hok
  obtain ⟨⟨hnames, hdn⟩, hdv⟩ := hok
  have hto : (UInt64.ofNat c.2).toNat = c.2 := by have := (hnames c hc).2; simp; omega
  constructor
  · simp only [labelOf, hto, find_of_distinct (fun c : String × Nat => c.2) d.consts hdv c hc, Option.map_some]
  · simp only [parseLabel, valueOf, find_of_distinct (fun c : String × Nat => c.1.toList) d.consts hdn c hc, Option.map_some]

/-- a numeral is not the name of a constant (`nameOk`), so it is read as a number: `Atoi` gives back what `Itoa` was given -/
theorem parseLabel_itoa (d : EnumDef) (hok : tableOk d = true) (i : Int) (h1 : -9223372036854775808 ≤ i)
    (h2 : i ≤ 9223372036854775807) : parseLabel d (itoa i) = some (ofInt64 i) := by
  simp only [tableOk, Bool.and_eq_true, List.all_eq_true] at hok
  have hnotname : valueOf d (itoa i) = none := by
    simp only [valueOf, Option.map_eq_none_iff, List.find?_eq_none]
    intro c hc heq
    have hn := (hok.1.1 c hc).1
    simp only [nameOk, beq_iff_eq.1 heq, itoa] at hn
    by_cases hneg : i < 0
    · simp [hneg] at hn
    · obtain ⟨ch, r, hr, hc0, hc9⟩ := natToDec_head i.toNat
      simp [hneg, hr, hc0, hc9] at hn
  simp only [parseLabel, hnotname, atoi_itoa i h1 h2, Option.map_some]

theorem bitmask_roundtrip (d : EnumDef) (vs : List Nat) (hf : d.form = .valueList vs) (hlist : listOk d = true)
    (hok : tableOk d = true) (hsp : noSpace d = true)
    (S : List UInt64) (hS : ∀ s ∈ S, s ∈ masks d) (v : UInt64) (hv : v = orAll S 0) :
    unmarshal d (marshal d v) = some v := by
  by_cases hz : v = 0
  · subst hz
    have h0 : parseLabel d ['0'] = some 0 := parseLabel_itoa d hok 0 (by decide) (by decide)
    simp [unmarshal, marshal, hf, splitSep, orStep, h0]
  · -- every mask is the value of a declared constant: it is printed as that constant's name
    have hmask : ∀ m ∈ masks d, parseLabel d ((labelOf d m).getD []) = some m ∧ ∀ ch ∈ (labelOf d m).getD [], ch ≠ ' ' := by
      intro m hm
      have hvs : vs = d.consts.map (·.2) := by simpa [listOk, hf] using hlist
      simp only [masks, hf, hvs, List.mem_filter, List.mem_map] at hm
      obtain ⟨⟨_, ⟨c, hc, rfl⟩, rfl⟩, _⟩ := hm
      obtain ⟨h1, h2⟩ := label_parse d hok c hc
      simp only [noSpace, List.all_eq_true] at hsp
      exact ⟨by rw [h1]; exact h2, fun ch hch => by simpa using hsp c hc ch (by simpa [h1] using hch)⟩
    have hF := orAll_filter (masks d) S hS v hv
    have hmem {m} (hm : m ∈ (masks d).filter (fun m => v &&& m == m)) := hmask m (List.mem_filter.1 hm).1
    simp only [unmarshal, marshal, hf, beq_false_of_ne hz, Bool.false_eq_true, if_false]
    rw [splitSep_joinSep _ (fun h => hz (by simpa [List.map_eq_nil_iff.1 h, orAll] using hF.symm))
        (by simp only [List.mem_map]; rintro _ ⟨m, hm, rfl⟩; exact (hmem hm).2),
      fold_labels d _ _ (fun m hm => (hmem hm).1), hF]

theorem plain_roundtrip (d : EnumDef) (hf : d.form = .plain) (hok : tableOk d = true) (v : UInt64) :
    unmarshal d (marshal d v) = some v := by
  simp only [unmarshal, marshal, hf]
  cases hfind : d.consts.find? (fun c => c.2 == v.toNat) with
  | some c =>
    have hval : c.2 = v.toNat := by simpa using List.find?_some hfind
    simp only [labelOf, hfind, Option.map_some, (label_parse d hok c (List.mem_of_find?_eq_some hfind)).2, hval,
      UInt64.ofNat_toNat]
  | none =>
    have hrange := toInt64_range v
    simp only [labelOf, hfind, Option.map_none, parseLabel_itoa d hok _ hrange.1 hrange.2, ofInt64_toInt64]

end Mav.EnumText
