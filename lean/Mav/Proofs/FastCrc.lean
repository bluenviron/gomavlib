import Mav.Proofs.Shipped
/-
  CRC_EXTRA of a struct in a form the kernel evaluates quickly: names through `fastChars`, name conversions on character
  lists, byte strings through `data.toList`, X25 on natural numbers, folded over the pieces of its input (no `++` between
  them to go through for every byte). One theorem: it is `(Spec.Msg.ofGo st).map crcExtra`.
-/
namespace Mav.Fast
open Spec Msg Shipped InitSound

def snakeLowerL : List Char → List Char
  | [] => []
  | c :: r => c.toLower :: r.flatMap (fun x => if x.isUpper then ['_', x.toLower] else [x])

def snakeUpperL : List Char → List Char
  | [] => []
  | c :: r => c.toUpper :: r.flatMap (fun x => if x.isUpper then ['_', x] else [x.toUpper])

theorem snakeLower_eq (s : String) : snakeLower s = String.ofList (snakeLowerL s.toList) := by
  unfold snakeLower; cases s.toList <;> rfl

theorem snakeUpper_suffix (n : String) : snakeUpper (msgSuffix n) = String.ofList (snakeUpperL (n.toList.drop 7)) := by
  unfold snakeUpper msgSuffix; rw [String.toList_ofList]; cases n.toList.drop 7 <;> rfl

/-- `Gen.x25Step` on natural numbers. `Nat.xor`, `Nat.land`, … the kernel computes natively; behind `^^^`, `&&&`, … it has to
    unfold the instances of the notation first, which makes the step 3.5 times as dear -/
def stepNat (c b : Nat) : Nat :=
  let t := b.xor (c.land 255)
  let t := (t.xor ((t.shiftLeft 4).mod 65536)).land 255
  (((c.shiftRight 8).xor ((t.shiftLeft 8).mod 65536)).xor ((t.shiftLeft 3).mod 65536)).xor (t.shiftRight 4)

theorem stepNat_eq (c : UInt16) (b : UInt8) : (Gen.x25Step c b).toNat = stepNat c.toNat b.toNat := by
  simp [Gen.x25Step, stepNat]; rfl

/-- X25 continued from the sum `c` -/
def crcFrom (c : Nat) (bs : Bytes) : Nat := bs.foldl (fun c b => stepNat c b.toNat) c

theorem crc16_toNat (bs : Bytes) : (crc16 bs).toNat = crcFrom 65535 bs := by
  rw [← x25_sum_eq_crc16]
  exact (List.foldl_hom UInt16.toNat fun c b => (stepNat_eq c b).symm).symm

theorem crc16_flatten (L : List Bytes) : (crc16 L.flatten).toNat = L.foldl crcFrom 65535 := by
  rw [crc16_toNat, crcFrom, List.foldl_flatten]; rfl

/-- the bytes of `InitSound.specNameAt st j ++ " "` -/
def fieldNameBytes (st : GoStruct) (j : Nat) : Bytes :=
  match st.fields[j]? with
  | some f => if f.mavname ≠ "" then (f.mavname ++ " ").toByteArray.data.toList else nameBytes (snakeLowerL (fastChars f.goName))
  | none => [32]

theorem fieldNameBytes_eq (st : GoStruct) (j : Nat) : fieldNameBytes st j = sbytes (InitSound.specNameAt st j ++ " ") := by
  unfold fieldNameBytes InitSound.specNameAt sbytes
  cases st.fields[j]? with
  | none => rw [toUTF8_toList]; rfl
  | some f =>
    simp only [InitField.specName]
    split
    · rw [toUTF8_toList]
    · rw [snakeLower_eq, toUTF8_ofList_space, fastChars_eq]

/-- `fieldCrcBytes` and `crcExtraInput`, in pieces -/
def fieldPieces (st : GoStruct) (sf : SField) : List Bytes :=
  [(tyName sf.ty ++ " ").toByteArray.data.toList, fieldNameBytes st sf.idx, match sf.arr with | some n => [UInt8.ofNat n] | none => []]

def crcPieces (st : GoStruct) (sfs : List SField) : List Bytes :=
  nameBytes (snakeUpperL ((fastChars st.name).drop 7)) :: (stableSortDesc (sfs.filter (!·.ext))).flatMap (fieldPieces st)

theorem crcPieces_eq (st : GoStruct) (d : SDef) (h : ofGo st = some d) : crcExtraInput d = (crcPieces st d.fields).flatten := by
  obtain ⟨rw, hi⟩ := InitSound.definition_is_accepted st d h
  obtain ⟨fs, _, rfl⟩ := InitSound.accepted_def st rw d hi h
  unfold crcExtraInput crcPieces
  rw [snakeUpper_suffix, sbytes, toUTF8_ofList_space, fastChars_eq, List.flatten_cons, List.flatMap_def, List.flatMap_def,
    List.flatten_flatten, List.map_map]
  congr 2
  apply List.map_congr_left
  intro sf hm
  -- the fields of the definition are views of the fields `Initialize` set up: their names are `specNameAt` of their index
  obtain ⟨a, _, rfl⟩ := List.mem_map.mp (List.mem_filter.mp ((SortLink.stableSortDesc_perm _).mem_iff.mp hm)).1
  rw [fieldCrcBytes, Function.comp, fieldPieces, fieldNameBytes_eq, sbytes, toUTF8_toList]
  simp only [List.flatten_cons, List.flatten_nil, List.append_nil, List.append_assoc]
  rfl

/-- `(ofGo st).map crcExtra` -/
def crcExtraFast (st : GoStruct) : Option Nat :=
  if hasMsgPrefixFast st.name then (fieldsOfGo 0 st.fields).bind fun sfs =>
    if fieldsOk sfs then
      let c := (crcPieces st sfs).foldl crcFrom 65535
      some (c &&& 255 ^^^ c >>> 8)
    else none
  else none

theorem crcExtraFast_eq (st : GoStruct) : (ofGo st).map crcExtra = crcExtraFast st := by
  rw [ofGo_eq, crcExtraFast, hasMsgPrefixFast_eq]
  cases hp : hasMsgPrefix st.name <;> cases hf : fieldsOfGo 0 st.fields <;> try rfl
  rename_i sfs
  cases h : fieldsOk sfs
  · simp [h]
  · have hd := ofGo_eq st
    simp only [hp, hf, h, if_true, Option.bind_some] at hd
    simp [h, crcExtra, ← crc16_flatten, crcPieces_eq st _ hd]

end Mav.Fast
