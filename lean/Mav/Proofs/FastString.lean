import Mav.Basic
/-
  Strings the kernel can evaluate. `String.toList` of a literal decodes the UTF-8 byte array position by position through
  list-backed arrays (quadratic in its length) and `ByteArray.toList` is a well-founded loop; `data.toList` is a projection,
  and `fastChars` reads one byte of it per character, no further than its consumer does. That matters: the array of a literal
  is a chain of `push`es, and each further byte the kernel reads of it costs a pass over the rest of the chain
  (`Shipped.shippedOk` looks at the first character of a field name and the first eight of a struct name).
-/
namespace Mav

/-- UTF-8 decoded: an ASCII byte is a character; from the first other byte on, the library's decoder (never run on the
    shipped tables) -/
def utf8Chars : List UInt8 → List Char
  | b :: r => if b < 128 then Char.ofNat b.toNat :: utf8Chars r else ((b :: r).toByteArray.utf8Decode?.getD #[]).toList
  | [] => []

theorem utf8Chars_encode (l : List Char) : utf8Chars (l.flatMap String.utf8EncodeChar) = l := by
  -- a character above 127 has a first byte of 192 or more
  have big (l : List Char) (x y : UInt8) (t : List UInt8) (ht : (x ||| y) :: t = l.flatMap String.utf8EncodeChar)
      (hy : 128 ≤ y.toNat) : utf8Chars (l.flatMap String.utf8EncodeChar) = l := by
    have : ¬ (x ||| y) < 128 := by
      rw [UInt8.lt_iff_toNat_lt, UInt8.toNat_or]; exact Nat.not_lt.mpr (Nat.le_trans hy Nat.right_le_or)
    rw [← ht, utf8Chars, if_neg this, ht, ← List.utf8Encode, List.utf8Decode?_utf8Encode]; rfl
  induction l with
  | nil => rfl
  | cons c r ih =>
    rcases Char.utf8Size_eq c with h1 | h1 | h1 | h1
    · have : c.val.toNat ≤ 127 := UInt32.le_iff_toNat_le.mp (Char.utf8Size_eq_one_iff.mp h1)
      have e : c.val.toUInt8.toNat = c.toNat := by rw [UInt32.toNat_toUInt8]; exact Nat.mod_eq_of_lt (by omega)
      have lt : c.val.toUInt8 < 128 := by rw [UInt8.lt_iff_toNat_lt, e]; exact Nat.lt_succ_of_le this
      rw [List.flatMap_cons, String.utf8EncodeChar_eq_singleton h1, List.singleton_append, utf8Chars, if_pos lt, e,
        Char.ofNat_toNat, ih]
    · exact big _ _ _ _ (by rw [List.flatMap_cons, String.utf8EncodeChar_eq_cons_cons h1]; rfl) (by decide)
    · exact big _ _ _ _ (by rw [List.flatMap_cons, String.utf8EncodeChar_eq_cons_cons_cons h1]; rfl) (by decide)
    · exact big _ _ _ _ (by rw [List.flatMap_cons, String.utf8EncodeChar_eq_cons_cons_cons_cons h1]; rfl) (by decide)

/-- `s.toList` -/
def fastChars (s : String) : List Char := utf8Chars s.toByteArray.data.toList

theorem fastChars_eq (s : String) : fastChars s = s.toList := by
  rw [fastChars, ← String.utf8Encode_toList, List.utf8Encode, List.toList_data_toByteArray, utf8Chars_encode]

theorem toList_loop (b : ByteArray) (i : Nat) (r : List UInt8) :
    ByteArray.toList.loop b i r = r.reverse ++ b.data.toList.drop i := by
  fun_induction ByteArray.toList.loop b i r with
  | case1 i r h ih =>
    rw [ih, List.reverse_cons, List.append_assoc]
    congr 1
    have : i < b.data.toList.length := by simpa using h
    rw [List.drop_eq_getElem_cons this]
    simp [ByteArray.get!, getElem!_pos, h]
  | case2 i r h =>
    have : b.data.toList.length ≤ i := by simpa using h
    rw [List.drop_eq_nil_of_le this, List.append_nil]

theorem toUTF8_toList (s : String) : s.toUTF8.toList = s.toByteArray.data.toList := by
  simp [String.toUTF8, ByteArray.toList, toList_loop]

/-- the bytes of `String.ofList l ++ " "` -/
def nameBytes (l : List Char) : Bytes := l.flatMap String.utf8EncodeChar ++ [32]

theorem toUTF8_ofList_space (l : List Char) : (String.ofList l ++ " ").toUTF8.toList = nameBytes l := by
  rw [toUTF8_toList, String.toByteArray_append, ByteArray.toList_data_append, String.toByteArray_ofList, List.utf8Encode,
    List.toList_data_toByteArray]
  rfl

end Mav
