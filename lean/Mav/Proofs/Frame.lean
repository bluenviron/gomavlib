import Mav.Model.Writer
/-
  Frames as values: what the proofs about the reader and about the writers share. What `WF` says of each version (`wf_v1_iff`,
  `wf_v2_iff`: its only unfoldings); a frame with a raw message, by version (`Frame.raw_cases`); the buffer writes of
  `Frame.marshal` when they fit; and the vocabulary in which the dialect gate (Mav/Proofs/Gates.lean) and forwarding (C08) are
  stated: `setMsg` / `setCrc` replace a frame's message and checksum, and `Frame.sum f p extra` is the checksum of the header
  of `f` around a payload `p` — not necessarily the one `f` carries: the gate delivers the frame under the checksum of its
  header around the re-encoded payload.
-/
namespace Mav
open Spec

theorem wf_v1_iff {g : V1Frame} : WF (.v1 g) ↔ ∃ id p, g.msg = .raw id p ∧ id ≤ 0xFF ∧ p.length ≤ 255 := by
  cases hm : g.msg <;> simp [WF, wfb, hm, and_assoc]

theorem wf_v2_iff {g : V2Frame} :
    WF (.v2 g) ↔ ∃ id p, g.msg = .raw id p ∧ id < 0x1000000 ∧ p.length ≤ 255 ∧
      (g.incompat = 0 ∧ g.sig = none ∧ g.linkId = 0 ∧ g.ts = 0 ∨
       g.incompat = 1 ∧ g.ts < 0x1000000000000 ∧ ∃ sg, g.sig = some sg ∧ sg.length = 6) := by
  cases hm : g.msg <;> cases hs : g.sig <;> simp [WF, wfb, hm, hs, and_assoc]

theorem wf_raw {f : Frame} (h : WF f) : ∃ id p, f.msg = .raw id p := by
  cases f with
  | v1 g => obtain ⟨id, p, hm, _⟩ := wf_v1_iff.mp h; exact ⟨id, p, hm⟩
  | v2 g => obtain ⟨id, p, hm, _⟩ := wf_v2_iff.mp h; exact ⟨id, p, hm⟩

/-- the case split on the version of a frame that carries a raw message, with `hm` moved to the version's own `msg` field -/
theorem Frame.raw_cases {f : Frame} {id : UInt32} {p : Bytes} (hm : f.msg = .raw id p) :
    (∃ g : V1Frame, f = .v1 g ∧ g.msg = .raw id p) ∨ (∃ g : V2Frame, f = .v2 g ∧ g.msg = .raw id p) := by
  cases f with
  | v1 g => exact .inl ⟨g, rfl, hm⟩
  | v2 g => exact .inr ⟨g, rfl, hm⟩

theorem putInto_fits {cap : Nat} {acc src : Bytes} (h : acc.length + src.length ≤ cap) :
    putInto cap acc src = some (acc ++ src) := if_pos h

theorem copyInto_fits {cap : Nat} {acc src : Bytes} (h : acc.length + src.length ≤ cap) :
    copyInto cap acc src = acc ++ src := by
  rw [copyInto, List.take_of_length_le (Nat.le_sub_of_add_le' h)]

/-- the checksum `GenerateChecksum` computes for the header of `f` (raw message) around payload `p` -/
def Frame.sum (f : Frame) (p : Bytes) (extra : UInt8) : UInt16 :=
  match f with
  | .v1 g => X25.sum (g.crcInput p ++ [extra])
  | .v2 g => X25.sum (g.crcInput p ++ [extra])

def Frame.setCrc : Frame → UInt16 → Frame
  | .v1 g, c => .v1 { g with crc := c }
  | .v2 g, c => .v2 { g with crc := c }

@[simp] theorem Frame.msg_setMsg (f : Frame) (m : Msg) : (f.setMsg m).msg = m := by cases f <;> rfl
@[simp] theorem Frame.msg_setCrc (f : Frame) (c : UInt16) : (f.setCrc c).msg = f.msg := by cases f <;> rfl
@[simp] theorem Frame.crc_setCrc (f : Frame) (c : UInt16) : (f.setCrc c).crc = c := by cases f <;> rfl
@[simp] theorem Frame.isV2_setMsg (f : Frame) (m : Msg) : (f.setMsg m).isV2 = f.isV2 := by cases f <;> rfl
@[simp] theorem Frame.isV2_setCrc (f : Frame) (c : UInt16) : (f.setCrc c).isV2 = f.isV2 := by cases f <;> rfl
@[simp] theorem Frame.setMsg_setCrc (f : Frame) (m : Msg) (c : UInt16) : (f.setCrc c).setMsg m = (f.setMsg m).setCrc c := by
  cases f <;> rfl
@[simp] theorem Frame.setCrc_setCrc (f : Frame) (c c' : UInt16) : (f.setCrc c).setCrc c' = f.setCrc c' := by cases f <;> rfl
@[simp] theorem Frame.setMsg_setMsg (f : Frame) (m m' : Msg) : (f.setMsg m).setMsg m' = f.setMsg m' := by cases f <;> rfl

theorem Frame.sum_setMsg_setCrc (f : Frame) (m : Msg) (c : UInt16) (hid : m.id = f.msg.id) (p : Bytes) (e : UInt8) :
    ((f.setMsg m).setCrc c).sum p e = f.sum p e := by
  -- `crcInput` reads the message through its id only
  cases f <;> simp only [Frame.msg] at hid <;>
    simp only [Frame.setMsg, Frame.setCrc, Frame.sum, V1Frame.crcInput, V2Frame.crcInput, hid]

theorem wf_setMsg_raw {f : Frame} {id : UInt32} {p p' : Bytes} (h : WF f) (hm : f.msg = .raw id p) (hp : p'.length ≤ 255)
    (c : UInt16) : WF ((f.setMsg (.raw id p')).setCrc c) := by
  cases f with
  | v1 g =>
    obtain ⟨_, _, hm', hid, _⟩ := wf_v1_iff.mp h
    cases hm.symm.trans hm'
    exact wf_v1_iff.mpr ⟨id, p', rfl, hid, hp⟩
  | v2 g =>
    obtain ⟨_, _, hm', hid, _, hsig⟩ := wf_v2_iff.mp h
    cases hm.symm.trans hm'
    exact wf_v2_iff.mpr ⟨id, p', rfl, hid, hp, hsig⟩

theorem genChecksum_raw {f : Frame} {id : UInt32} {p : Bytes} (hm : f.msg = .raw id p) (extra : UInt8) :
    f.genChecksum extra = .ok (f.sum p extra) := by
  obtain ⟨g, rfl, hg⟩ | ⟨g, rfl, hg⟩ := Frame.raw_cases hm <;> simp [Frame.genChecksum, Frame.sum, hg]

theorem encodeInFrame_raw {d : WDialect} {f f1 : Frame} (h : encodeInFrame d f = .ok f1) : ∃ id p, f1.msg = .raw id p := by
  unfold encodeInFrame at h
  split at h
  · cases h; exact ⟨_, _, ‹_›⟩
  · split at h
    · cases h
    · split at h
      · cases h
      · split at h
        · cases h
        · cases h; exact ⟨_, _, Frame.msg_setMsg _ _⟩

end Mav
