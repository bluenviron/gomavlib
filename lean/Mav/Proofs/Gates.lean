import Mav.Proofs.Reader
import Mav.Proofs.X25
/- The reader's two gates, each as one total decision list (`sigGate_eq`, `dialectGate_eq`): their consumers read their cases
   off these, rewriting with what they know of the configuration and the frame. The checksum the dialect gate compares is
   `Frame.sum` (Mav/Proofs/Frame.lean), which is the specification's CRC over the specification's input (`Frame.sum_spec`). -/
namespace Mav
open Spec

/-- the bytes a signature covers are the frame's wire bytes up to the signature -/
theorem V2Frame.sigInput_eq_specBytes (g : V2Frame) {id : UInt32} {p : Bytes} (hm : g.msg = .raw id p) :
    g.sigInput p = specBytes (.v2 { g with sig := some [] }) := by
  simp [V2Frame.sigInput, specBytes, v2Bytes, hm, Gen.v2MagicByte, lenByte, Msg.id, uint24Encode_eq_le24, uint48Encode_eq_le48]

/-- under the driver's oracle switch `specWindow` the signed bytes are taken from the specification, which makes no difference
    (`sigInput_eq_specBytes`), and so is the window test, which agrees on 48-bit timestamps (C07) -/
theorem sigGate_eq (cfg : RCfg) (st : RState) (f : Frame) :
    sigGate cfg st f =
      match cfg.key with
      | none => .ok st
      | some key =>
        match f with
        | .v1 _ => .error .sigNotV2
        | .v2 g =>
          match g.sig, g.msg with
          | none, _ => .error .sigMissing
          | some _, .dec _ _ => .error .sigWrong
          | some sg, .raw _ p =>
            if sg ≠ (cfg.H (key ++ g.sigInput p)).take 6
            then .error .sigWrong
            else if (if cfg.specWindow then Spec.refuse st.cur g.ts else windowRefuse st.cur g.ts) then .error .sigOld
            else .ok { cur := windowUpdate st.cur g.ts } := by
  unfold sigGate
  cases cfg.key with
  | none => rfl
  | some key =>
    cases f with
    | v1 g => rfl
    | v2 g =>
      dsimp only
      cases g.sig with
      | none => rfl
      | some sg =>
        -- named before the split on `g.msg`, which would rewrite the `msg` field inside the structure update as well
        generalize hsb : specBytes (.v2 { g with sig := some [] }) = sb
        cases hm : g.msg with
        | dec _ _ => cases cfg.specWindow <;> simp [V2Frame.genSignature, hm]
        | raw id p =>
          obtain rfl : g.sigInput p = sb := (V2Frame.sigInput_eq_specBytes g hm).trans hsb
          cases cfg.specWindow <;> simp [V2Frame.genSignature, hm, @eq_comm _ sg]

theorem Frame.sum_spec {f : Frame} {id : UInt32} {p : Bytes} (hm : f.msg = .raw id p) (extra : UInt8) :
    (f.sum p extra).toBitVec = crc16 (crcInput f ++ [extra]) := by
  obtain ⟨g, rfl, hg⟩ | ⟨g, rfl, hg⟩ := Frame.raw_cases hm <;>
    simp [Frame.sum, x25_sum_eq_crc16, crcInput, V1Frame.crcInput, V2Frame.crcInput, hg, lenByte, Msg.id, uint24Encode_eq_le24]

/-- The model keeps the carried checksum when the re-encoding is the payload itself: that is the checksum of the
    re-encoding, having just been checked — except under the driver's oracle switch `specWindow`, where the checksum
    compared is the specification's, whence the condition in the last line. -/
theorem dialectGate_eq (cfg : RCfg) (f : Frame) :
    dialectGate cfg f =
      match cfg.dialect with
      | none => .frame f
      | some d =>
        match f.msg with
        | .dec _ _ => .panic
        | .raw id p =>
          match d id with
          | none => .frame f
          | some c =>
            if (if cfg.specWindow then .ofBitVec (crc16 (crcInput f ++ [c.specCrcExtra])) else f.sum p c.crcExtra) ≠ f.crc
            then .perr .crcWrong else
            match c.decode f.isV2 p with
            | .errSize => .perr .decodeSize
            | .panic => .panic
            | .ok vals =>
              match c.encode f.isV2 vals with
              | .panic => .panic
              | .ok p' =>
                .frame ((f.setMsg (.dec id vals)).setCrc (if cfg.specWindow ∧ p' = p then f.crc else f.sum p' c.crcExtra)) := by
  unfold dialectGate
  cases cfg.dialect with
  | none => rfl
  | some d =>
    cases hm : f.msg with
    | dec id v => rfl
    | raw id p =>
      dsimp only
      cases d id with
      | none => rfl
      | some c =>
        dsimp only
        rw [genChecksum_raw hm, ← apply_ite Except.ok]
        generalize hsum : (if cfg.specWindow = true then _ else _) = sum
        by_cases hcrc : sum = f.crc
        · subst hcrc
          -- the carried checksum is the one just checked
          have hkeep (p') : (if cfg.specWindow ∧ p' = p then f.crc else f.sum p' c.crcExtra) =
              if p' = p then f.crc else f.sum p' c.crcExtra := by
            cases hw : cfg.specWindow <;> simp [hw] at hsum ⊢
            exact fun hp => hp ▸ hsum
          simp only [hkeep, bne_self_eq_false, Bool.false_eq_true, if_false, ne_eq, not_true_eq_false]
          cases c.decode f.isV2 p <;> try rfl
          dsimp only
          cases c.encode f.isV2 _ <;> try rfl
          rename_i p'
          by_cases hp : p' = p <;> obtain ⟨g, rfl, hg⟩ | ⟨g, rfl, hg⟩ := Frame.raw_cases hm <;>
            simp [Frame.setMsg, Frame.setCrc, Frame.sum, Frame.crc, hp, V1Frame.crcInput, V2Frame.crcInput, hg, Msg.id]
        · simp [hcrc]

end Mav
