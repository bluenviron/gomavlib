import Mav.Spec.Gen18
/-
  The lemma halves of C18 over the model of the generator (Mav/Model/Gen18.lean).
  Message names: the run-time's inversion (`underscores`, then upper case) undoes `camel` on a lower-cased name of capitals, digits
  and underscores. `camel` looks one character ahead, so the induction (`roundtrip_tail`) carries the name with and without an
  underscore in front; what it needs of single characters is enumerated over their range (`range_cases`).
  Field names: the `mavname` tag is written exactly when the inversion fails, so one of the two gives the name (`tag_or_inverse`).
  `a**b`: one round of square-and-multiply keeps `r * b ^ e` (`pow_step`).
  Includes: a call of `processDefinition` only appends files that were not visited, and marks them visited (`Q`); the fold over
  the includes keeps that (`fold_Q`).
  Version: the file being converted is appended after all that its includes add (`processDef_some`), so its <version> is the last
  assignment.
-/
namespace Mav.C18
open Mav.Gen18 Mav.Msg

/-- every property of the characters in a range of at most 26 code points, by enumeration -/
theorem range_cases (lo : Nat) (P : Char → Prop) (h : ∀ i : Fin 26, P (Char.ofNat (lo + i.val))) (c : Char)
    (h1 : lo ≤ c.toNat) (h2 : c.toNat < lo + 26) : P c := by
  have := h ⟨c.toNat - lo, by omega⟩
  simp only [] at this
  have e : lo + (c.toNat - lo) = c.toNat := by omega
  rw [e, Char.ofNat_toNat] at this
  exact this

theorem between_cases (lo hi : Char) (hn : hi.toNat < lo.toNat + 26) (P : Char → Prop)
    (h : ∀ i : Fin 26, P (Char.ofNat (lo.toNat + i.val))) (c : Char) (h1 : lo ≤ c) (h2 : c ≤ hi) : P c :=
  range_cases lo.toNat P h c (UInt32.le_iff_toNat_le.mp h1) (Nat.lt_of_le_of_lt (UInt32.le_iff_toNat_le.mp h2) hn)

theorem upper_facts (c : Char) (hc : isUpper c = true) :
    c.toLower.toUpper = c ∧ isLowerAZ c.toLower = true ∧ c.toLower ≠ '_' ∧ isUpper c.toLower = false ∧ c.toUpper = c := by
  simp only [isUpper, Bool.and_eq_true, decide_eq_true_eq] at hc
  apply between_cases 'A' 'Z' (by decide) (c := c) (h1 := hc.1) (h2 := hc.2)
  decide

theorem digit_facts (c : Char) (hc : isDigit c = true) :
    c.toLower = c ∧ c.toUpper = c ∧ c ≠ '_' ∧ isUpper c = false ∧ isLowerAZ c = false := by
  have hc' := hc
  simp only [isDigit, Bool.and_eq_true, decide_eq_true_eq] at hc'
  -- the enumeration runs over 26 code points from '0': `hc` stays in the goal for those beyond '9'
  revert hc
  apply between_cases '0' '9' (by decide) (c := c) (h1 := hc'.1) (h2 := hc'.2)
  decide

def nameChar (c : Char) : Bool := isUpper c || isDigit c || c == '_'

theorem camel_cons_ne (c : Char) (r : List Char) (h : c ≠ '_') : camel (c :: r) = c :: camel r := by
  cases r with
  | nil => simp [camel]
  | cons d r =>
    rw [camel]
    · intro c' r' h1; exact absurd h1 (by simpa using h)

theorem camel_us (c : Char) (r : List Char) :
    camel ('_' :: c :: r) = if isLowerAZ c then c.toUpper :: camel r else '_' :: camel (c :: r) := by
  rw [camel]

/-- the run-time's inversion, upper-cased, of what the generator makes of the rest of a name (all in lower case by then) — and of
    the same with an underscore in front, which is how `camel` looks one character ahead -/
theorem roundtrip_tail (r : List Char) (h : r.all nameChar = true) :
    (underscores (camel (r.map Char.toLower))).map Char.toUpper = r ∧
    (underscores (camel ('_' :: r.map Char.toLower))).map Char.toUpper = '_' :: r := by
  induction r with
  | nil => exact ⟨rfl, by decide⟩
  | cons c r ih =>
    simp only [List.all_cons, Bool.and_eq_true] at h
    obtain ⟨ih1, ih2⟩ := ih h.2
    have hus : isUpper '_' = false ∧ isLowerAZ '_' = false ∧ Char.toUpper '_' = '_' ∧ Char.toLower '_' = '_' := by decide
    have hc := h.1
    simp only [nameChar, Bool.or_eq_true, beq_iff_eq] at hc
    simp only [List.map_cons, camel_us]
    rcases hc with (hu | hd) | rfl
    · obtain ⟨f1, f2, f3, f4, f6⟩ := upper_facts c hu
      rw [camel_cons_ne _ _ f3, if_pos f2, f1]
      simp only [underscores, f4, hu, Bool.false_eq_true, if_false, if_true, List.map_cons, f1, f6, hus.2.2.1, ih1, and_self]
    · obtain ⟨g1, g2, g3, g4, g5⟩ := digit_facts c hd
      have first : (underscores (camel (c :: r.map Char.toLower))).map Char.toUpper = c :: r := by
        rw [camel_cons_ne _ _ g3]
        simp only [underscores, g4, Bool.false_eq_true, if_false, List.map_cons, g2, ih1]
      rw [g1, g5, if_neg Bool.false_ne_true]
      simp only [underscores, hus.1, Bool.false_eq_true, if_false, List.map_cons, hus.2.2.1, first, and_self]
    · rw [hus.2.2.2, hus.2.1, if_neg Bool.false_ne_true]
      simp only [underscores, hus.1, Bool.false_eq_true, if_false, List.map_cons, hus.2.2.1, ih2, and_self]

/-- the MAVLink naming rule for message names: a capital letter, then capital letters, digits and underscores -/
def msgNameRule (s : String) : Bool :=
  match s.toList with
  | [] => false
  | c :: r => isUpper c && r.all nameChar

/-- the generator's `reMsgName` is the naming rule -/
theorem msgNameOk_eq_rule (s : String) : msgNameOk s = msgNameRule s := rfl

theorem msgNameRule_some {s : String} (h : msgNameRule s = true) :
    ∃ c r, s.toList = c :: r ∧ isUpper c = true ∧ r.all nameChar = true := by
  unfold msgNameRule at h
  split at h
  · cases h
  · next c r hs => exact ⟨c, r, hs, Bool.and_eq_true_iff.mp h⟩

theorem msg_name_roundtrip_list (c : Char) (r : List Char) (hc : isUpper c = true) (hr : r.all nameChar = true) :
    ((underscores (defToGoL (c :: r))).drop 1).map Char.toUpper = c :: r := by
  obtain ⟨f1, _, f3, _, f6⟩ := upper_facts c hc
  simp only [defToGoL, List.map_cons]
  rw [camel_cons_ne _ _ f3]
  simp only [f1, underscores, hc, if_true, List.drop_succ_cons, List.drop_zero, List.map_cons, f6, (roundtrip_tail r hr).1]

theorem processField_some {f : XField} {g : GoField} (h : processField f = some g) :
    ∃ goTy n, g = mkField f goTy (splitType f.ty).2.1 (splitType f.ty).2.2 n := by
  unfold processField at h
  cases h1 : typeToGo (splitType f.ty).1 with
  | none => rw [h1] at h; cases h
  | some goTy =>
    rw [h1] at h
    cases h2 : (if (splitType f.ty).2.1 != "" then Msg.atoiDigits (splitType f.ty).2.1.toList else some 0) with
    | none => simp only [h2] at h; cases h
    | some n => simp only [h2] at h; exact ⟨goTy, n, (Option.some.inj h).symm⟩

theorem processField_names (f : XField) (g : GoField) (h : processField f = some g) :
    g.goName = defToGo f.name ∧ g.mavname = (if goToDef (defToGo f.name) != f.name then f.name else "") := by
  obtain ⟨goTy, n, rfl⟩ := processField_some h
  constructor <;> simp only [mkField]

/-- a name is found again when the tag that carries it is written exactly when the inversion `inv` of the Go name fails — whichever
    inversion `inv'` is then used in its place, as long as it agrees with `inv` where `inv` succeeds -/
theorem tag_or_inverse {name tag inv inv' : String} (hn : name ≠ "") (ht : tag = if inv != name then name else "")
    (h : inv = name → inv' = name) : (if tag ≠ "" then tag else inv') = name := by
  subst ht
  by_cases hc : inv = name
  · simp [hc, h hc]
  · simp [hc, hn]

/-- one round of square-and-multiply leaves `r * b ^ e` as it is -/
theorem pow_step (b e r : Nat) : r * b ^ e = (if e % 2 = 1 then r * b else r) * (b * b) ^ (e / 2) := by
  have : b ^ e = b ^ (e % 2) * (b * b) ^ (e / 2) := by
    conv => lhs; rw [← Nat.mod_add_div e 2]
    rw [Nat.pow_add, Nat.pow_mul, Nat.pow_two]
  rw [this, ← Nat.mul_assoc]
  rcases Nat.mod_two_eq_zero_or_one e with h | h <;> simp [h]

theorem uintPow_succ (fuel b e r : Nat) : uintPow (fuel + 1) b e r =
    if e % 2 = 1 ∧ 2 ^ 64 ≤ r * b then none
    else if e / 2 = 0 then some (if e % 2 = 1 then r * b else r)
    else if 2 ^ 64 ≤ b * b then none else uintPow fuel (b * b) (e / 2) (if e % 2 = 1 then r * b else r) := rfl

/-- what one call of `processDefinition` may do to the state -/
def Q (v : List String) (o : List XFile) (v' : List String) (o' : List XFile) : Prop :=
  (∀ x ∈ v, x ∈ v') ∧ ∃ add, o' = o ++ add ∧ (∀ g ∈ add, g.name ∉ v ∧ g.name ∈ v') ∧ (add.map (·.name)).Nodup

theorem Q_refl (v : List String) (o : List XFile) : Q v o v o := ⟨fun _ h => h, [], by simp, by simp, by simp⟩

theorem Q_trans {v o v1 o1 v2 o2} (h1 : Q v o v1 o1) (h2 : Q v1 o1 v2 o2) : Q v o v2 o2 := by
  obtain ⟨s1, a1, e1, m1, n1⟩ := h1
  obtain ⟨s2, a2, e2, m2, n2⟩ := h2
  refine ⟨fun x hx => s2 x (s1 x hx), a1 ++ a2, by rw [e2, e1, List.append_assoc], ?_, ?_⟩
  · intro g hg
    rcases List.mem_append.mp hg with hg | hg
    · exact ⟨(m1 g hg).1, s2 _ (m1 g hg).2⟩
    · exact ⟨fun hv => (m2 g hg).1 (s1 _ hv), (m2 g hg).2⟩
  · rw [List.map_append, List.nodup_append]
    refine ⟨n1, n2, ?_⟩
    intro x hx y hy hxy
    obtain ⟨g1, hg1, rfl⟩ := List.mem_map.mp hx
    obtain ⟨g2, hg2, rfl⟩ := List.mem_map.mp hy
    exact (m2 g2 hg2).1 (hxy ▸ (m1 g1 hg1).2)

/-- the fold over the includes, from any state: it ends in a state only if it started in one -/
theorem fold_Q (fs : List XFile) (fuel : Nat)
    (hstep : ∀ name v o v' o', processDef fs fuel name (v, o) = some (v', o') → Q v o v' o') :
    ∀ (incs : List String) (st : Option (List String × List XFile)) (v' : List String) (o' : List XFile),
      incs.foldl (fun st inc => st.bind (processDef fs fuel inc)) st = some (v', o') → ∃ v o, st = some (v, o) ∧ Q v o v' o' := by
  intro incs
  induction incs with
  | nil => intro st v' o' h; exact ⟨v', o', h, Q_refl v' o'⟩
  | cons i r ih =>
    intro st v' o' h
    obtain ⟨v1, o1, h1, q⟩ := ih _ v' o' h
    obtain ⟨⟨v, o⟩, rfl, hp⟩ := Option.bind_eq_some_iff.mp h1
    exact ⟨v, o, rfl, Q_trans (hstep i v o v1 o1 hp) q⟩

theorem lookup_name (fs : List XFile) (n : String) (f : XFile) (h : lookupFile fs n = some f) : f.name = n := by
  unfold lookupFile at h
  have := List.find?_some h
  simpa using this

theorem processDef_some {fs : List XFile} {fuel : Nat} {name : String} {v v' : List String} {o o' : List XFile}
    (h : processDef fs (fuel + 1) name (v, o) = some (v', o')) :
    (v.contains name = true ∧ v' = v ∧ o' = o) ∨
    (v.contains name = false ∧ ∃ f o1, lookupFile fs name = some f ∧ o' = o1 ++ [f] ∧
      f.includes.foldl (fun st inc => st.bind (processDef fs fuel inc)) (some (name :: v, o)) = some (v', o1)) := by
  simp only [processDef] at h
  by_cases hv : v.contains name = true
  · simp only [hv, if_true, Option.some.injEq, Prod.mk.injEq] at h
    exact Or.inl ⟨hv, h.1.symm, h.2.symm⟩
  · simp only [hv, Bool.false_eq_true, if_false] at h
    cases hl : lookupFile fs name with
    | none => simp [hl] at h
    | some f =>
      simp only [hl] at h
      cases hf : f.includes.foldl (fun st inc => st.bind (processDef fs fuel inc)) (some (name :: v, o)) with
      | none => simp [hf] at h
      | some st =>
        simp only [hf, Option.map_some, Option.some.injEq, Prod.mk.injEq] at h
        exact Or.inr ⟨by simpa using hv, f, st.2, rfl, h.2.symm, by rw [← h.1]; exact hf⟩

theorem processed_some {fs out : List XFile} (h : processed fs = some out) :
    ∃ root rest v, fs = root :: rest ∧ processDef fs (fs.length + 1) root.name ([], []) = some (v, out) := by
  unfold processed at h
  cases fs with
  | nil => cases h
  | cons root rest =>
    obtain ⟨⟨v, o⟩, hp, rfl⟩ := Option.map_eq_some_iff.mp h
    exact ⟨root, rest, v, rfl, hp⟩

theorem processDef_Q (fs : List XFile) : ∀ (fuel : Nat) (name : String) (v : List String) (o : List XFile) (v' : List String) (o' : List XFile),
    processDef fs fuel name (v, o) = some (v', o') → Q v o v' o' := by
  intro fuel
  induction fuel with
  | zero => intro name v o v' o' h; simp [processDef] at h
  | succ fuel ih =>
    intro name v o v' o' h
    rcases processDef_some h with ⟨_, rfl, rfl⟩ | ⟨hv, f, o1, hl, rfl, hf⟩
    · exact Q_refl _ _
    · obtain ⟨_, _, e, s1, add, e1, m1, n1⟩ := fold_Q fs fuel ih f.includes _ v' o1 hf
      cases e
      have hname := lookup_name fs name f hl
      have hnv : name ∉ v := by simpa using hv
      -- the file itself is new: it was not visited before, and what the includes added was not visited after it was marked
      refine ⟨fun x hx => s1 x (List.mem_cons_of_mem _ hx), add ++ [f], by rw [e1, List.append_assoc], ?_, ?_⟩
      · intro g hg
        rcases List.mem_append.mp hg with hg | hg
        · exact ⟨fun h' => (m1 g hg).1 (List.mem_cons_of_mem _ h'), (m1 g hg).2⟩
        · simp at hg; subst hg; rw [hname]; exact ⟨hnv, s1 _ (List.mem_cons_self ..)⟩
      · rw [List.map_append, List.nodup_append]
        refine ⟨n1, by simp, ?_⟩
        intro x hx y hy hxy
        obtain ⟨g1, hg1, rfl⟩ := List.mem_map.mp hx
        simp at hy; subst hy
        rw [hname] at hxy
        exact (m1 g1 hg1).1 (hxy ▸ List.mem_cons_self ..)

end Mav.C18

namespace Mav.GenVersion
open Gen18

theorem foldl_version (order : List XFile) (v0 : String) :
    order.foldl (fun v f => if f.version != "" then f.version else v) v0 =
      ((order.reverse.find? (·.version != "")).map (·.version)).getD v0 := by
  induction order generalizing v0 with
  | nil => rfl
  | cons f r ih =>
    simp only [List.foldl_cons, List.reverse_cons, List.find?_append]
    rw [ih]
    cases r.reverse.find? (·.version != "") with
    | some g => simp
    | none => by_cases hf : (f.version != "") = true <;> simp [hf]

theorem parseNat_eq_atoiDigits (s : String) : Spec.Msg.parseNat s = Msg.atoiDigits s.toList := by
  unfold Spec.Msg.parseNat
  cases s.toList <;> rfl

theorem last_file_decides (pre : List XFile) (f : XFile) (h : f.version ≠ "") :
    versionOf (pre ++ [f]) = f.version := by
  unfold versionOf
  rw [List.foldl_append]
  simp [h]

theorem own_version_wins (root : XFile) (rest : List XFile) (order : List XFile)
    (h : processed (root :: rest) = some order) (hv : root.version ≠ "") :
    versionOf order = root.version := by
  obtain ⟨_, _, v, e, hp⟩ := C18.processed_some h
  cases e
  -- nothing is visited yet, so the root is looked up, and appended after what its includes add
  rcases C18.processDef_some hp with ⟨hc, _⟩ | ⟨_, f, pre, hl, rfl, _⟩
  · cases hc
  · have hf : f = root := by simpa [lookupFile] using hl.symm
    rw [hf]
    exact last_file_decides pre root hv

example : versionNum (versionOf [{ name := "inc", version := "3", includes := [], enums := [], msgs := [] },
                                  { name := "main", version := "0", includes := ["inc"], enums := [], msgs := [] }]) = 0 := by decide +kernel

end Mav.GenVersion

#print axioms Mav.C18.Q_refl
#print axioms Mav.C18.Q_trans
#print axioms Mav.C18.camel_cons_ne
#print axioms Mav.C18.digit_facts
#print axioms Mav.C18.fold_Q
#print axioms Mav.C18.lookup_name
#print axioms Mav.C18.msg_name_roundtrip_list
#print axioms Mav.C18.processDef_Q
#print axioms Mav.C18.processField_names
#print axioms Mav.C18.range_cases
#print axioms Mav.C18.roundtrip_tail
#print axioms Mav.C18.upper_facts
