import Mav.Spec.GoTool
import Mav.Model.GenFile
/-
  C18 `generated_file_is_plain_source`: the name `goFileName` gives to a generated file is read by the go tool
  (Mav/Spec/GoTool.lean) as a plain source file. What matters is `lastElem`, the text after the last underscore of the name: the go
  tool's two verdicts turn on it (`platform_free`, `test_free`; together `plain_of_not_special`), and the generator appends an
  underscore — so that it becomes empty — exactly when it is in its table.
-/
namespace Mav.GenFileP
open Mav.Spec.GoTool Mav.Model.GenFile

theorem splitU_us (cs : List Char) : splitU ('_' :: cs) = [] :: splitU cs := by
  rw [splitU]; simp

theorem splitU_ne (c : Char) (cs : List Char) (h : c ≠ '_') : splitU (c :: cs) = consHead c (splitU cs) := by
  rw [splitU]; simp [h]

theorem splitU_ne_nil (cs : List Char) : splitU cs ≠ [] := by
  cases cs with
  | nil => simp [splitU]
  | cons c cs =>
    by_cases hc : c = '_'
    · rw [hc, splitU_us]; simp
    · rw [splitU_ne c cs hc]; unfold consHead; split <;> simp

theorem splitU_append_us (a b : List Char) : splitU (a ++ '_' :: b) = splitU a ++ splitU b := by
  induction a with
  | nil => rw [List.nil_append, splitU_us]; simp [splitU]
  | cons c a ih =>
    rw [List.cons_append]
    by_cases hc : c = '_'
    · rw [hc, splitU_us, splitU_us, ih]; simp
    · rw [splitU_ne c _ hc, splitU_ne c _ hc, ih]
      rcases hs : splitU a with _ | ⟨e, es⟩
      · exact absurd hs (splitU_ne_nil a)
      · simp [consHead]

theorem splitU_noUs (b : List Char) (h : ∀ c ∈ b, c ≠ '_') : splitU b = [b] := by
  induction b with
  | nil => simp [splitU]
  | cons c b ih =>
    have hc : c ≠ '_' := h c (by simp)
    have hb : ∀ c ∈ b, c ≠ '_' := fun x hx => h x (by simp [hx])
    rw [splitU_ne c b hc, ih hb]; rfl

theorem exists_last (cs : List Char) (h : '_' ∈ cs) : ∃ a b, cs = a ++ '_' :: b ∧ ∀ c ∈ b, c ≠ '_' := by
  induction cs with
  | nil => cases h
  | cons c r ih =>
    by_cases hr : '_' ∈ r
    · obtain ⟨a, b, e, hb⟩ := ih hr
      exact ⟨c :: a, b, by rw [e]; rfl, hb⟩
    · have hc : c = '_' := by
        rcases List.mem_cons.mp h with h | h
        · exact h.symm
        · exact absurd h hr
      exact ⟨[], r, by rw [hc]; rfl, fun x hx e => hr (e ▸ hx)⟩

theorem takeWhile_stop (p : Char → Bool) (x : List Char) (c : Char) (y : List Char) (hx : ∀ d ∈ x, p d = true) (hc : p c = false) :
    (x ++ c :: y).takeWhile p = x := by
  rw [List.takeWhile_append_of_pos hx, List.takeWhile_cons_of_neg (by simp [hc]), List.append_nil]

theorem dropWhile_stop (p : Char → Bool) (x : List Char) (c : Char) (y : List Char) (hx : ∀ d ∈ x, p d = true) (hc : p c = false) :
    (x ++ c :: y).dropWhile p = c :: y := by
  rw [List.dropWhile_append_of_pos hx, List.dropWhile_cons_of_neg (by simp [hc])]

theorem isPrefixOf_stop (p : Char → Bool) (a : List Char) (c : Char) (l : List Char) (ha : ∀ d ∈ a, p d = true) (hc : p c = false)
    (h : (a ++ [c]).isPrefixOf l = true) : l.takeWhile p = a := by
  obtain ⟨t, rfl⟩ := List.isPrefixOf_iff_prefix.mp h
  rw [List.append_assoc, List.singleton_append, takeWhile_stop p a c t ha hc]

theorem lastElem_eq (a b : List Char) (hb : ∀ c ∈ b, c ≠ '_') : lastElem (a ++ '_' :: b) = b := by
  unfold lastElem
  rw [List.reverse_append, List.reverse_cons, List.append_assoc, List.singleton_append,
    takeWhile_stop _ b.reverse '_' a.reverse (fun d hd => by simpa using hb d (List.mem_reverse.mp hd)) (by decide),
    List.reverse_reverse]

theorem isOS_nil : isOS [] = false := by decide
theorem isArch_nil : isArch [] = false := by decide

/-- a name that ends with `_test.go` has `test` after its last underscore -/
theorem test_suffix (le R : List Char) (hle : ∀ c ∈ le, c ≠ '_')
    (h : ['t', 's', 'e', 't', '_'].isPrefixOf (le.reverse ++ '_' :: R) = true) : le = ['t', 'e', 's', 't'] := by
  have h1 := isPrefixOf_stop (· != '_') ['t', 's', 'e', 't'] '_' _ (by decide) (by decide) h
  rw [takeWhile_stop _ le.reverse '_' R (fun d hd => by simpa using hle d (List.mem_reverse.mp hd)) (by decide)] at h1
  rw [← List.reverse_reverse le, h1]; rfl

/-- the two prefixes the generator uses -/
def Kind (k : List Char) : Prop := k = ['e', 'n', 'u', 'm'] ∨ k = ['m', 'e', 's', 's', 'a', 'g', 'e']

theorem kind_noSep (kind : List Char) (hk : Kind kind) : ∀ c ∈ kind, c ≠ '_' ∧ c ≠ '.' := by
  rcases hk with rfl | rfl <;> decide

theorem restricted_last (S : List (List Char)) (a : List Char) (h1 : isOS a = false) (h2 : isArch a = false) :
    restricted (S ++ [a]) = false := by
  unfold restricted
  rw [List.reverse_append]
  rcases S.reverse with _ | ⟨o, t⟩ <;> simp [restrictedRev, h1, h2]

theorem dropTest_last (S : List (List Char)) (a : List Char) (h : a ≠ ['t', 'e', 's', 't']) : dropTest (S ++ [a]) = S ++ [a] := by
  unfold dropTest
  simp [h]

/-- the last elements of a file name that go/build gives a meaning to -/
def Special (e : List Char) : Prop := e = ['t', 'e', 's', 't'] ∨ isOS e = true ∨ isArch e = true

/-- `_Z` — what `platformOnly` keeps of the name `kind_Z` — cut at its last underscore: the rest `L` is the `lastElem` of the whole name -/
theorem last_split (kind Z : List Char) :
    ∃ pre L, '_' :: Z = pre ++ '_' :: L ∧ (∀ c ∈ L, c ≠ '_') ∧ lastElem (kind ++ '_' :: Z) = L := by
  obtain ⟨pre, L, hZ, hL⟩ := exists_last ('_' :: Z) List.mem_cons_self
  exact ⟨pre, L, hZ, hL, by rw [hZ, ← List.append_assoc]; exact lastElem_eq _ L hL⟩

theorem platform_free (kind Z : List Char) (hk : ∀ c ∈ kind, c ≠ '_' ∧ c ≠ '.') (hz : ∀ c ∈ Z, c ≠ '.')
    (h : ¬ Special (lastElem (kind ++ '_' :: Z))) : platformOnly ((kind ++ '_' :: Z) ++ '.' :: ['g', 'o']) = false := by
  obtain ⟨pre, L, hZ, hL, hlast⟩ := last_split kind Z
  rw [hlast] at h
  unfold platformOnly
  rw [takeWhile_stop (· != '.') (kind ++ '_' :: Z) '.' ['g', 'o'] ?_ (by decide),
    dropWhile_stop (· != '_') kind '_' Z (fun d hd => by simpa using (hk d hd).1) (by decide)]
  · show restricted (dropTest (splitU ('_' :: Z))) = false
    rw [hZ, splitU_append_us, splitU_noUs _ hL, dropTest_last _ _ fun e => h (.inl e)]
    exact restricted_last _ _ (Bool.eq_false_iff.mpr fun e => h (.inr (.inl e))) (Bool.eq_false_iff.mpr fun e => h (.inr (.inr e)))
  · intro d hd
    rcases List.mem_append.mp hd with hd | hd
    · simpa using (hk d hd).2
    · rcases List.mem_cons.mp hd with rfl | hd
      · decide
      · simpa using hz d hd

theorem test_free (kind Z : List Char) (h : lastElem (kind ++ '_' :: Z) ≠ ['t', 'e', 's', 't']) :
    isTestFile ((kind ++ '_' :: Z) ++ '.' :: ['g', 'o']) = false := by
  obtain ⟨pre, L, hZ, hL, hlast⟩ := last_split kind Z
  rw [hlast] at h
  cases ht : isTestFile ((kind ++ '_' :: Z) ++ '.' :: ['g', 'o']) with
  | false => rfl
  | true =>
    refine absurd (test_suffix L (kind ++ pre).reverse hL ?_) h
    unfold isTestFile at ht
    have e : ((kind ++ (pre ++ '_' :: L)) ++ '.' :: ['g', 'o']).reverse =
        'o' :: 'g' :: '.' :: (L.reverse ++ '_' :: (kind ++ pre).reverse) := by
      simp [List.reverse_append]
    rw [hZ, e] at ht
    simpa [List.isPrefixOf] using ht

theorem plain_of_not_special (kind Z : List Char) (hk : ∀ c ∈ kind, c ≠ '_' ∧ c ≠ '.') (hz : ∀ c ∈ Z, c ≠ '.')
    (h : ¬ Special (lastElem (kind ++ '_' :: Z))) : plainSource ((kind ++ '_' :: Z) ++ '.' :: ['g', 'o']) = true := by
  rw [plainSource, platform_free kind Z hk hz h, test_free kind Z fun e => h (.inl e)]
  rfl

/-- **the name `goFileName` gives is a plain source file for the go tool** — for any table `reserved` that contains `test` and every
    GOOS and GOARCH value go/build knows, and any prefix `kind` without underscore and dot -/
theorem goFileNameWith_plain (reserved : List String) (hres : ∀ e, Special e → reserved.contains (String.ofList e) = true)
    (kind name : List Char) (hk : ∀ c ∈ kind, c ≠ '_' ∧ c ≠ '.') (hn : ∀ c ∈ lower name, c ≠ '.') :
    plainSource (goFileNameWith reserved kind name) = true := by
  simp only [goFileNameWith]
  split
  · -- a reserved last element: an underscore is appended, the last element is now empty
    have := plain_of_not_special kind (lower name ++ ['_']) hk (List.forall_mem_append.mpr ⟨hn, by decide⟩) ?_
    · simpa using this
    · rw [← List.cons_append, ← List.append_assoc, lastElem_eq _ [] nofun]
      rintro (h | h | h)
      · cases h
      · rw [isOS_nil] at h; cases h
      · rw [isArch_nil] at h; cases h
  · rename_i hnot
    have := plain_of_not_special kind (lower name) hk hn fun h => hnot (hres _ h)
    simpa using this

end Mav.GenFileP
