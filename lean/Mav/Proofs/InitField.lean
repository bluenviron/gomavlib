import Mav.Spec.Msg
import Mav.Proofs.Decimal
/-
  One struct field, read by the model of `ReadWriter.Initialize` (`Msg.initField`) and by the specification
  (`Spec.Msg.fieldOfGo`). Both readings are functions of the field's `shape`, what its Go type and its tags make of it: numbers
  of a wire type (plain or enum, scalar or array) or a string with its length tag; a field without a shape both refuse. The
  specification's field is `Shape.spec` of it (`fieldOfGo_eq`), the model's is `Shape.model` of it provided the array length
  is 1..255 (`initField_eq`). The specification's field is then the view `toS` of the model's (its name apart, which the two
  derive from the Go identifier by different conversions), and the model's field is `FieldOk`: its length byte is the element
  count `Read` and `Write` go by. Three sizes meet here: `DField.size` (a byte; `sizeNat` is its value before wrapping) is what
  `Initialize` adds up, `fsize` is what `Read` and `Write` consume, `SField.size` is the guide's; for a `FieldOk` field the
  three agree (`FieldOk.sizeNat`, `FieldOk.fsize`; the name given to `toS` enters none of them).
-/
namespace Mav.InitField
open Msg

theorem sizes_tbl (t : Gen.FType) : (Gen.fieldTypeSizes t).toNat = Spec.Msg.tySize t := by cases t <;> rfl

theorem names_tbl (t : Gen.FType) : Gen.fieldTypeString t = Spec.Msg.tyName t := by cases t <;> rfl

theorem enumCapable_eq (t : Gen.FType) :
    Gen.enumCapable t = (t == .uint8 || t == .int8 || t == .uint16 || t == .uint32 || t == .int32 || t == .uint64) := by
  cases t <;> rfl

theorem char_iff_string (s : String) (t : Gen.FType) (h : Gen.fieldTypeFromGo s = some t) : t = .char ↔ s = "string" := by
  unfold Gen.fieldTypeFromGo at h
  split at h <;> cases h <;> simp

theorem digitsL_eq (cs : List Char) : Spec.Msg.digitsL cs = atoiDigits cs := by
  cases cs <;> rfl

/-- `strconv.Atoi` reads a length tag as the specification does, except that it also reads a minus sign -/
theorem atoi_cases (s : String) : atoi s = (Spec.Msg.parseLen s).map (fun n : Nat => (n : Int)) ∨
    (Spec.Msg.parseLen s = none ∧ ∀ z, atoi s = some z → z ≤ 0) := by
  unfold atoi Spec.Msg.parseLen
  generalize s.toList = cs
  split
  · refine .inr ⟨?_, fun z hz => ?_⟩
    · show Spec.Msg.digitsL _ = none
      exact fold_none _ (fun _ => rfl) _
    · cases h : atoiDigits _ <;> rw [h] at hz <;> cases hz
      exact Int.neg_nonpos_of_nonneg (Int.natCast_nonneg _)
  · refine .inl ?_
    show _ = Option.map _ (Spec.Msg.digitsL _)
    rw [digitsL_eq]; cases atoiDigits _ <;> rfl
  · rename_i hm hp
    refine .inl ?_
    split
    · exact absurd rfl (hp _)
    · rw [digitsL_eq]; cases atoiDigits cs <;> rfl

theorem byteOfInt_nat (n : Nat) : byteOfInt (n : Int) = UInt8.ofNat n := by
  unfold byteOfInt
  apply UInt8.toNat_inj.mp
  simp only [UInt8.toNat_ofNat']
  have : ((n : Int) % 256).toNat = n % 256 := by omega
  rw [this]; simp

/-- an array or string length the format allows (`Spec.Msg.ofGo` asks it of every field) -/
def lenOk : Option Nat → Bool
  | some n => 1 ≤ n && n ≤ 255
  | none => true

theorem lenOk_some {n : Nat} (h : lenOk (some n) = true) : (1 ≤ n ∧ n ≤ 255) ∧ (UInt8.ofNat n).toNat = n := by
  simp only [lenOk, Bool.and_eq_true, decide_eq_true_eq] at h
  rw [UInt8.toNat_ofNat']; omega

/-- the specification's field, as a function of the field `Initialize` has set up and of its name (which the specification
    derives from the Go identifier by its own conversion) -/
def toS (n : String) (d : DField) : Spec.Msg.SField :=
  { name := n, ty := d.ftype, arr := if d.isArray then some d.arrayLength.toNat else none, ext := d.isExt, idx := d.index }

/-- the field name the specification derives: the documented lower snake case of the Go identifier, unless a tag gives one -/
def specName (f : GoField) : String := if f.mavname ≠ "" then f.mavname else Spec.Msg.snakeLower f.goName

/-- the field name `initField` derives: the run-time's conversion of the Go identifier, unless a tag gives one -/
def modelName (f : GoField) : String := if f.mavname ≠ "" then f.mavname else fieldGoToDef f.goName

/-- what `initField` establishes about the field it returns, beyond its view `toS`: the array-length byte is nonzero for arrays
    and sized strings, at most 1 otherwise, and is the element count `Read`/`Write` go by -/
structure FieldOk (d : DField) : Prop where
  arr : d.isArray = true → 1 ≤ d.arrayLength.toNat
  scalar : d.isArray = false → d.arrayLength.toNat ≤ 1
  count : (if d.isArray then d.arrayLength.toNat else 1) = if isStr d then d.arrayLength.toNat else nElems d

theorem toS_count (n : String) (d : DField) : (toS n d).arr.getD 1 = if d.isArray then d.arrayLength.toNat else 1 := by
  unfold toS; split <;> rfl

theorem FieldOk.lenOk {d : DField} (h : FieldOk d) (n : String) : lenOk (toS n d).arr = true := by
  unfold InitField.lenOk toS
  by_cases ha : d.isArray = true
  · have := h.arr ha; have := d.arrayLength.toNat_lt
    simp only [ha, if_true, Bool.and_eq_true, decide_eq_true_eq]; omega
  · simp [ha]

theorem FieldOk.sizeNat {d : DField} (h : FieldOk d) (n : String) : sizeNat d = (toS n d).size := by
  unfold Msg.sizeNat Spec.Msg.SField.size
  rw [toS_count]
  simp only [toS, sizes_tbl, gt_iff_lt, UInt8.lt_iff_toNat_lt, UInt8.toNat_zero]
  by_cases ha : d.isArray = true
  · have := h.arr ha
    simp only [ha, if_true, show 0 < d.arrayLength.toNat by omega]
  · have := h.scalar (by simpa using ha)
    simp only [ha, Bool.false_eq_true, if_false]
    split <;> congr 1; omega

theorem FieldOk.count_num {d : DField} (h : FieldOk d) (n : String) (hs : isStr d = false) : nElems d = (toS n d).arr.getD 1 := by
  rw [toS_count, h.count, hs]; rfl

theorem FieldOk.count_str {d : DField} (h : FieldOk d) (n : String) (hs : isStr d = true) :
    d.arrayLength.toNat = (toS n d).arr.getD 1 := by
  rw [toS_count, h.count, hs]; rfl

/-- a model field consumes what a specification field of its type and element count occupies -/
theorem fsize_eq_size (a : DField) (b : Spec.Msg.SField) (hty : a.ftype = b.ty)
    (hn : isStr a = false → nElems a = b.arr.getD 1) (hs : isStr a = true → a.arrayLength.toNat = b.arr.getD 1) :
    fsize a = b.size := by
  rw [Spec.Msg.SField.size, ← hty, ← sizes_tbl, Msg.fsize]
  by_cases hstr : isStr a = true
  · have hc : a.ftype = .char := by simp only [isStr, Bool.and_eq_true, beq_iff_eq] at hstr; exact hstr.1
    rw [if_pos hstr, hs hstr, hc]; exact (Nat.one_mul _).symm
  · rw [if_neg hstr, hn (by simpa using hstr)]; rfl

theorem FieldOk.fsize {d : DField} (h : FieldOk d) (n : String) : fsize d = (toS n d).size :=
  fsize_eq_size d (toS n d) rfl (h.count_num n) (h.count_str n)

theorem FieldOk.of_num (d : DField) (hs : isStr d = false) (h1 : d.isArray = d.goIsArray)
    (h2 : d.arrayLength = if d.goIsArray then UInt8.ofNat d.goArrLen else 0)
    (hr : d.goIsArray = true → 1 ≤ d.goArrLen ∧ d.goArrLen ≤ 255) : FieldOk d := by
  have h3 : d.arrayLength.toNat = if d.goIsArray then d.goArrLen else 0 := by
    rw [h2]; split
    · rename_i ha; have := hr ha; rw [UInt8.toNat_ofNat']; omega
    · rfl
  refine ⟨?_, ?_, ?_⟩
  · intro ha; rw [h1] at ha; rw [h3, if_pos ha]; exact (hr ha).1
  · intro ha; rw [h1] at ha; rw [h3, ha]; exact Nat.zero_le _
  · simp only [hs, nElems, h1, h3, Bool.false_eq_true, if_false]
    split <;> rfl

theorem FieldOk.of_str (d : DField) (hs : isStr d = true) (h1 : 1 ≤ d.arrayLength.toNat)
    (h2 : d.isArray = false → d.arrayLength = 1) : FieldOk d := by
  refine ⟨fun _ => h1, fun ha => by rw [h2 ha]; exact Nat.le_refl _, ?_⟩
  simp only [hs, if_true]
  split
  · rfl
  · rename_i ha; rw [h2 (by simpa using ha)]; rfl

/-- what both readings make of a Go field: numbers (a scalar, an array, an enum) of a wire type, or a string with its length tag -/
inductive Shape
  | num (enum : Bool) (t : Gen.FType)
  | str (len : Option Nat)

def shape (f : GoField) : Option Shape :=
  if f.mavenum ≠ "" then
    if !f.elemIsUint64 then none else
    (Gen.fieldTypeFromGo f.mavenum).bind fun t => if Gen.enumCapable t then some (.num true t) else none
  else if f.elemType == "string" then
    if f.isArray then none else if f.mavlen == "" then some (.str none) else (Spec.Msg.parseLen f.mavlen).map fun n => .str (some n)
  else (Gen.fieldTypeFromGo f.elemType).map (.num false)

def goArr (f : GoField) : Option Nat := if f.isArray then some f.arrLen else none

/-- the array length of the definition -/
def Shape.arr (f : GoField) : Shape → Option Nat
  | .num _ _ => goArr f
  | .str n => n

def Shape.ty : Shape → Gen.FType
  | .num _ t => t
  | .str _ => .char

def Shape.spec (i : Nat) (f : GoField) (s : Shape) : Spec.Msg.SField :=
  { name := specName f, ty := s.ty, arr := s.arr f, ext := f.mavext == "true", idx := i }

def Shape.model (i : Nat) (f : GoField) : Shape → DField
  | .num e t =>
    { isEnum := e, ftype := t, name := modelName f, arrayLength := if f.isArray then UInt8.ofNat f.arrLen else 0,
      isArray := f.isArray, index := i, isExt := f.mavext == "true", goIsArray := f.isArray, goArrLen := f.arrLen }
  | .str n =>
    { isEnum := false, ftype := .char, name := modelName f, arrayLength := match n with | some n => UInt8.ofNat n | none => 1,
      isArray := n.isSome, index := i, isExt := f.mavext == "true", goIsArray := false, goArrLen := f.arrLen }

theorem fieldOfGo_eq (i : Nat) (f : GoField) :
    Spec.Msg.fieldOfGo i f = if f.exported then (shape f).map (Shape.spec i f) else none := by
  unfold Spec.Msg.fieldOfGo Spec.Msg.fieldOfGoCore shape
  cases f.exported
  · rfl
  simp only [Bool.not_true, Bool.false_eq_true, if_false, if_true, Option.bind_eq_bind, Option.pure_def]
  by_cases h1 : f.mavenum ≠ ""
  · rw [if_pos h1, if_pos h1]
    cases f.elemIsUint64 with
    | false => rfl
    | true =>
      cases Gen.fieldTypeFromGo f.mavenum with
      | none => rfl
      | some t => simp only [Option.bind_some, ← enumCapable_eq]; cases Gen.enumCapable t <;> rfl
  · rw [if_neg h1, if_neg h1]
    cases f.elemType == "string" with
    | false => cases Gen.fieldTypeFromGo f.elemType <;> rfl
    | true =>
      cases f.isArray with
      | true => rfl
      | false =>
        cases f.mavlen == "" with
        | true => rfl
        | false => cases Spec.Msg.parseLen f.mavlen <;> rfl

/-- (through `toOption`: no theorem speaks of WHICH error a refused field gets, only of acceptance and the result) -/
theorem initField_eq (i : Nat) (f : GoField) : (initField i f).toOption =
    if f.exported then ((shape f).filter fun s => lenOk (s.arr f)).map (Shape.model i f) else none := by
  unfold initField
  cases f.exported
  · rfl
  -- the guard on the Go array length
  have hg : (f.isArray && (decide (f.arrLen < 1) || decide (f.arrLen > 255))) = !lenOk (goArr f) := by
    unfold goArr lenOk; cases f.isArray
    · rfl
    · rw [Bool.eq_iff_iff]; simp
  rw [hg]
  unfold initFieldCore shape
  by_cases he : f.mavenum ≠ ""
  · rw [if_pos he, if_pos he]
    cases f.elemIsUint64 with
    | false => cases lenOk (goArr f) <;> rfl
    | true =>
      cases Gen.fieldTypeFromGo f.mavenum with
      | none => cases lenOk (goArr f) <;> rfl
      | some t =>
        dsimp only [Option.bind_some]
        cases Gen.enumCapable t with
        | false => cases lenOk (goArr f) <;> rfl
        | true =>
          show _ = Option.map _ (if lenOk (goArr f) then some (Shape.num true t) else none)
          cases lenOk (goArr f) <;> rfl
  · rw [if_neg he, if_neg he]
    cases hs : f.elemType == "string" with
    | false =>
      cases Gen.fieldTypeFromGo f.elemType with
      | none => cases lenOk (goArr f) <;> rfl
      | some t =>
        show _ = Option.map _ (if lenOk (goArr f) then some (Shape.num false t) else none)
        cases lenOk (goArr f) <;> rfl
    | true =>
      rw [show Gen.fieldTypeFromGo f.elemType = some .char by rw [eq_of_beq hs]; rfl]
      cases ha : f.isArray with
      | true => cases lenOk (goArr f) <;> rfl
      | false =>
        rw [show lenOk (goArr f) = true by unfold goArr; rw [ha]; rfl]
        by_cases hl : f.mavlen = ""
        · rw [hl]; rfl
        · have hl0 : (f.mavlen.length == 0) = false := by
            simpa using fun h0 => hl (String.length_eq_zero_iff.mp h0)
          have hl1 : (f.mavlen == "") = false := by simpa using hl
          rw [hl0, hl1]
          rcases atoi_cases f.mavlen with h | ⟨h1, h2⟩
          · rw [h]
            cases Spec.Msg.parseLen f.mavlen with
            | none => rfl
            | some n =>
              have hr : (decide ((n : Int) < 1) || decide ((n : Int) > 255)) = !lenOk (some n) := by
                rw [Bool.eq_iff_iff]; simp [lenOk]; omega
              simp only [Option.map_some, Option.filter_some, Shape.arr, hr, if_true, if_false, Bool.false_eq_true]
              cases lenOk (some n)
              · rfl
              · rw [byteOfInt_nat]; rfl
          · rw [h1]
            cases hz : atoi f.mavlen with
            | none => rfl
            | some z =>
              have : (decide (z < 1) || decide (z > 255)) = true := by have := h2 z hz; simp; omega
              simp only [this]; rfl

/-- a numeric field that is no enum is not of wire type `char`: `Read`/`Write` do not take it for a string -/
theorem shape_num (f : GoField) (e : Bool) (t : Gen.FType) (h : shape f = some (.num e t)) : (t == .char && !e) = false := by
  cases e with
  | true => exact Bool.and_false _
  | false =>
    -- neither an enum nor a string: the Go type is not `string`, so the wire type is not `char`
    unfold shape at h
    split at h
    · split at h
      · cases h
      · obtain ⟨_, _, h⟩ := Option.bind_eq_some_iff.mp h
        split at h <;> cases h
    · split at h
      · split at h
        · cases h
        · split at h
          · cases h
          · obtain ⟨_, _, h⟩ := Option.map_eq_some_iff.mp h
            cases h
      · rename_i hs
        obtain ⟨_, ht, h⟩ := Option.map_eq_some_iff.mp h
        cases h
        simpa using fun e => hs (by simpa using (char_iff_string _ _ ht).mp e)

theorem Shape.toS_model (i : Nat) (f : GoField) (s : Shape) (h : lenOk (s.arr f) = true) :
    toS (specName f) (s.model i f) = s.spec i f := by
  cases s with
  | num e t =>
    simp only [toS, Shape.model, Shape.spec, Shape.arr, Shape.ty, goArr] at h ⊢
    split
    · rename_i ha; rw [if_pos ha] at h; rw [(lenOk_some h).2]
    · rfl
  | str n =>
    cases n with
    | none => rfl
    | some n => simp only [toS, Shape.model, Shape.spec, Shape.arr, Shape.ty, Option.isSome_some, if_true, (lenOk_some h).2]

theorem Shape.fieldOk_model (i : Nat) (f : GoField) (s : Shape) (hs : shape f = some s) (h : lenOk (s.arr f) = true) :
    FieldOk (s.model i f) := by
  cases s with
  | num e t =>
    refine FieldOk.of_num _ (shape_num f e t hs) rfl rfl fun (ha : f.isArray = true) => ?_
    simp only [Shape.arr, goArr, if_pos ha] at h
    exact (lenOk_some h).1
  | str n =>
    refine FieldOk.of_str _ rfl ?_ ?_
    · cases n with
      | none => exact Nat.le_refl 1
      | some n => show 1 ≤ (UInt8.ofNat n).toNat; rw [(lenOk_some h).2]; exact (lenOk_some h).1.1
    · cases n with
      | none => exact fun _ => rfl
      | some n => exact fun h => nomatch h

theorem initField_ok_iff (i : Nat) (f : GoField) (d : DField) : initField i f = .ok d ↔
    f.exported = true ∧ ∃ s, shape f = some s ∧ lenOk (s.arr f) = true ∧ s.model i f = d := by
  have hd : initField i f = .ok d ↔ (initField i f).toOption = some d := by cases initField i f <;> simp [Except.toOption]
  rw [hd, initField_eq]
  cases f.exported
  · simp
  · simp [Option.map_eq_some_iff, Option.filter_eq_some_iff, and_assoc]

theorem initField_spec (i : Nat) (f : GoField) (d : DField) (h : initField i f = .ok d) :
    Spec.Msg.fieldOfGo i f = some (toS (specName f) d) ∧ d.index = i ∧ FieldOk d ∧ d.name = modelName f := by
  obtain ⟨hx, s, hs, hok, rfl⟩ := (initField_ok_iff i f d).mp h
  rw [fieldOfGo_eq, if_pos hx, hs, Option.map_some, s.toS_model i f hok]
  exact ⟨rfl, by cases s <;> rfl, s.fieldOk_model i f hs hok, by cases s <;> rfl⟩

theorem initField_of_spec (i : Nat) (f : GoField) (sf : Spec.Msg.SField)
    (h : Spec.Msg.fieldOfGo i f = some sf) (ha : lenOk sf.arr = true) : ∃ d, initField i f = .ok d := by
  rw [fieldOfGo_eq] at h
  split at h
  · rename_i hx
    cases hs : shape f with
    | none => rw [hs] at h; cases h
    | some s => rw [hs] at h; cases h; exact ⟨_, (initField_ok_iff ..).mpr ⟨hx, s, hs, ha, rfl⟩⟩
  · cases h

end Mav.InitField
