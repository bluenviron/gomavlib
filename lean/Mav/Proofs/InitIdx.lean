import Mav.Proofs.InitSound
import Mav.Proofs.Recode
/-
  What `InitSound.Accepted` gives the payload codec, in the codec's own words (`RWok` of Codec, `IdxOk` of Recode, which
  InitSound does not import): the sizes of an accepted struct did not wrap, and its field indexes are distinct positions below
  the number of fields.
-/
namespace Mav.InitSound
open Msg SortLink

theorem accepted_rwOk (st : GoStruct) (rw : RW) (h : Msg.init st = .ok rw) : RWok rw :=
  rwOk_of_bool rw (accepted_never_wraps st rw h)

theorem accepted_idx_ok (st : GoStruct) (rw : RW) (h : Msg.init st = .ok rw) : IdxOk rw.fields rw.nfields := by
  obtain ⟨fs, hfs⟩ := accepted st rw h
  have hperm : (rw.fields.map (·.index)).Perm (List.range' 0 st.fields.length) :=
    hfs.idx ▸ hfs.rw_eq ▸ (sortFields_perm fs).map _
  have hlen := hfs.nfields
  refine ⟨hperm.nodup_iff.mpr List.nodup_range', fun f hf => ?_⟩
  have := hperm.mem_iff.mp (List.mem_map_of_mem hf)
  rw [List.mem_range'_1] at this
  omega

end Mav.InitSound
