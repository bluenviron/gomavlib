import Mav.Proofs.InitField
import Mav.Proofs.SortLink
/-
  What a successful `Initialize` establishes (C17 "rejected when it is initialized, not at first use"; hypothesis of the C04
  theorems): after `fix: reject at initialization the message structs that cannot be encoded`, the model of `Initialize` accepts a
  struct exactly when it is a MAVLink definition in the specification's sense (`Spec.Msg.ofGo` is defined on it); the fields of
  that definition are the views (`view`) of the fields `Initialize` has set up; the byte-wide sizes did not wrap.
-/
namespace Mav.InitSound
open Msg InitField SortLink

theorem initFields_cons (i : Nat) (f : GoField) (r : List GoField) (ds : List DField) :
    initFields i (f :: r) = .ok ds ↔ ∃ d ds', initField i f = .ok d ∧ initFields (i + 1) r = .ok ds' ∧ ds = d :: ds' := by
  simp only [initFields, bind, Except.bind, pure, Except.pure]
  cases initField i f with
  | error e => simp
  | ok d => cases initFields (i + 1) r with
    | error e => simp
    | ok ds' => simp [eq_comm]

theorem fieldsOfGo_cons (i : Nat) (f : GoField) (r : List GoField) (sfs : List Spec.Msg.SField) :
    Spec.Msg.fieldsOfGo i (f :: r) = some sfs ↔
      ∃ sf sfs', Spec.Msg.fieldOfGo i f = some sf ∧ Spec.Msg.fieldsOfGo (i + 1) r = some sfs' ∧ sfs = sf :: sfs' := by
  simp only [Spec.Msg.fieldsOfGo, Option.bind_eq_bind, Option.pure_def]
  cases Spec.Msg.fieldOfGo i f with
  | none => simp
  | some sf => cases Spec.Msg.fieldsOfGo (i + 1) r with
    | none => simp
    | some sfs' => simp [eq_comm]

/-- `nm` is a table of names by field index, because `view` below looks the specification's name of a field up by its index in
    the struct; the last two conjuncts say the same of the specification's names and of the names `initField` gives -/
theorem initFields_spec (nm : Nat → String) : ∀ (gfs : List GoField) (i : Nat) (ds : List DField), initFields i gfs = .ok ds →
    ds.map (·.index) = List.range' i gfs.length ∧ (∀ d ∈ ds, FieldOk d) ∧
    ((∀ j f, gfs[j]? = some f → nm (i + j) = specName f) →
      Spec.Msg.fieldsOfGo i gfs = some (ds.map fun d => toS (nm d.index) d)) ∧
    ((∀ j f, gfs[j]? = some f → nm (i + j) = modelName f) → ∀ d ∈ ds, nm d.index = d.name) := by
  intro gfs
  induction gfs with
  | nil =>
    intro i ds h
    obtain rfl : [] = ds := by simpa only [initFields, pure, Except.pure, Except.ok.injEq] using h
    exact ⟨rfl, List.forall_mem_nil _, fun _ => by simp only [Spec.Msg.fieldsOfGo, List.map_nil], fun _ => List.forall_mem_nil _⟩
  | cons f r ih =>
    intro i ds h
    obtain ⟨d, ds', hd, hr, rfl⟩ := (initFields_cons ..).mp h
    obtain ⟨hsf, hi, hfo, hname⟩ := initField_spec i f d hd
    obtain ⟨e1, e2, e3, e4⟩ := ih (i + 1) ds' hr
    have tl : ∀ {g : GoField → String}, (∀ j f', (f :: r)[j]? = some f' → nm (i + j) = g f') →
        nm i = g f ∧ ∀ j f', r[j]? = some f' → nm (i + 1 + j) = g f' :=
      fun hn => ⟨hn 0 f rfl, fun j f' hj => by rw [Nat.add_assoc, Nat.add_comm 1]; exact hn (j + 1) f' hj⟩
    refine ⟨by simp only [List.map_cons, List.length_cons, List.range'_succ, e1, hi], ?_, ?_, ?_⟩
    · intro x hx
      cases hx with
      | head => exact hfo
      | tail _ hm => exact e2 x hm
    · intro hn
      obtain ⟨h0, ht⟩ := tl hn
      rw [fieldsOfGo_cons, List.map_cons, hi, h0]
      exact ⟨_, _, hsf, e3 ht, rfl⟩
    · intro hn x hx
      obtain ⟨h0, ht⟩ := tl hn
      cases hx with
      | head => rw [hi, h0, hname]
      | tail _ hm => exact e4 ht x hm

theorem initFields_of_spec : ∀ (gfs : List GoField) (i : Nat) (sfs : List Spec.Msg.SField),
    Spec.Msg.fieldsOfGo i gfs = some sfs → (∀ sf ∈ sfs, lenOk sf.arr = true) → ∃ ds, initFields i gfs = .ok ds := by
  intro gfs
  induction gfs with
  | nil => intro i sfs _ _; exact ⟨[], rfl⟩
  | cons f r ih =>
    intro i sfs h ha
    obtain ⟨sf, sfs', hsf, hr, rfl⟩ := (fieldsOfGo_cons ..).mp h
    obtain ⟨d, hd⟩ := initField_of_spec i f sf hsf (ha sf List.mem_cons_self)
    obtain ⟨ds, hds⟩ := ih (i + 1) sfs' hr (fun x hx => ha x (List.mem_cons_of_mem _ hx))
    exact ⟨d :: ds, (initFields_cons ..).mpr ⟨d, ds, hd, hds, rfl⟩⟩

theorem init_ok_iff (st : GoStruct) (rw : RW) : Msg.init st = .ok rw ↔
    hasMsgPrefix st.name = true ∧ ∃ fs, initFields 0 st.fields = .ok fs ∧ extOrderOk fs = true ∧ sizeTotal fs ≤ 255 ∧
      rw = mkRW st fs := by
  unfold Msg.init
  cases hasMsgPrefix st.name
  · simp [throw, throwThe, MonadExceptOf.throw]
  · cases initFields 0 st.fields with
    | error e => simp
    | ok fs =>
      cases he : extOrderOk fs
      · simp [he, throw, throwThe, MonadExceptOf.throw]
      · by_cases hs : sizeTotal fs ≤ 255
        · simp [he, hs, Nat.not_lt.mpr hs, @eq_comm _ rw]
        · simp [he, hs, Nat.lt_of_not_le hs, throw, throwThe, MonadExceptOf.throw]

/-- the checks `Spec.Msg.ofGo` makes on the fields -/
def fieldsOk (fs : List Spec.Msg.SField) : Bool :=
  (fs.dropWhile (!·.ext)).all (·.ext) && fs.all (fun f => lenOk f.arr) && (fs.map Spec.Msg.SField.size).sum ≤ 255

theorem ofGo_eq (st : GoStruct) : Spec.Msg.ofGo st =
    if hasMsgPrefix st.name then (Spec.Msg.fieldsOfGo 0 st.fields).bind fun fs =>
      if fieldsOk fs then some { name := Spec.Msg.snakeUpper (msgSuffix st.name), fields := fs } else none
    else none := by
  unfold Spec.Msg.ofGo
  cases hasMsgPrefix st.name <;> rfl

theorem ofGo_some_iff (st : GoStruct) (d : Spec.Msg.SDef) : Spec.Msg.ofGo st = some d ↔
    hasMsgPrefix st.name = true ∧ ∃ sfs, Spec.Msg.fieldsOfGo 0 st.fields = some sfs ∧
      (sfs.dropWhile (!·.ext)).all (·.ext) = true ∧ (∀ sf ∈ sfs, lenOk sf.arr = true) ∧
      (sfs.map Spec.Msg.SField.size).sum ≤ 255 ∧ d = ⟨Spec.Msg.snakeUpper (msgSuffix st.name), sfs⟩ := by
  rw [ofGo_eq]
  cases hasMsgPrefix st.name
  · simp
  · cases Spec.Msg.fieldsOfGo 0 st.fields with
    | none => simp
    | some sfs => simp [fieldsOk, and_assoc, @eq_comm _ d]

def specNameAt (st : GoStruct) (j : Nat) : String := match st.fields[j]? with | some f => specName f | none => ""

/-- the specification's view of a field `Initialize` has set up for `st` -/
def view (st : GoStruct) (d : DField) : Spec.Msg.SField := toS (specNameAt st d.index) d

/-- "extensions follow the base fields" is a property of the list of extension flags -/
theorem extOrder_map {α β} (q : β → Bool) (g : α → β) (l : List α) :
    ((l.map g).dropWhile (!q ·)).all q = (l.dropWhile (fun a => !q (g a))).all (fun a => q (g a)) := by
  induction l with
  | nil => rfl
  | cons a r ih =>
    simp only [List.map_cons, List.dropWhile_cons]
    split
    · exact ih
    · simp only [List.all_cons, List.all_map]; rfl

theorem extOrder_pairwise {α} (p : α → Bool) (l : List α) (h : (l.dropWhile (!p ·)).all p = true) :
    l.Pairwise (fun a b => p a = true → p b = true) := by
  induction l with
  | nil => exact .nil
  | cons a r ih =>
    rw [List.dropWhile_cons] at h
    split at h
    · rename_i ha
      exact .cons (fun b _ hp => by rw [hp] at ha; cases ha) (ih h)
    · rw [List.all_cons, Bool.and_eq_true, List.all_eq_true] at h
      exact .cons (fun b hb _ => h.2 b hb) (List.pairwise_of_forall_mem_list fun x hx y hy _ => h.2 y hy)

/-- everything `Initialize` has established when it accepts `st` and returns `rw`; `fs` are the fields it has set up, in
    declaration order -/
structure Accepted (st : GoStruct) (rw : RW) (fs : List DField) : Prop where
  rw_eq : rw = mkRW st fs
  idx : fs.map (·.index) = List.range' 0 st.fields.length
  fieldOk : ∀ d ∈ fs, FieldOk d
  ext : extOrderOk fs = true
  size : sizeTotal fs ≤ 255
  /-- the struct is a definition, whose fields are those `Initialize` has set up -/
  spec : Spec.Msg.ofGo st = some ⟨Spec.Msg.snakeUpper (msgSuffix st.name), fs.map (view st)⟩
  /-- where the two name conversions agree, the fields have the specification's names -/
  named : (∀ f ∈ st.fields, specName f = modelName f) → ∀ d ∈ fs, view st d = toS d.name d

theorem sizeTotal_view (st : GoStruct) (fs : List DField) (hfo : ∀ d ∈ fs, FieldOk d) :
    ((fs.map (view st)).map Spec.Msg.SField.size).sum = sizeTotal fs := by
  unfold sizeTotal
  rw [List.map_map]
  congr 1
  exact List.map_congr_left fun d hd => ((hfo d hd).sizeNat _).symm

theorem specNameAt_eq (st : GoStruct) {g : GoField → String} (hg : ∀ f ∈ st.fields, specName f = g f) (j : Nat) (f : GoField)
    (hj : st.fields[j]? = some f) : specNameAt st (0 + j) = g f := by
  rw [Nat.zero_add, specNameAt, hj]
  exact hg f (List.mem_of_getElem? hj)

theorem accepted (st : GoStruct) (rw : RW) (h : Msg.init st = .ok rw) : ∃ fs, Accepted st rw fs := by
  obtain ⟨hname, fs, hfs, hext, hsz, hrw⟩ := (init_ok_iff st rw).mp h
  obtain ⟨hidx, hfo, hspec, hnamed⟩ := initFields_spec (specNameAt st) st.fields 0 fs hfs
  refine ⟨fs, hrw, hidx, hfo, hext, hsz, ?_, fun hn d hd => ?_⟩
  · refine (ofGo_some_iff ..).mpr ⟨hname, _, hspec (specNameAt_eq st fun _ _ => rfl), ?_, ?_, ?_, rfl⟩
    · exact (extOrder_map Spec.Msg.SField.ext (view st) fs).trans hext
    · intro sf hsf
      obtain ⟨d, hd, rfl⟩ := List.mem_map.mp hsf
      exact (hfo d hd).lenOk _
    · exact Nat.le_trans (Nat.le_of_eq (sizeTotal_view st fs hfo)) hsz
  · rw [view, hnamed (specNameAt_eq st hn) d hd]

theorem Accepted.mem_fields {st : GoStruct} {rw : RW} {fs : List DField} (h : Accepted st rw fs) (a : DField) :
    a ∈ rw.fields ↔ a ∈ fs := by
  rw [h.rw_eq]; exact (sortFields_perm fs).mem_iff

theorem Accepted.nfields {st : GoStruct} {rw : RW} {fs : List DField} (h : Accepted st rw fs) :
    rw.nfields = st.fields.length := by
  rw [h.rw_eq]; show fs.length = _; simpa using congrArg List.length h.idx

/-- **C17 (a malformed struct is rejected when it is initialized).** Whatever struct the model of `Initialize` accepts is a
    MAVLink definition in the specification's sense: exported fields of a supported type, enum fields of an integer type enums
    may use, array and string lengths 1..255, extension fields after the base fields, at most 255 bytes. Contrapositive: every
    struct that is not such a definition is refused by `Initialize` — not at the first Write or Read. -/
theorem accepted_is_definition (st : GoStruct) (rw : RW) (h : Msg.init st = .ok rw) : (Spec.Msg.ofGo st).isSome = true := by
  obtain ⟨fs, hfs⟩ := accepted st rw h
  rw [hfs.spec]; rfl

/-- **every definition is accepted.** Together with `accepted_is_definition`: the model of `Initialize` accepts a struct exactly
    when it is a MAVLink definition in the specification's sense. -/
theorem definition_is_accepted (st : GoStruct) (d : Spec.Msg.SDef) (h : Spec.Msg.ofGo st = some d) :
    ∃ rw, Msg.init st = .ok rw := by
  obtain ⟨hname, sfs, hsfs, hext, harr, hsz, _⟩ := (ofGo_some_iff st d).mp h
  obtain ⟨fs, hfs⟩ := initFields_of_spec st.fields 0 sfs hsfs harr
  obtain ⟨_, hfo, hspec, _⟩ := initFields_spec (specNameAt st) st.fields 0 fs hfs
  obtain rfl : sfs = fs.map (view st) := Option.some.inj (hsfs.symm.trans (hspec (specNameAt_eq st fun _ _ => rfl)))
  refine ⟨_, (init_ok_iff ..).mpr ⟨hname, fs, hfs, ?_, ?_, rfl⟩⟩
  · exact (extOrder_map Spec.Msg.SField.ext (view st) fs).symm.trans hext
  · exact Nat.le_trans (Nat.le_of_eq (sizeTotal_view st fs hfo).symm) hsz

theorem size_toNat (d : DField) : d.size.toNat = sizeNat d % 256 := by
  unfold DField.size sizeNat
  split
  · rw [UInt8.toNat_mul]
  · have := (Gen.fieldTypeSizes d.ftype).toNat_lt
    rw [Nat.mul_one, Nat.mod_eq_of_lt this]

/-- the byte-wide sums of `Initialize` are the sums of the sizes, when these are at most 255 -/
theorem foldl_sizes (p : DField → Bool) : ∀ (fs : List DField) (a : UInt8), a.toNat + sizeTotal fs ≤ 255 →
    (fs.foldl (fun a f => if p f then a else a + f.size) a).toNat = a.toNat + ((fs.filter (!p ·)).map sizeNat).sum := by
  intro fs
  induction fs with
  | nil => intro a _; rfl
  | cons f r ih =>
    intro a h
    simp only [sizeTotal, List.map_cons, List.sum_cons] at h
    simp only [List.foldl_cons, List.filter_cons]
    by_cases hp : p f = true
    · simp only [hp, if_true, Bool.not_true, Bool.false_eq_true, if_false]
      exact ih a (by unfold sizeTotal; omega)
    · simp only [hp, Bool.false_eq_true, if_false, Bool.not_false, if_true, List.map_cons, List.sum_cons]
      have ha : (a + f.size).toNat = a.toNat + sizeNat f := by rw [UInt8.toNat_add, size_toNat]; omega
      rw [ih _ (by unfold sizeTotal; omega), ha, Nat.add_assoc]

theorem Accepted.sizes {st : GoStruct} {rw : RW} {fs : List DField} (h : Accepted st rw fs) :
    rw.sizeExtended.toNat = sizeTotal fs ∧ rw.sizeNormal.toNat = sizeTotal (fs.filter (!·.isExt)) := by
  have hx := foldl_sizes (fun _ => false) fs 0 (by simpa using h.size)
  have hn := foldl_sizes (·.isExt) fs 0 (by simpa using h.size)
  simp only [UInt8.toNat_zero, Nat.zero_add, Bool.false_eq_true, if_false] at hx hn
  rw [h.rw_eq]
  exact ⟨hx.trans (congrArg sizeTotal (List.filter_eq_self.mpr fun _ _ => rfl)), hn⟩

theorem total_eq_sizeTotal (l : List DField) (hfo : ∀ d ∈ l, FieldOk d) : total l = sizeTotal l :=
  congrArg List.sum (List.map_congr_left fun d hd => ((hfo d hd).fsize "").trans ((hfo d hd).sizeNat "").symm)

theorem accepted_never_wraps (st : GoStruct) (rw : RW) (h : Msg.init st = .ok rw) : rwOkB rw = true := by
  obtain ⟨fs, hfs⟩ := accepted st rw h
  have hp := sortFields_perm fs
  have hfo : ∀ d ∈ sortFields fs, FieldOk d := fun d hd => hfs.fieldOk d (hp.mem_iff.mp hd)
  have hf := hp.filter (fun f => !f.isExt)
  simp only [rwOkB, hfs.sizes, Bool.and_eq_true, beq_iff_eq]
  rw [hfs.rw_eq]
  exact ⟨(total_eq_sizeTotal _ hfo).trans (hp.map sizeNat).sum_nat,
    (total_eq_sizeTotal _ fun d hd => hfo d (List.mem_filter.mp hd).1).trans (hf.map sizeNat).sum_nat⟩

theorem Accepted.declared {st : GoStruct} {rw : RW} {fs : List DField} (h : Accepted st rw fs) :
    SortOrder.Declared projD fs := by
  have h1 : fs.Pairwise (fun a b => a.index < b.index) := by
    have := h.idx ▸ List.pairwise_lt_range' (s := 0) (n := st.fields.length)
    exact List.pairwise_map.mp this
  exact (h1.and (extOrder_pairwise DField.isExt fs h.ext)).imp fun h => h

/-- **C03 (ordering, for every struct).** The fields as `Initialize` puts them on the wire, in the specification's view, are the
    specification's wire order of the definition: base fields by decreasing primitive size, declaration order within a size,
    then the extension fields as declared. -/
theorem Accepted.wire_order {st : GoStruct} {rw : RW} {fs : List DField} (h : Accepted st rw fs) (n : String) :
    Spec.Msg.wireOrder ⟨n, fs.map (view st)⟩ = rw.fields.map (view st) := by
  rw [h.rw_eq]
  exact (order_agrees (view st) (fun d => by simp only [projS, projD, view, toS, sizes_tbl]) n fs h.declared).symm

theorem accepted_def (st : GoStruct) (rw : RW) (d : Spec.Msg.SDef) (h1 : Msg.init st = .ok rw) (h2 : Spec.Msg.ofGo st = some d) :
    ∃ fs, Accepted st rw fs ∧ d = ⟨Spec.Msg.snakeUpper (msgSuffix st.name), fs.map (view st)⟩ := by
  obtain ⟨fs, hfs⟩ := accepted st rw h1
  exact ⟨fs, hfs, Option.some.inj (h2.symm.trans hfs.spec)⟩

theorem wireOrder_eq_views (st : GoStruct) (rw : RW) (d : Spec.Msg.SDef) (h1 : Msg.init st = .ok rw) (h2 : Spec.Msg.ofGo st = some d) :
    Spec.Msg.wireOrder d = rw.fields.map (view st) ∧ ∀ a ∈ rw.fields, FieldOk a := by
  obtain ⟨fs, hfs, rfl⟩ := accepted_def st rw d h1 h2
  exact ⟨hfs.wire_order _, fun a ha => hfs.fieldOk a ((hfs.mem_fields a).mp ha)⟩

theorem wire_order_agrees (st : GoStruct) (rw : RW) (d : Spec.Msg.SDef)
    (h1 : Msg.init st = .ok rw) (h2 : Spec.Msg.ofGo st = some d) :
    rw.fields.map (·.index) = (Spec.Msg.wireOrder d).map (·.idx) := by
  rw [(wireOrder_eq_views st rw d h1 h2).1, List.map_map]; rfl

/-- the sizes `Initialize` stores are the guide's (no hypothesis on identifiers) -/
theorem sizes_eq (st : GoStruct) (rw : RW) (d : Spec.Msg.SDef) (h1 : Msg.init st = .ok rw) (h2 : Spec.Msg.ofGo st = some d) :
    rw.sizeExtended.toNat = Spec.Msg.sizeExt d ∧ rw.sizeNormal.toNat = Spec.Msg.sizeBase d := by
  obtain ⟨fs, hfs, rfl⟩ := accepted_def st rw d h1 h2
  rw [hfs.sizes.1, hfs.sizes.2, ← sizeTotal_view st fs hfs.fieldOk,
    ← sizeTotal_view st _ fun d hd => hfs.fieldOk d (List.mem_filter.mp hd).1]
  unfold Spec.Msg.sizeExt Spec.Msg.sizeBase
  rw [List.filter_map]
  exact ⟨rfl, rfl⟩

end Mav.InitSound
