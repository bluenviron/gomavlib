import Mav.Proofs.InitSound
import Mav.Proofs.X25
/-
  CRC_EXTRA for EVERY struct (C03). `Initialize` feeds X25 piece by piece while it goes through the sorted fields; that fold is
  `X25.write` of one byte string, `flatMap bytesD` (`crc_fold_bytes`), and `bytesD` of a field is the guide's `fieldCrcBytes` of
  the field's view under its run-time name. With the wire order (`SortLink.order_agrees`), `x25_sum_eq_crc16` and
  `Gen.crcExtraFold` = low byte ⊕ high byte (`fold_link`) this is `crc_runtime_names`: what is stored is the guide's CRC_EXTRA of
  the definition under the names the run-time derives, whatever the identifiers. The run-time's conversions (a regexp puts `_`
  before every capital, the first character is dropped, then the case is changed) are the guide's snake case, letter by letter,
  for a name that begins with A–Z (`underscores_conv`: the character dropped is the `_` put before that capital; of any other
  name it is the first letter): hence the hypotheses `firstUpper` / `nameOk` of `crc_universal`, which speaks of the guide's own
  names.
-/
namespace Mav.LayoutLink
open Msg SortLink InitField InitSound

def firstUpper (s : String) : Prop := ∃ c r, s.toList = c :: r ∧ isUpper c = true

theorem firstUpper_iff (s : String) : firstUpper s ↔ suffixUpper s.toList = true := by
  unfold firstUpper
  cases s.toList with
  | nil => simp [suffixUpper]
  | cons c r => simp [suffixUpper]

/-- the struct name check of `Initialize` includes what the CRC theorem asks of the message name -/
theorem firstUpper_suffix (n : String) (h : hasMsgPrefix n = true) : firstUpper (msgSuffix n) := by
  rw [firstUpper_iff, msgSuffix, String.toList_ofList]
  exact (Bool.and_eq_true_iff.mp h).2

/-- what the struct name check of `Initialize` says: `Message`, then a capital letter -/
theorem hasMsgPrefix_iff (n : String) :
    hasMsgPrefix n = true ↔ ∃ c r, n.toList = "Message".toList ++ c :: r ∧ isUpper c = true := by
  have hd (t : List Char) : ("Message".toList ++ t).drop 7 = t := by simp
  rw [hasMsgPrefix, Bool.and_eq_true, List.isPrefixOf_iff_prefix]
  constructor
  · rintro ⟨⟨t, ht⟩, h2⟩
    rw [← ht, hd] at h2
    cases t with
    | nil => cases h2
    | cons c r => exact ⟨c, r, ht.symm, h2⟩
  · rintro ⟨c, r, hn, hc⟩
    rw [hn, hd]
    exact ⟨⟨_, rfl⟩, hc⟩

theorem isUpper_iff (c : Char) : isUpper c = c.isUpper := by
  simp [isUpper, Char.isUpper, Char.le_def]

theorem toLower_of_not_upper (c : Char) (h : c.isUpper = false) : c.toLower = c := by
  unfold Char.toLower
  have : ¬ (c.val ≥ 65 ∧ c.val ≤ 90) := by
    simp only [Char.isUpper, decide_eq_false_iff_not] at h
    exact h
  simp [this]

theorem toUpper_of_upper (c : Char) (h : c.isUpper = true) : c.toUpper = c := by
  unfold Char.toUpper
  have h' : c.val ≥ 65 ∧ c.val ≤ 90 := by simpa [Char.isUpper] using h
  have : ¬ (c.val ≥ 97 ∧ c.val ≤ 122) := by
    intro ⟨a, _⟩
    have h1 := UInt32.le_iff_toNat_le.mp a
    have h2 := UInt32.le_iff_toNat_le.mp h'.2
    simp at h1 h2; omega
  simp [this]

/-- the regexp replacement followed by a change of case `g`, letter by letter -/
theorem underscores_map (g : Char → Char) (r : List Char) :
    (underscores r).map g = r.flatMap fun x => if x.isUpper then [g '_', g x] else [g x] := by
  induction r with
  | nil => rfl
  | cons x r ih =>
    simp only [underscores, List.flatMap_cons, isUpper_iff]
    split <;> simp only [List.map_cons, ih] <;> rfl

theorem underscores_conv (g : Char → Char) (c : Char) (r : List Char) (hc : isUpper c = true) :
    ((underscores (c :: r)).drop 1).map g = g c :: r.flatMap fun x => if x.isUpper then [g '_', g x] else [g x] := by
  simp only [underscores, hc, if_true, List.drop_succ_cons, List.drop_zero, List.map_cons, underscores_map]

theorem field_name_conv (s : String) (h : firstUpper s) : fieldGoToDef s = Spec.Msg.snakeLower s := by
  obtain ⟨c, r, hs, hc⟩ := h
  rw [fieldGoToDef, Spec.Msg.snakeLower, hs, underscores_conv _ c r hc]
  -- the guide leaves a character that is no capital as it is, the run-time lowers it
  congr 3
  funext x
  split
  · rfl
  · rename_i hx; rw [toLower_of_not_upper x (by simpa using hx)]

theorem msg_name_conv (s : String) (h : firstUpper s) : msgGoToDef s = Spec.Msg.snakeUpper s := by
  obtain ⟨c, r, hs, hc⟩ := h
  rw [msgGoToDef, Spec.Msg.snakeUpper, hs, underscores_conv _ c r hc]
  -- the guide leaves a capital as it is, the run-time raises it
  congr 3
  funext x
  split
  · rename_i hx; rw [toUpper_of_upper x hx]; rfl
  · rfl

/-- `GoField.exported` is what `reflect` reports and is not tied to `goName` in the model (Go exports any Unicode upper-case letter);
    the name conversions agree for A–Z, so that is asked of the name itself -/
def nameOk (f : GoField) : Prop := f.mavname = "" → firstUpper f.goName

theorem name_link (f : GoField) (h : nameOk f) : specName f = modelName f := by
  unfold specName modelName
  split
  · rfl
  · rename_i hm; exact (field_name_conv _ (h (by simpa using hm))).symm

/-- **C03 (sizes, for every struct).** -/
theorem sizes_universal (st : GoStruct) (rw : RW) (d : Spec.Msg.SDef)
    (h1 : Msg.init st = .ok rw) (h2 : Spec.Msg.ofGo st = some d) (hn : ∀ f ∈ st.fields, nameOk f) :
    rw.sizeExtended.toNat = Spec.Msg.sizeExt d ∧ rw.sizeNormal.toNat = Spec.Msg.sizeBase d :=
  sizes_eq st rw d h1 h2

def bytesD (f : DField) : Bytes :=
  if f.isExt then [] else
    strBytes (Gen.fieldTypeString f.ftype ++ " ") ++ strBytes (f.name ++ " ") ++ (if f.isArray then [f.arrayLength] else [])

theorem crc_fold_bytes (sorted : List DField) (h : UInt16) :
    sorted.foldl (fun h f =>
      if f.isExt then h else
        let h := X25.write h (strBytes (Gen.fieldTypeString f.ftype ++ " "))
        let h := X25.write h (strBytes (f.name ++ " "))
        if f.isArray then X25.write h [f.arrayLength] else h) h = X25.write h (sorted.flatMap bytesD) := by
  rw [X25.write, List.foldl_flatMap]
  congr 1
  funext h f
  show _ = X25.write h (bytesD f)
  unfold bytesD
  cases f.isExt <;> cases f.isArray <;> simp [X25.write]

theorem crcExtraOf_eq (msgName : String) (sorted : List DField) :
    crcExtraOf msgName sorted = Gen.crcExtraFold (X25.sum (strBytes (msgName ++ " ") ++ sorted.flatMap bytesD)) := by
  unfold crcExtraOf
  simp only [crc_fold_bytes, X25.sum, X25.write_append]

theorem crcExtraInput_eq (d : Spec.Msg.SDef) : Spec.Msg.crcExtraInput d =
    Spec.Msg.sbytes (d.name ++ " ") ++ (Spec.Msg.wireOrder d).flatMap fun f => if f.ext then [] else Spec.Msg.fieldCrcBytes f := by
  have hf : ∀ l : List Spec.Msg.SField, (l.flatMap fun f => if f.ext then [] else Spec.Msg.fieldCrcBytes f) =
      (l.filter (!·.ext)).flatMap Spec.Msg.fieldCrcBytes := by
    intro l
    induction l with
    | nil => rfl
    | cons x r ih => cases hx : x.ext <;> simp [hx, ih]
  rw [hf, wireOrder_filter_base]; rfl

theorem fold_link (s : UInt16) :
    (Gen.crcExtraFold s).toNat = ((s.toBitVec &&& 0xFF#16) ^^^ (s.toBitVec >>> 8)).toNat := by
  unfold Gen.crcExtraFold
  rw [UInt16.toNat_toUInt8]
  have h1 : ((s &&& (255 : UInt16)) ^^^ (s >>> (8 : UInt16))).toNat =
      ((s.toBitVec &&& 0xFF#16) ^^^ (s.toBitVec >>> 8)).toNat := by
    rfl
  rw [h1]
  apply Nat.mod_eq_of_lt
  rw [BitVec.toNat_xor]
  apply Nat.xor_lt_two_pow (n := 8)
  · rw [BitVec.toNat_and]
    exact Nat.lt_of_le_of_lt Nat.and_le_right (by decide)
  · rw [BitVec.toNat_ushiftRight]
    have := s.toBitVec.isLt
    rw [Nat.shiftRight_eq_div_pow]
    omega

/-- CRC_EXTRA without a hypothesis on identifiers: what `Initialize` stores is the guide's CRC_EXTRA of the definition under the
    names the run-time derives (`msgGoToDef`, `fieldGoToDef` or the `mavname` tag) -/
theorem crc_runtime_names {st : GoStruct} {rw : RW} {fs : List DField} (h : Accepted st rw fs) :
    rw.crcExtra.toNat = Spec.Msg.crcExtra ⟨msgGoToDef (msgSuffix st.name), fs.map fun d => toS d.name d⟩ := by
  have hwo := order_agrees (fun d => toS d.name d) (fun d => by simp only [projS, projD, toS, sizes_tbl])
    (msgGoToDef (msgSuffix st.name)) fs h.declared
  have hb : (fun a : DField => if (toS a.name a).ext then [] else Spec.Msg.fieldCrcBytes (toS a.name a)) = bytesD := by
    funext a
    simp only [bytesD, Spec.Msg.fieldCrcBytes, toS, names_tbl, Spec.Msg.sbytes, strBytes]
    cases a.isArray <;> simp
  rw [h.rw_eq]
  show (crcExtraOf _ (sortFields fs)).toNat = _
  rw [crcExtraOf_eq, fold_link, x25_sum_eq_crc16, Spec.Msg.crcExtra, crcExtraInput_eq, ← hwo, List.flatMap_map, hb]
  rfl

/-- **C03 (CRC_EXTRA, for every struct).** -/
theorem crc_universal (st : GoStruct) (rw : RW) (d : Spec.Msg.SDef)
    (h1 : Msg.init st = .ok rw) (h2 : Spec.Msg.ofGo st = some d) (hn : ∀ f ∈ st.fields, nameOk f)
    (hm : firstUpper (Msg.msgSuffix st.name)) :
    rw.crcExtra.toNat = Spec.Msg.crcExtra d := by
  obtain ⟨fs, hfs, rfl⟩ := accepted_def st rw d h1 h2
  rw [crc_runtime_names hfs, msg_name_conv _ hm,
    List.map_congr_left fun a ha => (hfs.named (fun f hf => name_link f (hn f hf)) a ha).symm]

/-- **C03 (order, sizes and CRC_EXTRA, for every struct)**: all that the model of `Initialize` computes for an accepted definition
    is what the guide derives from it, when the field identifiers are exported (of the struct name `Initialize` has checked that) -/
theorem layout_agrees (st : GoStruct) (rw : RW) (d : Spec.Msg.SDef) (h1 : Msg.init st = .ok rw) (h2 : Spec.Msg.ofGo st = some d)
    (hn : ∀ f ∈ st.fields, nameOk f) :
    rw.fields.map (·.index) = (Spec.Msg.wireOrder d).map (·.idx) ∧ rw.sizeNormal.toNat = Spec.Msg.sizeBase d ∧
    rw.sizeExtended.toNat = Spec.Msg.sizeExt d ∧ rw.crcExtra.toNat = Spec.Msg.crcExtra d :=
  have hs := sizes_eq st rw d h1 h2
  ⟨wire_order_agrees st rw d h1 h2, hs.2, hs.1,
    crc_universal st rw d h1 h2 hn (firstUpper_suffix _ ((init_ok_iff st rw).mp h1).1)⟩

end Mav.LayoutLink
