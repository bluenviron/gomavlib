import Mav.Spec.Msg
/-
  Little-endian byte groups. On `Nat`, `Spec.Msg.leBytes` and `Spec.Msg.ofLe` are inverse up to reduction modulo `256 ^ w`
  (induction on the width). The model's shift/or codec (`leN`, `unLeN` on `UInt64`) is tied to them once; every fixed-width
  packing of the development (16, 24, 32, 48, 64 bits, either byte order) is an instance.
-/
namespace Mav.Spec.Msg

theorem leBytes_length (w x : Nat) : (leBytes w x).length = w := by
  induction w generalizing x with
  | zero => rfl
  | succ w ih => simp [leBytes, ih]

theorem ofLe_lt (bs : Bytes) : ofLe bs < 256 ^ bs.length := by
  induction bs with
  | nil => decide
  | cons b r ih =>
    have := b.toNat_lt
    simp only [ofLe, List.length_cons, Nat.pow_succ]
    omega

theorem ofLe_lt_of_length_le (bs : Bytes) {w : Nat} (h : bs.length ≤ w) : ofLe bs < 256 ^ w :=
  Nat.lt_of_lt_of_le (ofLe_lt bs) (Nat.pow_le_pow_right (by decide) h)

theorem ofLe_leBytes (w x : Nat) : ofLe (leBytes w x) = x % 256 ^ w := by
  induction w generalizing x with
  | zero => simp [leBytes, ofLe, Nat.mod_one]
  | succ w ih =>
    simp only [leBytes, ofLe, ih, UInt8.toNat_ofNat']
    rw [Nat.pow_succ 256 w, Nat.mul_comm (256 ^ w), Nat.mod_mul]
    omega

theorem leBytes_ofLe (bs : Bytes) : leBytes bs.length (ofLe bs) = bs := by
  induction bs with
  | nil => rfl
  | cons b r ih =>
    have := b.toNat_lt
    simp only [List.length_cons, leBytes, ofLe]
    rw [show (b.toNat + 256 * ofLe r) % 256 = b.toNat by omega, show (b.toNat + 256 * ofLe r) / 256 = ofLe r by omega, ih]
    simp

theorem leBytes_eq_map (w x : Nat) : leBytes w x = (List.range w).map (fun i => UInt8.ofNat (x / 256 ^ i)) := by
  induction w generalizing x with
  | zero => rfl
  | succ w ih =>
    rw [List.range_succ_eq_map, List.map_cons, List.map_map, leBytes, ih]
    congr 1
    · apply UInt8.toNat_inj.mp; simp
    · apply List.map_congr_left
      intro i _
      simp only [Function.comp, Nat.pow_succ, Nat.div_div_eq_div_mul, Nat.mul_comm]

end Mav.Spec.Msg

namespace Mav.Msg
open Spec.Msg

theorem shr_byte (x : UInt64) (k : Nat) (hk : k < 8) :
    (x >>> UInt64.ofNat (8 * k)).toUInt8 = UInt8.ofNat (x.toNat / 256 ^ k) := by
  apply UInt8.toNat_inj.mp
  have h1 : (UInt64.ofNat (8 * k)).toNat % 64 = 8 * k := by rw [UInt64.toNat_ofNat']; omega
  rw [UInt64.toNat_toUInt8, UInt64.toNat_shiftRight, UInt8.toNat_ofNat', h1, Nat.shiftRight_eq_div_pow, Nat.pow_mul]

theorem leN_length (w : Nat) (x : UInt64) : (leN w x).length = w := by simp [leN]

end Mav.Msg

namespace Mav.PayloadLink
open Msg

theorem leN_eq_leBytes (w : Nat) (hw : w ≤ 8) (x : UInt64) : leN w x = Spec.Msg.leBytes w x.toNat := by
  rw [Spec.Msg.leBytes_eq_map, leN]
  apply List.map_congr_left
  intro i hi
  exact shr_byte x i (by have := List.mem_range.mp hi; omega)

end Mav.PayloadLink

namespace Mav.Msg
open Spec.Msg

theorem shl_or_byte (acc : UInt64) (b : UInt8) (h : acc.toNat < 256 ^ 7) :
    ((acc <<< 8) ||| b.toUInt64).toNat = b.toNat + 256 * acc.toNat := by
  have hb := b.toNat_lt
  rw [UInt64.toNat_or, UInt64.toNat_shiftLeft, UInt8.toNat_toUInt64, show (8 : UInt64).toNat % 64 = 8 from rfl,
    Nat.shiftLeft_eq, Nat.mod_eq_of_lt (by omega), Nat.mul_comm, ← Nat.two_pow_add_eq_or_of_lt (i := 8) hb]
  omega

theorem unLeN_toNat (bs : Bytes) (h : bs.length ≤ 8) : (unLeN bs).toNat = ofLe bs := by
  induction bs with
  | nil => rfl
  | cons b r ih =>
    have hr : r.length ≤ 7 := by simpa using h
    have ih := ih (by omega)
    have hlt := ofLe_lt_of_length_le r hr
    show ((unLeN r <<< 8) ||| b.toUInt64).toNat = b.toNat + 256 * ofLe r
    rw [shl_or_byte _ _ (by omega), ih]

theorem unLeN_eq_ofNat (bs : Bytes) (h : bs.length ≤ 8) : unLeN bs = UInt64.ofNat (ofLe bs) := by
  apply UInt64.toNat_inj.mp
  rw [unLeN_toNat bs h, UInt64.toNat_ofNat']
  exact (Nat.mod_eq_of_lt (ofLe_lt_of_length_le bs h)).symm

/-- the canonical form the wire imposes on a numeric element of width w bytes -/
def maskW (w : Nat) (x : UInt64) : UInt64 :=
  if w = 1 then x &&& 0xFF else if w = 2 then x &&& 0xFFFF else if w = 4 then x &&& 0xFFFFFFFF else x

theorem maskW_toNat (w : Nat) (hw : w = 1 ∨ w = 2 ∨ w = 4 ∨ w = 8) (x : UInt64) : (maskW w x).toNat = x.toNat % 256 ^ w := by
  rcases hw with h | h | h | h <;> subst h
  · exact Nat.and_two_pow_sub_one_eq_mod x.toNat 8
  · exact Nat.and_two_pow_sub_one_eq_mod x.toNat 16
  · exact Nat.and_two_pow_sub_one_eq_mod x.toNat 32
  · exact (Nat.mod_eq_of_lt x.toNat_lt).symm

theorem maskW_idem (w : Nat) (hw : w = 1 ∨ w = 2 ∨ w = 4 ∨ w = 8) (x : UInt64) : maskW w (maskW w x) = maskW w x := by
  apply UInt64.toNat_inj.mp
  rw [maskW_toNat w hw, maskW_toNat w hw, Nat.mod_mod]

theorem unLeN_leN_toNat (w : Nat) (hw : w ≤ 8) (x : UInt64) : (unLeN (leN w x)).toNat = x.toNat % 256 ^ w := by
  rw [unLeN_toNat _ (by rw [leN_length]; exact hw), PayloadLink.leN_eq_leBytes w hw, ofLe_leBytes]

theorem unLeN_leN (w : Nat) (hw : w = 1 ∨ w = 2 ∨ w = 4 ∨ w = 8) (x : UInt64) : unLeN (leN w x) = maskW w x := by
  apply UInt64.toNat_inj.mp
  rw [unLeN_leN_toNat w (by omega), maskW_toNat w hw]

theorem maskW_unLeN_le (w : Nat) (hw : w = 1 ∨ w = 2 ∨ w = 4 ∨ w = 8) (bs : Bytes) (hl : bs.length ≤ w) :
    maskW w (unLeN bs) = unLeN bs := by
  apply UInt64.toNat_inj.mp
  rw [maskW_toNat w hw, unLeN_toNat bs (by omega)]
  exact Nat.mod_eq_of_lt (ofLe_lt_of_length_le bs hl)

theorem maskW_unLeN (w : Nat) (hw : w = 1 ∨ w = 2 ∨ w = 4 ∨ w = 8) (bs : Bytes) (hl : bs.length = w) :
    maskW w (unLeN bs) = unLeN bs := maskW_unLeN_le w hw bs (Nat.le_of_eq hl)

end Mav.Msg
