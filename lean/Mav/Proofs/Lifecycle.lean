import Mav.Spec.Lifecycle
/-
  C14: the provider loop (Mav/Model/Provider.lean) produces the specification's trace (Mav/Spec/Lifecycle.lean) for every fault
  script and from either value of the `first` flag: `trimWaits_providerLoop`. The model waits as soon as an attempt has failed, the
  specification before the next attempt, so the two agree up to the waits after the last event: whence `trimWaits`.
-/
namespace Mav.Prov
open Mav.Spec.Life

/-- the two nested loops, unfolded one script entry at a time (a failure is consumed by the inner loop: the fuel stays) -/
theorem providerLoop_fail (fuel : Nat) (first : Bool) (rest : List Outcome) :
    providerLoop (fuel + 1) first (.fail :: rest) =
      (if first then [Act.wait] else []) ++ .attempt false :: .wait :: providerLoop (fuel + 1) false rest := by
  cases rest with
  | nil => simp [providerLoop, connectLoop]
  | cons o r =>
    simp only [providerLoop, connectLoop, List.isEmpty_cons, Bool.false_eq_true, if_false]
    rcases connectLoop (o :: r) with ⟨a, _ | ⟨n, e, rest'⟩⟩ <;> simp

theorem providerLoop_ok (fuel : Nat) (first : Bool) (n : Nat) (e : End) (rest : List Outcome) :
    providerLoop (fuel + 1) first (.ok n e :: rest) =
      (if first then [Act.wait] else []) ++ [.attempt true, .opn, .frames n, .close e] ++ providerLoop fuel true rest := by
  simp [providerLoop, connectLoop]

theorem trimWaits_cons (a : Act) (l : List Act) (h : a = .wait → trimWaits l ≠ []) :
    trimWaits (a :: l) = a :: trimWaits l := by
  simp only [trimWaits]
  split
  · next h0 => rw [if_neg (fun ha => h ha h0), h0]
  · rfl

theorem trimWaits_wait {l : List Act} {s : List Outcome} (h : trimWaits l = specTrace false s) :
    trimWaits (.wait :: l) = specTrace true s := by
  cases s with
  | nil => simp [trimWaits, h, specTrace]
  | cons o r => cases o <;> simp [trimWaits, h, specTrace]

theorem trimWaits_providerLoop (fuel : Nat) (first : Bool) (s : List Outcome) (hl : s.length < fuel) :
    trimWaits (providerLoop fuel first s) = specTrace first s := by
  induction s generalizing fuel first with
  | nil => cases fuel <;> rfl
  | cons o rest ih =>
    obtain ⟨f, rfl⟩ : ∃ f, fuel = f + 1 := ⟨fuel - 1, by simp at hl; omega⟩
    cases o with
    | fail =>
      have h := trimWaits_wait (ih (f + 1) false (Nat.lt_of_succ_lt hl))
      rw [providerLoop_fail, specTrace]
      cases first <;> simp [trimWaits_cons, h]
    | ok n e =>
      have h := ih f true (Nat.lt_of_succ_lt_succ hl)
      rw [providerLoop_ok, specTrace]
      cases first <;> simp [trimWaits_cons, h]

theorem specTrace_failures (b : Bool) (k n : Nat) (e : End) :
    specTrace b (List.replicate k .fail ++ [.ok n e]) = (if b then [Act.wait] else []) ++
      (List.replicate k [Act.attempt false, .wait]).flatten ++ [.attempt true, .opn, .frames n, .close e] := by
  induction k generalizing b with
  | zero => simp [specTrace]
  | succ k ih => simp [List.replicate_succ, specTrace, ih]

theorem tncStep_foldl (failAt : Option Nat) (calls : List Call) (k : Nat) (acc : List Low) :
    (calls.foldl (tncStep failAt) (k, acc)).2 = acc ++ tncRun failAt k calls := by
  induction calls generalizing k acc with
  | nil => simp [tncRun]
  | cons c rest ih =>
    cases c <;> simp only [List.foldl_cons, tncStep, tncRun, ih]
    · split <;> simp
    · split <;> simp
    · simp

end Mav.Prov

