import Mav.Model.Node
/-
  Invariants of the node transition system (C10–C13). `Step.nf` sorts the 33 steps of the model into a dispatch, a step
  `GStep` of the node's own flags and a move `CStep` of one channel, which is stated on that channel's `ChanSt` alone and put
  back into the state by `St.set`. An invariant of single channels is proved against `CStep` and against `enq` (what a
  dispatch does to one channel), never against `Step`. `Shape` is the one invariant about control (where reader, writer and
  `pushEvent` of a channel are, relative to `Channel.run`): `WantInv`, the progress proofs of NodeLive and C12 / C13 read
  the positions through it. `Glob` ties the member list to the position of `Node.run`. `Inv` collects all of them and
  `reach_inv` proves it in one induction.
-/
namespace Mav.Nd

theorem upd_chans (s : St) (c : Cid) (f : ChanSt → ChanSt) (c' : Cid) :
    (upd s c f).chans c' = if c' = c then f (s.chans c') else s.chans c' := rfl

theorem upd_same (s : St) (c : Cid) (f : ChanSt → ChanSt) : (upd s c f).chans c = f (s.chans c) := if_pos rfl
theorem upd_other (s : St) (c c' : Cid) (f : ChanSt → ChanSt) (h : c' ≠ c) : (upd s c f).chans c' = s.chans c' := if_neg h

theorem upd_cp_other (s : St) (c : Cid) (f : ChanSt → ChanSt) (c' : Cid) (h : c' ≠ c) :
    ((upd s c f).chans c').cp = (s.chans c').cp := by rw [upd_other _ _ _ _ h]

def St.set (s : St) (c : Cid) (x : ChanSt) (m : List Cid) (l : List (Cid × Ev)) : St :=
  { s with chans := fun i => if i = c then x else s.chans i, members := m, log := l }

theorem St.set_same (s : St) (c x m l) : (s.set c x m l).chans c = x := if_pos rfl
theorem St.set_other (s : St) (c x m l) {c' : Cid} (h : c' ≠ c) : (s.set c x m l).chans c' = s.chans c' := if_neg h

theorem St.set_chanwise {P : Cid → ChanSt → Prop} (s : St) (c x m l) (hc : P c x) (ho : ∀ c', c' ≠ c → P c' (s.chans c'))
    (c' : Cid) : P c' ((s.set c x m l).chans c') := by
  by_cases hcc : c' = c
  · subst hcc; rw [St.set_same]; exact hc
  · rw [St.set_other _ _ _ _ _ hcc]; exact ho c' hcc

theorem upd_eq_set (s : St) (c : Cid) (f : ChanSt → ChanSt) : upd s c f = s.set c (f (s.chans c)) s.members s.log := by
  simp only [upd, St.set, St.mk.injEq, and_true]
  funext i; split
  · subst i; rfl
  · rfl

/-- The 27 steps of `Step` that are moves of one channel `c`, as a relation on that channel's state alone: the premises
    read the node only through `s`'s flags, member list and log; the last two indices are the member list and log after
    the move. It repeats the constructors of `Step` (Mav/Model/Node.lean), `Step.nf` ties the two: a change of the model's
    steps is made in all three. -/
inductive CStep (s : St) (c : Cid) : ChanSt → ChanSt → List Cid → List (Cid × Ev) → Prop
  | newChan {x} : s.npc = .loop → s.provDone = false → x.cp = .notStarted → c ∉ s.members →
      CStep s c x { x with cp := .wait } (c :: s.members) s.log
  | newChanTerm {x} : s.terminate = true → s.provDone = false → x.cp = .notStarted → c ∉ s.members →
      x.wp = .idle → x.produced = [] → x.delivered = [] →
      CStep s c x { x with cp := .finished, rp := .exited, push := .idle, wp := .exited, ctxDone := true,
                           rwcClosed := true, writerTerm := true } s.members s.log
  | nodeCloseChan {x} : s.npc = .epilogue → c ∈ s.members → x.ctxDone = false →
      CStep s c x { x with ctxDone := true } s.members s.log
  | pBegin {x} (ev) : x.cp ≠ .notStarted → x.push = .begin ev → s.terminate = false →
      CStep s c x { x with push := .pushing ev, produced := x.produced ++ [ev] } s.members s.log
  | pSkip {x} (ev) : x.cp ≠ .notStarted → x.push = .begin ev → s.terminate = true →
      CStep s c x { x with push := .idle } s.members s.log
  | pDeliver {x} (ev) : x.push = .pushing ev → s.evClosed = false →
      CStep s c x { x with push := .idle, delivered := x.delivered ++ [ev] } s.members (s.log ++ [(c, ev)])
  | pDrop {x} (ev) : x.push = .pushing ev → s.terminate = true →
      CStep s c x { x with push := .idle } s.members s.log
  | rResume {x} : x.rp = .waitPush → x.push = .idle →
      CStep s c x { x with rp := .read } s.members s.log
  | rReadOk {x} (r rest ev) : x.rp = .read → x.push = .idle → x.inputs = r :: rest → toEv r = some ev →
      CStep s c x { x with rp := .waitPush, push := .begin ev, inputs := rest, consumed := x.consumed ++ [r],
                           want := x.want ++ [ev], taken := x.taken ++ [r] } s.members s.log
  | rReadFatal {x} (e rest) : x.rp = .read → x.inputs = .fatal e :: rest →
      CStep s c x { x with rp := .sendDone e, inputs := rest, taken := x.taken ++ [.fatal e] } s.members s.log
  | rReadClosed {x} : x.rp = .read → x.rwcClosed = true →
      CStep s c x { x with rp := .sendDone 0 } s.members s.log
  | wDequeue {x} (it rest) : x.wp = .idle → x.cp ≠ .notStarted → x.queue = it :: rest →
      CStep s c x { x with wp := .writing it, queue := rest } s.members s.log
  | wOk {x} (it) : x.wp = .writing it →
      CStep s c x { x with wp := .idle, done := x.done ++ [(it, true)] } s.members s.log
  | wFail {x} (it) : x.wp = .writing it →
      CStep s c x { x with wp := .idle, done := x.done ++ [(it, false)] } s.members s.log
  | wTerm {x} : x.wp = .idle → x.writerTerm = true →
      CStep s c x { x with wp := .sendDone } s.members s.log
  | cReaderDone {x} (e) : x.cp = .wait → x.rp = .sendDone e →
      CStep s c x { x with cp := .aCloseRwc e, rp := .exited } s.members s.log
  | cCtxDone {x} : x.cp = .wait → x.ctxDone = true →
      CStep s c x { x with cp := .bCloseRwc } s.members s.log
  | cACloseRwc {x} (e) : x.cp = .aCloseRwc e →
      CStep s c x { x with cp := .aTermW e, rwcClosed := true } s.members s.log
  | cATermW {x} (e) : x.cp = .aTermW e →
      CStep s c x { x with cp := .aRecvW e, writerTerm := true } s.members s.log
  | cARecvW {x} (e) : x.cp = .aRecvW e → x.wp = .sendDone → x.push = .idle →
      CStep s c x { x with cp := .closeWait, push := .begin (.close (some e)), wp := .exited, ctxDone := true,
                           want := x.want ++ [.close (some e)], closeEv := [.close (some e)] } s.members s.log
  | cBTermW {x} : x.cp = .bTermW →
      CStep s c x { x with cp := .bRecvW, writerTerm := true } s.members s.log
  | cBRecvW {x} : x.cp = .bRecvW → x.wp = .sendDone →
      CStep s c x { x with cp := .bRecvR, wp := .exited } s.members s.log
  | cBCloseRwc {x} : x.cp = .bCloseRwc →
      CStep s c x { x with cp := .bTermW, rwcClosed := true } s.members s.log
  | cBRecvR {x} (e) : x.cp = .bRecvR → x.rp = .sendDone e → x.push = .idle →
      CStep s c x { x with cp := .closeWait, push := .begin (.close none), rp := .exited,
                           want := x.want ++ [.close none], closeEv := [.close none] } s.members s.log
  | cCloseResume {x} : x.cp = .closeWait → x.push = .idle →
      CStep s c x { x with cp := .sendCloseChan } s.members s.log
  | cUnregister {x} : x.cp = .sendCloseChan → s.npc = .loop →
      CStep s c x { x with cp := .finished } (s.members.filter (· ≠ c)) s.log
  | cUnregisterTerm {x} : x.cp = .sendCloseChan → s.terminate = true →
      CStep s c x { x with cp := .finished } s.members s.log

/-- the 5 steps of `Step` that touch no channel -/
inductive GStep (s : St) : St → Prop
  | provExit : s.terminate = true → GStep s { s with provDone := true }
  | closeNode : GStep s { s with terminate := true }
  | nodeBreak : s.npc = .loop → s.terminate = true → GStep s { s with npc := .epilogue }
  | nodeToWait : s.npc = .epilogue → (∀ c ∈ s.members, (s.chans c).ctxDone = true) → GStep s { s with npc := .waiting }
  | nodeFinish : s.npc = .waiting → s.provDone = true → (∀ c ∈ s.members, (s.chans c).cp = .finished) →
      GStep s { s with npc := .done, evClosed := true }

theorem Step.nf {s s' : St} (h : Step s s') :
    (∃ t it pick, s.npc = .loop ∧ s' = Nd.dispatch s t it pick) ∨ GStep s s' ∨
    ∃ c x' m l, CStep s c (s.chans c) x' m l ∧ s' = s.set c x' m l := by
  cases h with
  | dispatch t it pick h => exact .inl ⟨_, _, _, h, rfl⟩
  | provExit h => exact .inr (.inl (.provExit h))
  | closeNode => exact .inr (.inl .closeNode)
  | nodeBreak h1 h2 => exact .inr (.inl (.nodeBreak h1 h2))
  | nodeToWait h1 h2 => exact .inr (.inl (.nodeToWait h1 h2))
  | nodeFinish h1 h2 h3 => exact .inr (.inl (.nodeFinish h1 h2 h3))
  | newChan c h1 h2 h3 h4 => exact .inr (.inr ⟨c, _, _, _, .newChan h1 h2 h3 h4, by rw [upd_eq_set]; rfl⟩)
  | newChanTerm c h1 h2 h3 h4 h5 h6 h7 => exact .inr (.inr ⟨c, _, _, _, .newChanTerm h1 h2 h3 h4 h5 h6 h7, upd_eq_set ..⟩)
  | nodeCloseChan c h1 h2 h3 => exact .inr (.inr ⟨c, _, _, _, .nodeCloseChan h1 h2 h3, upd_eq_set ..⟩)
  | pBegin c ev h1 h2 h3 => exact .inr (.inr ⟨c, _, _, _, .pBegin ev h1 h2 h3, upd_eq_set ..⟩)
  | pSkip c ev h1 h2 h3 => exact .inr (.inr ⟨c, _, _, _, .pSkip ev h1 h2 h3, upd_eq_set ..⟩)
  | pDeliver c ev h1 h2 => exact .inr (.inr ⟨c, _, _, _, .pDeliver ev h1 h2, by rw [upd_eq_set]; rfl⟩)
  | pDrop c ev h1 h2 => exact .inr (.inr ⟨c, _, _, _, .pDrop ev h1 h2, upd_eq_set ..⟩)
  | rResume c h1 h2 => exact .inr (.inr ⟨c, _, _, _, .rResume h1 h2, upd_eq_set ..⟩)
  | rReadOk c r rest ev h1 h2 h3 h4 => exact .inr (.inr ⟨c, _, _, _, .rReadOk r rest ev h1 h2 h3 h4, upd_eq_set ..⟩)
  | rReadFatal c e rest h1 h2 => exact .inr (.inr ⟨c, _, _, _, .rReadFatal e rest h1 h2, upd_eq_set ..⟩)
  | rReadClosed c h1 h2 => exact .inr (.inr ⟨c, _, _, _, .rReadClosed h1 h2, upd_eq_set ..⟩)
  | wDequeue c it rest h1 h2 h3 => exact .inr (.inr ⟨c, _, _, _, .wDequeue it rest h1 h2 h3, upd_eq_set ..⟩)
  | wOk c it h1 => exact .inr (.inr ⟨c, _, _, _, .wOk it h1, upd_eq_set ..⟩)
  | wFail c it h1 => exact .inr (.inr ⟨c, _, _, _, .wFail it h1, upd_eq_set ..⟩)
  | wTerm c h1 h2 => exact .inr (.inr ⟨c, _, _, _, .wTerm h1 h2, upd_eq_set ..⟩)
  | cReaderDone c e h1 h2 => exact .inr (.inr ⟨c, _, _, _, .cReaderDone e h1 h2, upd_eq_set ..⟩)
  | cCtxDone c h1 h2 => exact .inr (.inr ⟨c, _, _, _, .cCtxDone h1 h2, upd_eq_set ..⟩)
  | cACloseRwc c e h1 => exact .inr (.inr ⟨c, _, _, _, .cACloseRwc e h1, upd_eq_set ..⟩)
  | cATermW c e h1 => exact .inr (.inr ⟨c, _, _, _, .cATermW e h1, upd_eq_set ..⟩)
  | cARecvW c e h1 h2 h3 => exact .inr (.inr ⟨c, _, _, _, .cARecvW e h1 h2 h3, upd_eq_set ..⟩)
  | cBTermW c h1 => exact .inr (.inr ⟨c, _, _, _, .cBTermW h1, upd_eq_set ..⟩)
  | cBRecvW c h1 h2 => exact .inr (.inr ⟨c, _, _, _, .cBRecvW h1 h2, upd_eq_set ..⟩)
  | cBCloseRwc c h1 => exact .inr (.inr ⟨c, _, _, _, .cBCloseRwc h1, upd_eq_set ..⟩)
  | cBRecvR c e h1 h2 h3 => exact .inr (.inr ⟨c, _, _, _, .cBRecvR e h1 h2 h3, upd_eq_set ..⟩)
  | cCloseResume c h1 h2 => exact .inr (.inr ⟨c, _, _, _, .cCloseResume h1 h2, upd_eq_set ..⟩)
  | cUnregister c h1 h2 => exact .inr (.inr ⟨c, _, _, _, .cUnregister h1 h2, by rw [upd_eq_set]; rfl⟩)
  | cUnregisterTerm c h1 h2 => exact .inr (.inr ⟨c, _, _, _, .cUnregisterTerm h1 h2, upd_eq_set ..⟩)

theorem GStep.chans {s s' : St} (h : GStep s s') : s'.chans = s.chans := by cases h <;> rfl

/-- a dispatch changes only `queue`, `acc` and `seen` of a channel: what ignores those three survives it -/
theorem enq_ignore {P : ChanSt → Prop} (hP : ∀ x q a sn, P x → P { x with queue := q, acc := a, seen := sn })
    (s : St) (t : Tgt) (it : Item) (pick : Cid → Bool) (c : Cid) {x : ChanSt} (h : P x) : P (enq s t it pick c x) := by
  simp only [enq]; split
  · split <;> exact hP x _ _ _ h
  · exact h

theorem Step.chanwise {P : Cid → ChanSt → Prop} {s s' : St} (h : Step s s')
    (hd : ∀ t it pick c, P c (s.chans c) → P c (enq s t it pick c (s.chans c)))
    (hc : ∀ c x' m l, CStep s c (s.chans c) x' m l → P c (s.chans c) → P c x')
    (hinv : ∀ c, P c (s.chans c)) (c' : Cid) : P c' (s'.chans c') := by
  rcases h.nf with ⟨t, it, pick, _, rfl⟩ | hg | ⟨c, x', m, l, hs, rfl⟩
  · exact hd t it pick c' (hinv c')
  · rw [hg.chans]; exact hinv c'
  · exact s.set_chanwise c x' m l (hc c x' m l hs (hinv c)) (fun c' _ => hinv c') c'

/-- positions of `Channel.run` after it has received from the writer -/
def wGone : CPc → Bool
  | .bRecvR | .closeWait | .sendCloseChan | .finished => true
  | _ => false

/-- positions of `Channel.run` from its closing the transport to its receiving from the reader: the transport is closed there.
    Used at `bRecvR`, where it makes the reader's blocked `Read` return (`rReadClosed`); the other positions make it inductive. -/
def rwcMust : CPc → Bool
  | .aTermW _ | .aRecvW _ | .bTermW | .bRecvW | .bRecvR => true
  | _ => false

/-- positions at which `Channel.run` waits for the writer, having told it to stop -/
def wtMust : CPc → Bool
  | .aRecvW _ | .bRecvW => true
  | _ => false

/-- positions of `Channel.run` after it has received from the reader -/
def rGone : CPc → Bool
  | .aCloseRwc _ | .aTermW _ | .aRecvW _ | .closeWait | .sendCloseChan | .finished => true
  | _ => false

/-- where the reader, the writer and pushEvent of a channel can be, relative to `Channel.run` -/
structure Shape (x : ChanSt) : Prop where
  /-- the reader has returned exactly where Channel.run has received from it … -/
  reader : x.rp = .exited ↔ rGone x.cp = true
  /-- … and so the writer -/
  writer : x.wp = .exited ↔ wGone x.cp = true
  /-- pushEvent runs for the reader, which waits in it, or for Channel.run's close event: never for both -/
  pusher : x.push = .idle ∨ x.rp = .waitPush ∨ x.cp = .closeWait
  rwc : rwcMust x.cp = true → x.rwcClosed = true
  wt : wtMust x.cp = true → x.writerTerm = true
  /-- the writer is told to stop only by Channel.run on its way to the close event … -/
  wt0 : x.cp = .notStarted ∨ x.cp = .wait → x.writerTerm = false
  /-- … and stops only then: it survives failed writes -/
  alive : x.wp = .sendDone ∨ x.wp = .exited → x.writerTerm = true
  fresh : x.cp = .notStarted → x.push = .begin .opn ∧ x.rp = .waitPush ∧ x.wp = .idle ∧ x.produced = [] ∧ x.delivered = []

theorem Shape.enq {x} (h : Shape x) (s t it pick c) : Shape (enq s t it pick c x) :=
  enq_ignore (fun _ _ _ _ h => ⟨h.1, h.2, h.3, h.4, h.5, h.6, h.7, h.8⟩) s t it pick c h

theorem Shape.cstep {s c x x' m l} (hx : Shape x) (h : CStep s c x x' m l) : Shape x' := by
  obtain ⟨r, w, p, rwc, wt, wt0, alive, fresh⟩ := hx
  -- a goroutine that has not returned and does not return
  have r' {q : RPc} (h1 : x.rp ≠ .exited) (hq : q ≠ .exited) : q = .exited ↔ rGone x.cp = true :=
    ⟨fun h => absurd h hq, fun h => absurd (r.mpr h) h1⟩
  have w' {q : WPc} (h1 : x.wp ≠ .exited) (hq : q ≠ .exited) : q = .exited ↔ wGone x.cp = true :=
    ⟨fun h => absurd h hq, fun h => absurd (w.mpr h) h1⟩
  -- Channel.run moves between positions at which the reader (writer) is in the same state
  have rk {k k' : CPc} (h : x.cp = k) (hk : rGone k = rGone k') : x.rp = .exited ↔ rGone k' = true := by
    rw [← hk, ← h]; exact r
  have wk {k k' : CPc} (h : x.cp = k) (hk : wGone k = wGone k') : x.wp = .exited ↔ wGone k' = true := by
    rw [← hk, ← h]; exact w
  -- Channel.run moves, but neither from nor to `closeWait`
  have p' {k k' : CPc} (h1 : x.cp = k) (hk : k ≠ .closeWait) : x.push = .idle ∨ x.rp = .waitPush ∨ k' = .closeWait :=
    p.imp_right (.imp_right fun h => absurd (h1.symm.trans h) hk)
  -- each case: the eight fields in the order of the `obtain` above; `nofun` where the new position refutes the field's premise
  cases h with
  | newChan _ _ h _ =>
    exact ⟨rk h rfl, wk h rfl, .inr (.inl (fresh h).2.1), nofun, nofun, fun _ => wt0 (.inl h), alive, nofun⟩
  | newChanTerm =>
    exact ⟨iff_of_true rfl rfl, iff_of_true rfl rfl, .inl rfl, fun _ => rfl, fun _ => rfl, nofun, fun _ => rfl, nofun⟩
  | nodeCloseChan => exact ⟨r, w, p, rwc, wt, wt0, alive, fresh⟩
  | pBegin ev h1 h2 _ =>
    exact ⟨r, w, .inr (p.resolve_left (by rw [h2]; nofun)), rwc, wt, wt0, alive, fun h => absurd h h1⟩
  | pSkip ev h1 _ _ => exact ⟨r, w, .inl rfl, rwc, wt, wt0, alive, fun h => absurd h h1⟩
  | pDeliver ev h1 _ | pDrop ev h1 _ =>
    exact ⟨r, w, .inl rfl, rwc, wt, wt0, alive, fun h => nomatch h1.symm.trans (fresh h).1⟩
  | rResume h1 h2 =>
    exact ⟨r' (by rw [h1]; nofun) nofun, w, .inl h2, rwc, wt, wt0, alive, fun h => nomatch h2.symm.trans (fresh h).1⟩
  | rReadOk _ _ ev h1 _ _ _ =>
    exact ⟨r' (by rw [h1]; nofun) nofun, w, .inr (.inl rfl), rwc, wt, wt0, alive, fun h => nomatch h1.symm.trans (fresh h).2.1⟩
  | rReadFatal _ _ h1 _ | rReadClosed h1 _ =>
    exact ⟨r' (by rw [h1]; nofun) nofun, w, p.imp_right (.imp_left fun h : x.rp = .waitPush => nomatch h1.symm.trans h),
      rwc, wt, wt0, alive, fun h => nomatch h1.symm.trans (fresh h).2.1⟩
  | wDequeue _ _ h1 h2 _ => exact ⟨r, w' (by rw [h1]; nofun) nofun, p, rwc, wt, wt0, nofun, fun h => absurd h h2⟩
  | wOk _ h1 | wFail _ h1 =>
    exact ⟨r, w' (by rw [h1]; nofun) nofun, p, rwc, wt, wt0, nofun, fun h => nomatch h1.symm.trans (fresh h).2.2.1⟩
  | wTerm h1 h2 =>
    exact ⟨r, w' (by rw [h1]; nofun) nofun, p, rwc, wt, wt0, fun _ => h2, fun h => nomatch h2.symm.trans (wt0 (.inl h))⟩
  | cReaderDone e h1 h2 =>
    exact ⟨iff_of_true rfl rfl, wk h1 rfl, .inl (p.resolve_right (by rw [h1, h2]; nofun)), nofun, nofun, nofun, alive, nofun⟩
  | cCtxDone h _ | cUnregister h _ | cUnregisterTerm h _ =>
    exact ⟨rk h rfl, wk h rfl, p' h nofun, nofun, nofun, nofun, alive, nofun⟩
  | cACloseRwc e h | cBCloseRwc h => exact ⟨rk h rfl, wk h rfl, p' h nofun, fun _ => rfl, nofun, nofun, alive, nofun⟩
  | cATermW e h | cBTermW h =>
    exact ⟨rk h rfl, wk h rfl, p' h nofun, fun _ => rwc (by rw [h]; rfl), fun _ => rfl, nofun, fun _ => rfl, nofun⟩
  | cARecvW e h h2 _ =>
    exact ⟨rk h rfl, iff_of_true rfl rfl, .inr (.inr rfl), nofun, nofun, nofun, fun _ => alive (.inl h2), nofun⟩
  | cBRecvW h h2 =>
    exact ⟨rk h rfl, iff_of_true rfl rfl, p' h nofun, fun _ => rwc (by rw [h]; rfl), nofun, nofun,
      fun _ => alive (.inl h2), nofun⟩
  | cBRecvR e h _ _ => exact ⟨iff_of_true rfl rfl, wk h rfl, .inr (.inr rfl), nofun, nofun, nofun, alive, nofun⟩
  | cCloseResume h h2 => exact ⟨rk h rfl, wk h rfl, .inl h2, nofun, nofun, nofun, alive, nofun⟩

theorem Shape.push_idle {x} (h : Shape x) (hr : x.rp ≠ .waitPush) (hc : x.cp ≠ .closeWait) : x.push = .idle := by
  rcases h.pusher with h | h | h
  · exact h
  · exact absurd h hr
  · exact absurd h hc

theorem Shape.finished {x} (h : Shape x) (hf : x.cp = .finished) : x.rp = .exited ∧ x.wp = .exited ∧ x.push = .idle := by
  have hr := h.reader.mpr (by rw [hf]; rfl)
  exact ⟨hr, h.writer.mpr (by rw [hf]; rfl), h.push_idle (by rw [hr]; nofun) (by rw [hf]; nofun)⟩

/-- the event pushEvent is about to test `terminate` for -/
def pend (x : ChanSt) : List Ev := match x.push with | .begin ev => [ev] | _ => []

/-- the event blocked in pushEvent's second select -/
def inflight (x : ChanSt) : List Ev := match x.push with | .pushing ev => [ev] | _ => []

structure EvInv (term : Bool) (x : ChanSt) : Prop where
  /-- delivered events + the one in flight are exactly the produced ones, unless (after Close) the one in flight was abandoned -/
  deliv : x.delivered ++ inflight x = x.produced ∨
          (term = true ∧ inflight x = [] ∧ ∃ ev, x.delivered ++ [ev] = x.produced)
  /-- produced events + the one about to be pushed are exactly the wanted ones, unless (after Close) pushes were skipped -/
  prod : x.produced ++ pend x = x.want ∨ (term = true ∧ x.produced <+: x.want)

theorem EvInv.mono {t t' : Bool} {x} (h : EvInv t x) (ht : t = true → t' = true) : EvInv t' x :=
  ⟨h.deliv.imp_right (.imp_left ht), h.prod.imp_right (.imp_left ht)⟩

theorem EvInv.delivered_prefix {t x} (h : EvInv t x) : x.delivered <+: x.produced :=
  h.deliv.elim (fun h => ⟨_, h⟩) fun ⟨_, _, _, h⟩ => ⟨_, h⟩

theorem EvInv.produced_prefix {t x} (h : EvInv t x) : x.produced <+: x.want :=
  h.prod.elim (fun h => ⟨_, h⟩) (·.2)

theorem EvInv.enq {b x} (h : EvInv b x) (s t it pick c) : EvInv b (enq s t it pick c x) :=
  enq_ignore (P := EvInv b) (fun _ _ _ _ h => ⟨h.1, h.2⟩) s t it pick c h

/-- appending a new wanted event to an idle pushEvent -/
theorem EvInv.new_event {t x} (h : EvInv t x) (hp : x.push = .idle) (ev : Ev) (y : ChanSt) (h1 : y.push = .begin ev)
    (h2 : y.want = x.want ++ [ev]) (h3 : y.produced = x.produced) (h4 : y.delivered = x.delivered) : EvInv t y := by
  obtain ⟨hA, hB⟩ := h
  refine ⟨?_, ?_⟩
  · simpa only [inflight, hp, h1, h3, h4] using hA
  · simp only [pend, hp, h1, h2, h3, List.append_nil] at hB ⊢
    rcases hB with hB | ⟨ht, hp⟩
    · exact .inl (hB ▸ rfl)
    · exact .inr ⟨ht, hp.trans (List.prefix_append ..)⟩

theorem EvInv.cstep {s c x x' m l} (hx : EvInv s.terminate x) (h : CStep s c x x' m l) : EvInv s.terminate x' := by
  obtain ⟨hA, hB⟩ := hx
  cases h with
  | newChanTerm h1 _ _ _ _ h6 h7 => exact ⟨.inl (by simp [inflight, h6, h7]), .inr ⟨h1, by simp [h6]⟩⟩
  | pBegin ev _ h2 _ | pDeliver ev h2 _ => refine ⟨?_, ?_⟩ <;> simp_all [inflight, pend]
  | pSkip ev _ h2 h3 =>
    refine ⟨by simpa [inflight, h2] using hA, .inr ⟨h3, ?_⟩⟩
    rcases hB with hB | ⟨_, hp⟩
    · exact ⟨[ev], by simpa [pend, h2] using hB⟩
    · exact hp
  | pDrop ev h1 h2 =>
    refine ⟨?_, by simpa [pend, h1] using hB⟩
    rcases hA with hA | ⟨_, hi, _⟩
    · exact .inr ⟨h2, rfl, ev, by simpa [inflight, h1] using hA⟩
    · simp [inflight, h1] at hi
  | rReadOk r rest ev _ h2 _ _ => exact EvInv.new_event ⟨hA, hB⟩ h2 ev _ rfl rfl rfl rfl
  | cARecvW e _ _ h3 => exact EvInv.new_event ⟨hA, hB⟩ h3 _ _ rfl rfl rfl rfl
  | cBRecvR e _ _ h3 => exact EvInv.new_event ⟨hA, hB⟩ h3 _ _ rfl rfl rfl rfl
  | _ => exact ⟨hA, hB⟩

/-- the item handed to the transport and not yet completed -/
def inflightW (x : ChanSt) : List Item := match x.wp with | .writing it => [it] | _ => []

structure FanInv (x : ChanSt) : Prop where
  /-- everything accepted is: already written (or failed), being written, or still queued — in acceptance order -/
  flow : x.acc = x.done.map (·.1) ++ inflightW x ++ x.queue
  /-- the backlog never exceeds the bound -/
  bound : x.queue.length ≤ qcap
  /-- what was accepted is a sub-sequence of what was addressed to the channel -/
  sub : x.acc.Sublist x.seen

theorem FanInv.enq {x} (h : FanInv x) (s t it pick c) : FanInv (enq s t it pick c x) := by
  obtain ⟨a, b, d⟩ := h
  simp only [Nd.enq]; split
  · split
    next h2 =>
      have hlt : x.queue.length < qcap := of_decide_eq_true (Bool.and_eq_true_iff.mp h2).1
      refine ⟨?_, ?_, d.append (.refl _)⟩
      · show x.acc ++ [it] = _ ++ inflightW x ++ (x.queue ++ [it])
        rw [a]; simp only [List.append_assoc]
      · show (x.queue ++ [it]).length ≤ qcap
        simp only [List.length_append, List.length_singleton]; omega
    · exact ⟨a, b, d.trans (List.sublist_append_left ..)⟩
  · exact ⟨a, b, d⟩

theorem FanInv.cstep {s c x x' m l} (hx : FanInv x) (h : CStep s c x x' m l) : FanInv x' := by
  obtain ⟨a, b, d⟩ := hx
  cases h with
  | wDequeue it rest h1 _ h3 =>
    simp only [inflightW, h1, h3, List.append_nil, List.length_cons] at a b
    exact ⟨by simpa [inflightW] using a, Nat.le_of_succ_le b, d⟩
  | wOk it h1 | wFail it h1 => exact ⟨by simpa [inflightW, h1] using a, b, d⟩
  | newChanTerm _ _ _ _ h5 _ _ | wTerm h5 _ | cARecvW e _ h5 _ | cBRecvW _ h5 =>
    exact ⟨by simpa [inflightW, h5] using a, b, d⟩
  | _ => exact ⟨a, b, d⟩

/-- positions of Channel.run at or after the push of the close event -/
def closeDecided : CPc → Bool
  | .closeWait | .sendCloseChan | .finished => true
  | _ => false

theorem rGone_of_closeDecided {cp : CPc} (h : closeDecided cp = true) : rGone cp = true := by
  cases cp <;> first | rfl | cases h

/-- shape of the wanted event sequence and relation to the transport's input -/
structure WantInv (inputs0 : List RdRes) (x : ChanSt) : Prop where
  ideal : x.want = .opn :: evsOf x.consumed ++ x.closeEv
  close : x.closeEv = [] ∨ ∃ e, x.closeEv = [.close e]
  input : x.taken ++ x.inputs = inputs0
  taken : x.taken = x.consumed ∨ ∃ e, x.taken = x.consumed ++ [.fatal e]
  /-- a reader that goes on reading has not seen a fatal result -/
  reading : x.rp = .read ∨ x.rp = .waitPush → x.taken = x.consumed
  early : closeDecided x.cp = false → x.closeEv = []

theorem WantInv.enq {i0 x} (h : WantInv i0 x) (s t it pick c) : WantInv i0 (enq s t it pick c x) :=
  enq_ignore (P := WantInv i0) (fun _ _ _ _ h => ⟨h.1, h.2, h.3, h.4, h.5, h.6⟩) s t it pick c h

theorem WantInv.cstep {i0 s c x x' m l} (hx : WantInv i0 x) (h : CStep s c x x' m l) (hc : Shape x) : WantInv i0 x' := by
  obtain ⟨ideal, close, input, taken, reading, early⟩ := hx
  cases h with
  | rReadOk r rest ev h1 _ h3 h4 =>
    -- the reader is still there, so no close event yet
    have hce : x.closeEv = [] := early (Bool.eq_false_iff.mpr fun h => by
      have := hc.reader.mpr (rGone_of_closeDecided h); rw [h1] at this; cases this)
    have htk := reading (.inl h1)
    refine ⟨?_, .inl hce, ?_, .inl ?_, fun _ => ?_, fun _ => hce⟩
    · simp [ideal, hce, evsOf, List.filterMap_append, h4]
    · simp [← input, h3]
    · simp [htk]
    · simp [htk]
  | rReadFatal e rest h1 h2 => exact ⟨ideal, close, by simp [← input, h2], .inr ⟨e, by simp [reading (.inl h1)]⟩, nofun, early⟩
  | cARecvW e h1 _ _ => exact ⟨by simp [ideal, early (by rw [h1]; rfl)], .inr ⟨_, rfl⟩, input, taken, reading, nofun⟩
  | cBRecvR e h1 _ _ => exact ⟨by simp [ideal, early (by rw [h1]; rfl)], .inr ⟨_, rfl⟩, input, taken, nofun, nofun⟩
  | rResume h1 _ => exact ⟨ideal, close, input, taken, fun _ => reading (.inr h1), early⟩
  | rReadClosed _ _ => exact ⟨ideal, close, input, taken, nofun, early⟩
  | newChanTerm _ _ h _ _ _ _ | cReaderDone e h _ => exact ⟨ideal, close, input, taken, nofun, fun _ => early (by rw [h]; rfl)⟩
  | newChan _ _ h _ | cCtxDone h _ | cACloseRwc e h | cATermW e h | cBTermW h | cBRecvW h _ | cBCloseRwc h =>
    exact ⟨ideal, close, input, taken, reading, fun _ => early (by rw [h]; rfl)⟩
  | cCloseResume _ _ | cUnregister _ _ | cUnregisterTerm _ _ => exact ⟨ideal, close, input, taken, reading, nofun⟩
  | _ => exact ⟨ideal, close, input, taken, reading, early⟩

/-- the member list and the flags of the node, relative to the position of `Node.run` -/
structure Glob (s : St) : Prop where
  /-- `members` is `n.channels`: `Node.run` enters a channel and starts it in one step … -/
  started : ∀ c ∈ s.members, (s.chans c).cp ≠ .notStarted
  /-- … and deletes it only on `chCloseChannel`, the last act of its `Channel.run`. A finished channel may still be listed
      (its `closeChannel` returned through `terminate`) or never have been (its `newChannel` did). -/
  listed : ∀ c, (s.chans c).cp ≠ .notStarted → c ∈ s.members ∨ (s.chans c).cp = .finished
  /-- the loop of `Node.run` is left only through `case <-n.terminate` -/
  leftLoop : s.npc ≠ .loop → s.terminate = true
  /-- `close(n.chEvent)` is the last statement of `Node.run` … -/
  evClosed : s.evClosed = true ↔ s.npc = .done
  /-- … behind `n.wg.Wait()`: the providers have returned and every listed channel has finished -/
  atDone : s.npc = .done → s.provDone = true ∧ ∀ c ∈ s.members, (s.chans c).cp = .finished
  /-- `n.wg.Wait()` comes after `ch.close()` for every listed channel -/
  atWaiting : s.npc = .waiting → ∀ c ∈ s.members, (s.chans c).ctxDone = true

theorem Glob.member {s} (hg : Glob s) {c} (h1 : (s.chans c).cp ≠ .notStarted) (h2 : (s.chans c).cp ≠ .finished) : c ∈ s.members :=
  (hg.listed c h1).resolve_right h2

theorem Glob.all_ended {s} (hg : Glob s) (h : s.evClosed = true) (c : Cid) :
    (s.chans c).cp = .notStarted ∨ (s.chans c).cp = .finished :=
  if hc : (s.chans c).cp = .notStarted then .inl hc
  else .inr ((hg.listed c hc).elim ((hg.atDone (hg.evClosed.mp h)).2 c) id)

/-- what a move of channel `c` to `x'` with new member list `m` must respect -/
theorem Glob.set {s} (hg : Glob s) (c : Cid) (x' : ChanSt) (m l)
    (hm : ∀ c', c' ≠ c → (c' ∈ m ↔ c' ∈ s.members))
    (hst : c ∈ m → x'.cp ≠ .notStarted) (hli : x'.cp ≠ .notStarted → c ∈ m ∨ x'.cp = .finished)
    (hdn : s.npc = .done → c ∈ m → x'.cp = .finished) (hwt : s.npc = .waiting → c ∈ m → x'.ctxDone = true) :
    Glob (s.set c x' m l) := by
  have hch {P : Cid → ChanSt → Prop} := s.set_chanwise (P := P) c x' m l
  exact { hg with
    started := hch (P := fun c' y => c' ∈ m → y.cp ≠ .notStarted) hst fun c' hc hm' => hg.started c' ((hm c' hc).mp hm')
    listed := hch (P := fun c' y => y.cp ≠ .notStarted → c' ∈ m ∨ y.cp = .finished) hli
      fun c' hc h => (hg.listed c' h).imp_left (hm c' hc).mpr
    atDone := fun h => ⟨(hg.atDone h).1, hch (P := fun c' y => c' ∈ m → y.cp = .finished) (hdn h)
      fun c' hc hm' => (hg.atDone h).2 c' ((hm c' hc).mp hm')⟩
    atWaiting := fun h => hch (P := fun c' y => c' ∈ m → y.ctxDone = true) (hwt h)
      fun c' hc hm' => hg.atWaiting h c' ((hm c' hc).mp hm') }

/-- the usual move: the channel neither starts nor un-finishes, keeps a cancelled context, and membership stays -/
theorem Glob.move {s} (hg : Glob s) (c : Cid) (x' : ChanSt) (l)
    (hns : x'.cp = .notStarted ↔ (s.chans c).cp = .notStarted) (hfin : (s.chans c).cp = .finished → x'.cp = .finished)
    (hctx : (s.chans c).ctxDone = true → x'.ctxDone = true) : Glob (s.set c x' s.members l) :=
  hg.set c x' _ l (fun _ _ => .rfl) (fun hm h => hg.started c hm (hns.mp h))
    (fun h => (hg.listed c (mt hns.mpr h)).imp_right hfin) (fun h hm => hfin ((hg.atDone h).2 c hm))
    (fun h hm => hctx (hg.atWaiting h c hm))

theorem enq_cp_ctx (s t it pick c) (x : ChanSt) : (enq s t it pick c x).cp = x.cp ∧ (enq s t it pick c x).ctxDone = x.ctxDone :=
  enq_ignore (P := fun y => y.cp = x.cp ∧ y.ctxDone = x.ctxDone) (fun _ _ _ _ h => h) s t it pick c ⟨rfl, rfl⟩

theorem step_glob {s s' : St} (h : Step s s') (hg : Glob s) : Glob s' := by
  rcases h.nf with ⟨t, it, pick, hl, rfl⟩ | hG | ⟨c, x', m, l, hC, rfl⟩
  · have e := fun c => enq_cp_ctx s t it pick c (s.chans c)
    exact { hg with
      started := fun c hc => (e c).1 ▸ hg.started c hc
      listed := fun c h => by have := hg.listed c ((e c).1 ▸ h); rwa [← (e c).1] at this
      atDone := fun h => ⟨(hg.atDone h).1, fun c hc => ((e c).1).trans ((hg.atDone h).2 c hc)⟩
      atWaiting := fun h c hc => ((e c).2).trans (hg.atWaiting h c hc) }
  · cases hG with
    | provExit _ => exact { hg with atDone := fun h => ⟨rfl, (hg.atDone h).2⟩ }
    | closeNode => exact { hg with leftLoop := fun _ => rfl }
    | nodeBreak h1 h2 =>
      exact { hg with leftLoop := fun _ => h2, evClosed := ⟨fun h => (by rw [hg.evClosed.mp h] at h1; cases h1), nofun⟩,
                      atDone := nofun, atWaiting := nofun }
    | nodeToWait h1 h2 =>
      exact { hg with leftLoop := fun _ => hg.leftLoop (by rw [h1]; nofun),
                      evClosed := ⟨fun h => (by rw [hg.evClosed.mp h] at h1; cases h1), nofun⟩,
                      atDone := nofun, atWaiting := fun _ => h2 }
    | nodeFinish h1 h2 h3 =>
      exact { hg with leftLoop := fun _ => hg.leftLoop (by rw [h1]; nofun), evClosed := ⟨fun _ => rfl, fun _ => rfl⟩,
                      atDone := fun _ => ⟨h2, h3⟩, atWaiting := nofun }
  · cases hC with
    | newChan h1 _ _ _ =>
      refine hg.set c _ _ _ (fun c' hc => by simp [hc]) (fun _ => nofun) (fun _ => .inl (List.mem_cons_self ..)) ?_ ?_ <;>
        (intro h; rw [h1] at h; cases h)
    | newChanTerm _ _ _ _ _ _ _ =>
      exact hg.set c _ _ _ (fun _ _ => .rfl) (fun _ => nofun) (fun _ => .inr rfl) (fun _ _ => rfl) (fun _ _ => rfl)
    | cUnregister _ h2 =>
      refine hg.set c _ _ _ (fun c' hc => by simp [hc]) (fun _ => nofun) (fun _ => .inr rfl) (fun _ _ => rfl) ?_
      intro h; rw [h2] at h; cases h
    | nodeCloseChan _ _ _ => exact hg.move c _ _ .rfl id fun _ => rfl
    | cARecvW e _ _ _ => exact hg.move c _ _ (by simp [*]) (by simp [*]) fun _ => rfl
    | _ => exact hg.move c _ _ (by simp [*]) (by simp [*]) id

/-- the events of channel `c` in the global log, in order -/
def logOf (l : List (Cid × Ev)) (c : Cid) : List Ev := (l.filter (fun e => e.1 == c)).map (·.2)

theorem CStep.log_delivered {s c x x' m l} (h : CStep s c x x' m l) :
    ∃ d, l = s.log ++ d.map (c, ·) ∧ x'.delivered = x.delivered ++ d := by
  cases h with
  | pDeliver ev _ _ => exact ⟨[ev], rfl, rfl⟩
  | _ => exact ⟨[], (List.append_nil _).symm, (List.append_nil _).symm⟩

theorem logOf_append_map (l : List (Cid × Ev)) (c c' : Cid) (d : List Ev) :
    logOf (l ++ d.map (c, ·)) c' = logOf l c' ++ if c' = c then d else [] := by
  have : ∀ d : List Ev, ((d.map (c, ·)).filter (fun e => e.1 == c')).map (·.2) = if c' = c then d else [] := by
    intro d
    induction d with
    | nil => exact (ite_self _).symm
    | cons e d ih =>
      rw [List.map_cons, List.filter_cons]
      by_cases h : c' = c
      · rw [if_pos h] at ih ⊢; rw [if_pos (beq_iff_eq.mpr h.symm), List.map_cons, ih]
      · rw [if_neg h] at ih ⊢; rw [if_neg (fun hb => h (beq_iff_eq.mp hb).symm), ih]
  rw [logOf, List.filter_append, List.map_append, this]; rfl

theorem step_log {s s' : St} (h : Step s s') (hinv : ∀ c, logOf s.log c = (s.chans c).delivered) (c' : Cid) :
    logOf s'.log c' = (s'.chans c').delivered := by
  rcases h.nf with ⟨t, it, pick, _, rfl⟩ | hG | ⟨c, x', m, l, hC, rfl⟩
  · exact (hinv c').trans (enq_ignore (P := fun y => (s.chans c').delivered = y.delivered) (fun _ _ _ _ h => h) s t it pick c' rfl)
  · cases hG <;> exact hinv c'
  · obtain ⟨d, rfl, hd⟩ := hC.log_delivered
    refine s.set_chanwise (P := fun c' y => logOf (s.log ++ d.map (c, ·)) c' = y.delivered) c x' m _ ?_
      (fun c' hcc => ?_) c'
    · rw [logOf_append_map, if_pos rfl, hinv, hd]
    · rw [logOf_append_map, if_neg hcc, List.append_nil, hinv]

structure ChanInv (inputs0 : List RdRes) (term : Bool) (x : ChanSt) : Prop where
  shape : Shape x
  ev : EvInv term x
  fan : FanInv x
  want : WantInv inputs0 x

theorem ChanInv.mono {i0 x} {t t' : Bool} (h : ChanInv i0 t x) (ht : t = true → t' = true) : ChanInv i0 t' x :=
  ⟨h.shape, h.ev.mono ht, h.fan, h.want⟩

structure Inv (inputs : Cid → List RdRes) (s : St) : Prop where
  glob : Glob s
  chan : ∀ c, ChanInv (inputs c) s.terminate (s.chans c)
  log : ∀ c, logOf s.log c = (s.chans c).delivered

theorem Step.terminate_mono {s s' : St} (h : Step s s') (ht : s.terminate = true) : s'.terminate = true := by
  rcases h.nf with ⟨_, _, _, _, rfl⟩ | hG | ⟨_, _, _, _, _, rfl⟩
  · exact ht
  · cases hG <;> first | exact ht | rfl
  · exact ht

theorem init_inv (inputs : Cid → List RdRes) : Inv inputs (init inputs) := by
  refine ⟨by constructor <;> simp [init], fun c => ⟨?_, ?_, ?_, ?_⟩, fun c => rfl⟩
  · constructor <;> simp [init, rGone, wGone, rwcMust, wtMust]
  · constructor <;> simp [init, inflight, pend]
  · constructor <;> simp [init, inflightW]
  · constructor <;> simp [init, evsOf, closeDecided]

theorem step_inv {inputs} {s s' : St} (h : Step s s') (hi : Inv inputs s) : Inv inputs s' :=
  ⟨step_glob h hi.glob,
   fun c => (h.chanwise (P := fun c x => ChanInv (inputs c) s.terminate x)
      (fun _ _ _ _ hx => ⟨hx.shape.enq .., hx.ev.enq .., hx.fan.enq .., hx.want.enq ..⟩)
      (fun _ _ _ _ hc hx => ⟨hx.shape.cstep hc, hx.ev.cstep hc, hx.fan.cstep hc, hx.want.cstep hc hx.shape⟩)
      hi.chan c).mono h.terminate_mono,
   step_log h hi.log⟩

theorem reach_inv {inputs : Cid → List RdRes} {s : St} (h : Reach (init inputs) s) : Inv inputs s := by
  induction h with
  | refl => exact init_inv inputs
  | step _ hs ih => exact step_inv hs ih

/-- the extra premises of rReadOk / cARecvW / cBRecvR / newChanTerm hold in every reachable state in which the rest of the
    step's premises hold: they do not restrict the behaviours of the model -/
theorem premises_redundant (inputs : Cid → List RdRes) (s : St) (h : Reach (init inputs) s) (c : Cid) :
    ((s.chans c).rp = .read → (s.chans c).push = .idle) ∧
    (∀ e, (s.chans c).cp = .aRecvW e → (s.chans c).push = .idle) ∧
    (∀ e, (s.chans c).cp = .bRecvR → (s.chans c).rp = .sendDone e → (s.chans c).push = .idle) ∧
    ((s.chans c).cp = .notStarted → (s.chans c).wp = .idle ∧ (s.chans c).produced = [] ∧ (s.chans c).delivered = []) := by
  have hc := ((reach_inv h).chan c).shape
  refine ⟨fun hr => ?_, fun e he => ?_, fun e he hr => ?_, fun hn => (hc.fresh hn).2.2⟩
  · refine hc.push_idle (by rw [hr]; nofun) fun hcw => ?_
    have := hc.reader.mpr (by rw [hcw]; rfl); rw [hr] at this; cases this
  · refine hc.push_idle (fun hw => ?_) (by rw [he]; nofun)
    have := hc.reader.mpr (by rw [he]; rfl); rw [hw] at this; cases this
  · exact hc.push_idle (by rw [hr]; nofun) (by rw [he]; nofun)

/-- no channel has been offered (`seen`) or has accepted (`acc`) anything new -/
def SameFan (s s' : St) : Prop := ∀ c, (s'.chans c).acc = (s.chans c).acc ∧ (s'.chans c).seen = (s.chans c).seen

theorem CStep.acc_seen {s c x x' m l} (h : CStep s c x x' m l) : x'.acc = x.acc ∧ x'.seen = x.seen := by
  cases h <;> exact ⟨rfl, rfl⟩

theorem step_sameFan {s s' : St} (h : Step s s') :
    (∃ t it pick, s.npc = .loop ∧ s' = dispatch s t it pick) ∨ SameFan s s' := by
  rcases h.nf with h | hG | ⟨c, x', m, l, hC, rfl⟩
  · exact .inl h
  · exact .inr fun c => by rw [hG.chans]; exact ⟨rfl, rfl⟩
  · exact .inr (s.set_chanwise (P := fun c' y => y.acc = (s.chans c').acc ∧ y.seen = (s.chans c').seen) c x' m l
      hC.acc_seen fun _ _ => ⟨rfl, rfl⟩)

end Mav.Nd
