import Mav.Proofs.Node
/-
  Termination of `Node.Close` in the node transition system. The measure `mu` adds `kappa` of every listed channel to the
  positions of `Node.run` and the providers. Once the node has left its loop and the providers have returned, a step lowers
  `mu` or changes nothing (`step_decreases`: a move lowers `kappa` of its channel, and that channel is listed); while the
  event channel is open, a closing node has a step that lowers `mu` (`close_progress`, which follows `Channel.run` position
  by position in `chan_progress`).
-/
namespace Mav.Nd

def cpRank : CPc → Nat
  | .notStarted => 0 | .wait => 40 | .aCloseRwc _ => 36 | .aTermW _ => 32 | .aRecvW _ => 28
  | .bCloseRwc => 36 | .bTermW => 32 | .bRecvW => 28 | .bRecvR => 24 | .closeWait => 12 | .sendCloseChan => 6 | .finished => 0

def pushRank : PushPc → Nat
  | .idle => 0 | .begin _ => 2 | .pushing _ => 1

def rpRank : RPc → Nat
  | .waitPush => 2 | .read => 1 | .sendDone _ => 0 | .exited => 0

def wpRank : WPc → Nat
  | .idle => 2 | .writing _ => 3 | .sendDone => 1 | .exited => 0

/-- work a channel still has to do before `Channel.run` returns: bounded by its position, the input still to be read and
    the backlog still to be written. The weights make every move of a closing channel a descent: a read result costs 4 because
    `rReadOk` raises the reader by 1 and `pushEvent` by 2, a queued item 2 because `wDequeue` raises the writer by 1, and the
    positions of `Channel.run` are 4 or more apart because `cARecvW` / `cBRecvR` start a `pushEvent` (+2). -/
def kappa (x : ChanSt) : Nat :=
  cpRank x.cp + pushRank x.push + rpRank x.rp + 4 * x.inputs.length + wpRank x.wp + 2 * x.queue.length + (if x.ctxDone then 0 else 1)

def npcRank : NPc → Nat
  | .loop => 3 | .epilogue => 2 | .waiting => 1 | .done => 0

def ksum (s : St) (l : List Cid) : Nat := (l.map (fun c => kappa (s.chans c))).sum

def mu (s : St) : Nat := npcRank s.npc + (if s.provDone then 0 else 1) + ksum s s.members

theorem ksum_congr (s s' : St) (l : List Cid) (h : ∀ c ∈ l, s'.chans c = s.chans c) : ksum s' l = ksum s l := by
  induction l with
  | nil => rfl
  | cons a r ih =>
    simp only [ksum, List.map_cons, List.sum_cons] at ih ⊢
    rw [h a (List.mem_cons_self ..), ih (fun c hc => h c (List.mem_cons_of_mem _ hc))]

theorem ksum_set (s : St) (c : Cid) (x' : ChanSt) (m l) (h : kappa x' < kappa (s.chans c)) (r : List Cid) :
    ksum (s.set c x' m l) r ≤ ksum s r ∧ (c ∈ r → ksum (s.set c x' m l) r < ksum s r) := by
  induction r with
  | nil => exact ⟨Nat.le_refl _, nofun⟩
  | cons a r ih =>
    simp only [ksum, List.map_cons, List.sum_cons, List.mem_cons] at ih ⊢
    by_cases ha : a = c
    · subst ha; rw [St.set_same]; exact ⟨by omega, fun _ => by omega⟩
    · rw [St.set_other _ _ _ _ _ ha]
      exact ⟨by omega, fun hc => by have := ih.2 (hc.resolve_left (Ne.symm ha)); omega⟩

theorem mu_set_lt (s : St) (c : Cid) (x' : ChanSt) (l) (hc : c ∈ s.members) (h : kappa x' < kappa (s.chans c)) :
    mu (s.set c x' s.members l) < mu s :=
  Nat.add_lt_add_left ((ksum_set s c x' _ l h s.members).2 hc) _

theorem CStep.kappa_lt {s c x x' m l} (h : CStep s c x x' m l)
    (ht : s.terminate = true) (hn : s.npc ≠ .loop) (hp : s.provDone = true) : m = s.members ∧ kappa x' < kappa x := by
  cases h with
  | newChan h1 _ _ _ | cUnregister _ h1 => exact absurd h1 hn
  | newChanTerm _ h2 _ _ _ _ _ => rw [hp] at h2; cases h2
  | pBegin _ _ _ h3 => rw [ht] at h3; cases h3
  | _ => refine ⟨rfl, ?_⟩; simp [kappa, cpRank, pushRank, rpRank, wpRank, *] <;> omega

/-- only started, unfinished channels move, or registered ones the node cancels -/
theorem CStep.active {s c x x' m l} (h : CStep s c x x' m l) (hx : Shape x) (hn : s.npc ≠ .loop) (hp : s.provDone = true) :
    c ∈ s.members ∨ x.cp ≠ .notStarted ∧ x.cp ≠ .finished := by
  -- a step whose premises name no position of `Channel.run` names one of the reader, the writer or `pushEvent`: at
  -- `finished` all three have returned, at `notStarted` they are where `fresh` puts them, and the one step an idle writer
  -- has there, `wTerm`, needs `writerTerm`, which `wt0` excludes
  have hf := hx.finished
  have hs := hx.fresh
  have hw := hx.wt0
  cases h <;> simp_all

/-- `s' = s` for `closeNode` and `provExit`, which set flags that are set already -/
theorem step_decreases {s s' : St} (h : Step s s') (hg : Glob s) (hc : ∀ c, Shape (s.chans c))
    (ht : s.terminate = true) (hn : s.npc ≠ .loop) (hp : s.provDone = true) : s' = s ∨ mu s' < mu s := by
  rcases h.nf with ⟨_, _, _, hl, _⟩ | hG | ⟨c, x', m, l, hC, rfl⟩
  · exact absurd hl hn
  · cases hG with
    | closeNode => exact .inl (by cases s; cases ht; rfl)
    | provExit _ => exact .inl (by cases s; cases hp; rfl)
    | nodeBreak h1 _ => exact absurd h1 hn
    | nodeToWait h1 _ | nodeFinish h1 _ _ => right; simp [mu, h1, npcRank, ksum]
  · obtain ⟨rfl, hk⟩ := hC.kappa_lt ht hn hp
    exact .inr (mu_set_lt s c x' l ((hC.active (hc c) hn hp).elim id fun h => hg.member h.1 h.2) hk)

theorem progress_of {s : St} {c : Cid} {f : ChanSt → ChanSt} (st : Step s (upd s c f)) (hm : c ∈ s.members)
    (h : kappa (f (s.chans c)) < kappa (s.chans c)) : ∃ s', Step s s' ∧ mu s' < mu s :=
  ⟨_, st, upd_eq_set s c f ▸ mu_set_lt s c _ _ hm h⟩

theorem chan_progress (s : St) (c : Cid) (hC : Shape (s.chans c))
    (hm : c ∈ s.members) (hns : (s.chans c).cp ≠ .notStarted) (hnf : (s.chans c).cp ≠ .finished)
    (hctx : (s.chans c).ctxDone = true) (ht : s.terminate = true) : ∃ s', Step s s' ∧ mu s' < mu s := by
  -- the writer can always be brought to `sendDone` once it has been told to stop (a transport write in progress completes or
  -- fails, `wOk` / `wFail`, at any time: steps of the environment count as progress)
  have writer (hwt : (s.chans c).writerTerm = true) (hw : wGone (s.chans c).cp = false) :
      (s.chans c).wp = .sendDone ∨ ∃ s', Step s s' ∧ mu s' < mu s := by
    cases hwp : (s.chans c).wp with
    | idle => exact .inr (progress_of (.wTerm s c hwp hwt) hm (by simp [kappa, wpRank, hwp]))
    | writing it => exact .inr (progress_of (.wFail s c it hwp) hm (by simp [kappa, wpRank, hwp]))
    | sendDone => exact .inl rfl
    | exited => rw [hC.writer.mp hwp] at hw; cases hw
  -- pushEvent returns once `terminate` is closed
  have pusher (hp : (s.chans c).push ≠ .idle) : ∃ s', Step s s' ∧ mu s' < mu s := by
    cases hpu : (s.chans c).push with
    | idle => exact absurd hpu hp
    | begin ev => exact progress_of (.pSkip s c ev hns hpu ht) hm (by simp [kappa, pushRank, hpu])
    | pushing ev => exact progress_of (.pDrop s c ev hpu ht) hm (by simp [kappa, pushRank, hpu])
  cases hcp : (s.chans c).cp with
  | notStarted => exact absurd hcp hns
  | finished => exact absurd hcp hnf
  | wait => exact progress_of (.cCtxDone s c hcp hctx) hm (by simp [kappa, cpRank, hcp])
  | aCloseRwc e => exact progress_of (.cACloseRwc s c e hcp) hm (by simp [kappa, cpRank, hcp])
  | aTermW e => exact progress_of (.cATermW s c e hcp) hm (by simp [kappa, cpRank, hcp])
  | bCloseRwc => exact progress_of (.cBCloseRwc s c hcp) hm (by simp [kappa, cpRank, hcp])
  | bTermW => exact progress_of (.cBTermW s c hcp) hm (by simp [kappa, cpRank, hcp])
  | sendCloseChan => exact progress_of (.cUnregisterTerm s c hcp ht) hm (by simp [kappa, cpRank, hcp])
  | aRecvW e =>
    rcases writer (hC.wt (by rw [hcp]; rfl)) (by rw [hcp]; rfl) with hwp | h
    · have hrp := hC.reader.mpr (by rw [hcp]; rfl)
      have hpu := hC.push_idle (by rw [hrp]; nofun) (by rw [hcp]; nofun)
      exact progress_of (.cARecvW s c e hcp hwp hpu) hm (by simp [kappa, cpRank, wpRank, pushRank, hcp, hwp, hpu]; omega)
    · exact h
  | bRecvW =>
    rcases writer (hC.wt (by rw [hcp]; rfl)) (by rw [hcp]; rfl) with hwp | h
    · exact progress_of (.cBRecvW s c hcp hwp) hm (by simp [kappa, cpRank, wpRank, hcp, hwp]; omega)
    · exact h
  | bRecvR =>
    cases hrp : (s.chans c).rp with
    | waitPush =>
      by_cases hpu : (s.chans c).push = .idle
      · exact progress_of (.rResume s c hrp hpu) hm (by simp [kappa, rpRank, hrp])
      · exact pusher hpu
    | read => exact progress_of (.rReadClosed s c hrp (hC.rwc (by rw [hcp]; rfl))) hm (by simp [kappa, rpRank, hrp])
    | sendDone e =>
      have hpu := hC.push_idle (by rw [hrp]; nofun) (by rw [hcp]; nofun)
      exact progress_of (.cBRecvR s c e hcp hrp hpu) hm (by simp [kappa, cpRank, pushRank, rpRank, hcp, hrp, hpu])
    | exited => have := hC.reader.mp hrp; rw [hcp] at this; cases this
  | closeWait =>
    by_cases hpu : (s.chans c).push = .idle
    · exact progress_of (.cCloseResume s c hcp hpu) hm (by simp [kappa, cpRank, hcp])
    · exact pusher hpu

/-- **A closing node is never stuck.** In every reachable state in which `Close` has been called and the event channel is
    not closed yet, some goroutine can take a step that lowers the measure. -/
theorem close_progress (inputs : Cid → List RdRes) (s : St) (hr : Reach (init inputs) s)
    (ht : s.terminate = true) (he : s.evClosed = false) : ∃ s', Step s s' ∧ mu s' < mu s := by
  have hi := reach_inv hr
  have hg := hi.glob
  cases hn : s.npc with
  | loop => exact ⟨_, .nodeBreak s hn ht, by simp [mu, hn, npcRank, ksum]⟩
  | done => rw [hg.evClosed.mpr hn] at he; cases he
  | epilogue =>
    by_cases hall : ∀ c ∈ s.members, (s.chans c).ctxDone = true
    · exact ⟨_, .nodeToWait s hn hall, by simp [mu, hn, npcRank, ksum]⟩
    · obtain ⟨c, hc⟩ := Classical.not_forall.mp hall
      obtain ⟨hc, hcd⟩ := Classical.not_imp.mp hc
      have hcd := Bool.eq_false_iff.mpr hcd
      exact progress_of (.nodeCloseChan s c hn hc hcd) hc (by simp [kappa, hcd])
  | waiting =>
    cases hp : s.provDone with
    | false => exact ⟨_, .provExit s ht, by simp [mu, hp, ksum]⟩
    | true =>
      by_cases hall : ∀ c ∈ s.members, (s.chans c).cp = .finished
      · exact ⟨_, .nodeFinish s hn hp hall, by simp [mu, hn, npcRank, ksum]⟩
      · obtain ⟨c, hc⟩ := Classical.not_forall.mp hall
        obtain ⟨hc, hcf⟩ := Classical.not_imp.mp hc
        exact chan_progress s c (hi.chan c).shape hc (hg.started c hc) hcf (hg.atWaiting hn c hc) ht

theorem closing_stable {s s' : St} (h : Step s s') (ht : s.terminate = true) (hn : s.npc ≠ .loop) (hp : s.provDone = true) :
    s'.terminate = true ∧ s'.npc ≠ .loop ∧ s'.provDone = true := by
  rcases h.nf with ⟨_, _, _, hl, _⟩ | hG | ⟨_, _, _, _, _, rfl⟩
  · exact absurd hl hn
  · cases hG with
    | provExit _ => exact ⟨ht, hn, rfl⟩
    | closeNode => exact ⟨rfl, hn, hp⟩
    | nodeBreak h1 _ => exact absurd h1 hn
    | nodeToWait _ _ | nodeFinish _ _ _ => exact ⟨ht, nofun, hp⟩
  · exact ⟨ht, hn, hp⟩

/-- `n` steps that change the state -/
inductive Chain : St → Nat → St → Prop
  | nil (s) : Chain s 0 s
  | cons {s s' s'' n} : Step s s' → s' ≠ s → Chain s' n s'' → Chain s (n + 1) s''

/-- **Close terminates (bounded).** Once the node loop has seen `terminate` and the providers have returned, at most `mu s`
    state-changing steps can follow, whatever the interleaving. -/
theorem closing_bounded (inputs : Cid → List RdRes) (s : St) (n : Nat) (s'' : St) (hc : Chain s n s'') :
    Reach (init inputs) s → s.terminate = true → s.npc ≠ .loop → s.provDone = true → n ≤ mu s := by
  induction hc with
  | nil s => intro _ _ _ _; exact Nat.zero_le _
  | @cons s1 s2 s3 m hs hne _ ih =>
    intro hr ht hn hp
    have hi := reach_inv hr
    rcases step_decreases hs hi.glob (fun c => (hi.chan c).shape) ht hn hp with h | h
    · exact absurd h hne
    · obtain ⟨a, b, c⟩ := closing_stable hs ht hn hp
      have := ih (Reach.step hr hs) a b c
      omega

-- not called by any proof (the lemmas and fields it names do not exist)
macro "active" hg:ident ho:ident hs:ident c:term : tactic => `(tactic| (
  refine member_of_active _ $hg $c ?_ ?_
  · intro hcp
    have h5 := ($ho $c).o5 hcp
    simp_all
  · intro hcp
    have h6 := ($ho $c).o6 (by rw [hcp]; rfl)
    have h3 := ($ho $c).o3 h6
    have hw := ($hs $c).l1a (by rw [hcp]; rfl)
    simp_all))

end Mav.Nd
