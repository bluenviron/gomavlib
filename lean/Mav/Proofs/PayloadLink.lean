import Mav.Proofs.DecodeLink
/-
  C03, payload bytes: for every struct `Initialize` accepts and every well-typed value assignment, the bytes the model of
  `ReadWriter.Write` produces are the bytes the serialization guide prescribes (`Spec.Msg.encode`): field by field over the
  two field lists, `Tied` pairwise (`DecodeLink.tied_all`, `tied_base`); stripping is the guide's truncation.
-/
namespace Mav.PayloadLink
open Msg SortLink InitField InitSound DecodeLink

theorem encField_link (strAt : Nat → Bool) (a : DField) (b : Spec.Msg.SField) (h : Tied strAt a b)
    (v : FVal) (hw : wellTyped a v = true) : Msg.encField a v = Spec.Msg.encField b v := by
  obtain ⟨_, hty, hn, hsn, _, _⟩ := h
  cases v with
  | num xs =>
    have hw := wellTyped_num hw
    have hfun : leN (width a) = (fun (x : UInt64) => Spec.Msg.leBytes (Spec.Msg.tySize b.ty) x.toNat) := by
      funext x
      rw [leN_eq_leBytes _ (width_le a), width, sizes_tbl, hty]
    rw [encField_num a xs hw.2, Spec.Msg.encField, ← hn hw.1, ← hw.2, List.take_length, Nat.sub_self, hfun]
    simp
  | str s =>
    have hl := hsn hw
    simp only [Msg.encField, encString, Spec.Msg.encField, Spec.Msg.padTo, replicateZ, hl]

theorem writeFields_link (strAt : Nat → Bool) (vals : List FVal) (l1 : List DField) (l2 : List Spec.Msg.SField)
    (hal : All2 (Tied strAt) l1 l2) (hw : ∀ f ∈ l1, wellTyped f (valAt vals f.index) = true) :
    writeFields l1 vals = Spec.Msg.encodeFull l2 vals := by
  induction hal with
  | nil => rfl
  | @cons a b r r2 hab _ ih =>
    simp only [writeFields, List.flatMap_cons, Spec.Msg.encodeFull] at ih ⊢
    rw [encField_link _ a b hab _ (hw a List.mem_cons_self), hab.1, ih (fun g hg => hw g (List.mem_cons_of_mem _ hg))]
    rfl

theorem strip_eq_truncate (buf : Bytes) : removeEmptyBytes buf = Spec.Msg.truncate buf := by
  cases buf with
  | nil => rfl
  | cons b r =>
    unfold removeEmptyBytes Spec.Msg.truncate Spec.Msg.dropTrailingZeros
    rw [List.reverse_cons, List.dropWhile_append]
    cases hd : r.reverse.dropWhile (· == 0) with
    | nil => by_cases hb : (b == 0) = true <;> simp [hb, hd]
    | cons x l => simp [hd]

/-- **C03 (payload bytes, for every struct).** -/
theorem encode_eq_spec (st : GoStruct) (rw : RW) (d : Spec.Msg.SDef) (h1 : Msg.init st = .ok rw) (h2 : Spec.Msg.ofGo st = some d)
    (vals : List FVal) (hw : ∀ f ∈ rw.fields, wellTyped f (valAt vals f.index) = true) (isV2 : Bool) :
    Msg.encode rw isV2 vals = .ok (Spec.Msg.encode d isV2 vals) := by
  have hok := accepted_rwOk st rw h1
  cases isV2 with
  | true =>
    rw [encode_v2, if_pos ((writeFields_length vals _ hw).trans hok.ext), writeFields_link _ vals _ _ (tied_all st rw d h1 h2) hw,
      strip_eq_truncate]
    rfl
  | false =>
    have hw' : ∀ f ∈ rw.fields.filter (fun f => !f.isExt), wellTyped f (valAt vals f.index) = true :=
      fun f hf => hw f (List.mem_filter.mp hf).1
    rw [encode_v1, if_pos ((writeFields_length vals _ hw').trans hok.base), writeFields_link _ vals _ _ (tied_base st rw d h1 h2) hw']
    rfl

end Mav.PayloadLink
