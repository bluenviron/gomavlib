import Mav.Model.Race
/-
  What the three disciplines of C15 rest on, for every program, every number of goroutines, every interleaving:
  programs only lose operations (`static_no_race`: read-only, confined), and the lock discipline is an invariant of
  the interleaving semantics (`LockInv`).
-/
namespace Mav.Race

theorem setProg_same (s : St) (g : Gid) (p : List Op) : (s.setProg g p).progs g = p := by simp [St.setProg]
theorem setProg_other (s : St) (g g' : Gid) (p : List Op) (h : g' ≠ g) : (s.setProg g p).progs g' = s.progs g' := by
  simp [St.setProg, h]

/-- `o` is one of the four operations on mutex `m` -/
def onMu (m : Mu) : Op → Bool
  | .lock m' | .unlock m' | .rlock m' | .runlock m' => m' == m
  | _ => false

/-- what goroutine `g` executing `o` does to mutex `m`: owner and readers of `m` before the step, owner and readers after -/
inductive MuEff (m : Mu) (g : Gid) : Op → Option Gid → List Gid → Option Gid → List Gid → Prop
  | lock : MuEff m g (.lock m) none [] (some g) []
  | unlock {rd} : MuEff m g (.unlock m) (some g) rd none rd
  | rlock {rd} : MuEff m g (.rlock m) none rd none (g :: rd)
  | runlock {ow rd} : g ∈ rd → MuEff m g (.runlock m) ow rd ow (rd.erase g)
  | skip {o ow rd} : onMu m o = false → MuEff m g o ow rd ow rd

/-- all that a step does to the programs and the mutexes (`started` is left out: no discipline needs it) -/
theorem step_view {s s' : St} (h : Step s s') : ∃ g o rest, s.progs g = o :: rest ∧
    (∀ g', s'.progs g' = if g' = g then rest else s.progs g') ∧
    ∀ m, MuEff m g o (s.owner m) (s.readers m) (s'.owner m) (s'.readers m) := by
  cases h <;> refine ⟨_, _, _, ‹_ = _ :: _›, fun _ => rfl, fun m => ?_⟩
  case read | write | other | spawn => exact .skip rfl
  case lock g m' _ _ _ hfree hnor =>
    dsimp only [St.setProg]; split
    · subst m; rw [hfree, hnor]; exact .lock
    · exact .skip (beq_false_of_ne (Ne.symm ‹_›))
  case unlock g m' _ _ _ hown =>
    dsimp only [St.setProg]; split
    · subst m; rw [hown]; exact .unlock
    · exact .skip (beq_false_of_ne (Ne.symm ‹_›))
  case rlock g m' _ _ _ hfree =>
    dsimp only [St.setProg]; split
    · subst m; rw [hfree]; exact .rlock
    · exact .skip (beq_false_of_ne (Ne.symm ‹_›))
  case runlock g m' _ _ _ hin =>
    dsimp only [St.setProg]; split
    · subst m; exact .runlock hin
    · exact .skip (beq_false_of_ne (Ne.symm ‹_›))

/-- programs only lose operations -/
theorem Reach.mem_progs {s0 s : St} (h : Reach s0 s) {g : Gid} {o : Op} (ho : o ∈ s.progs g) : o ∈ s0.progs g := by
  induction h with
  | refl => exact ho
  | step _ hs ih =>
    obtain ⟨g', o', rest, hp, hp', _⟩ := step_view hs
    rw [hp'] at ho
    split at ho
    · subst g; exact ih (hp ▸ List.mem_cons_of_mem _ ho)
    · exact ih ho

/-- a race seen from the side of a goroutine that writes -/
theorem RaceOn.elim {v : Var} {s : St} {C : Prop} (h : RaceOn v s)
    (k : ∀ ga gb oa ob ra rb, ga ≠ gb → s.progs ga = oa :: ra → s.progs gb = ob :: rb → writes v oa = true →
      accesses v oa = true → accesses v ob = true → C) : C := by
  obtain ⟨g1, g2, o1, o2, r1, r2, hne, _, _, hp1, hp2, ha1, ha2, hw | hw⟩ := h
  · exact k g1 g2 o1 o2 r1 r2 hne hp1 hp2 hw ha1 ha2
  · exact k g2 g1 o2 o1 r2 r1 hne.symm hp2 hp1 hw ha2 ha1

/-- No synchronisation is needed where the program texts hold no conflicting pair: no write to `v` in one goroutine
    together with an access to `v` in another. Read-only variables and confined variables are the two cases used. -/
theorem static_no_race {v : Var} {s0 s : St} (h : Reach s0 s)
    (h0 : ∀ ga gb, ga ≠ gb → ∀ oa ∈ s0.progs ga, ∀ ob ∈ s0.progs gb, writes v oa = true → accesses v oa = true →
      accesses v ob = true → False) : ¬ RaceOn v s :=
  fun hr => hr.elim fun ga gb oa ob _ _ hne hpa hpb => h0 ga gb hne
    oa (h.mem_progs (hpa ▸ List.mem_cons_self ..)) ob (h.mem_progs (hpb ▸ List.mem_cons_self ..))

/-- how goroutine `g` holds a mutex with owner `ow` and readers `rd`: 2 = exclusively, 1 = shared, 0 = not at all -/
def modeOf (ow : Option Gid) (rd : List Gid) (g : Gid) : Nat := if ow = some g then 2 else if g ∈ rd then 1 else 0

/-- the program accesses `v` only while holding `m` — exclusively for a write, at least shared for a read — and uses `m`
    in a well-bracketed way; `h` is how `m` is held at the start -/
def guarded (v : Var) (m : Mu) : Nat → List Op → Bool
  | _, [] => true
  | h, .read w :: r => (w != v || decide (1 ≤ h)) && guarded v m h r
  | h, .write w :: r => (w != v || h == 2) && guarded v m h r
  | h, .lock m' :: r => if m' = m then h == 0 && guarded v m 2 r else guarded v m h r
  | h, .unlock m' :: r => if m' = m then h == 2 && guarded v m 0 r else guarded v m h r
  | h, .rlock m' :: r => if m' = m then h == 0 && guarded v m 1 r else guarded v m h r
  | h, .runlock m' :: r => if m' = m then h == 1 && guarded v m 0 r else guarded v m h r
  | h, .spawn _ :: r => guarded v m h r
  | h, .other :: r => guarded v m h r

theorem guarded_skip {v m h o r} (hn : onMu m o = false) (hg : guarded v m h (o :: r) = true) : guarded v m h r = true := by
  cases o with
  | read | write => rw [guarded, Bool.and_eq_true] at hg; exact hg.2
  | spawn | other => exact hg
  | lock m' | unlock m' | rlock m' | runlock m' => rwa [guarded, if_neg (ne_of_beq_false hn)] at hg

theorem guarded_writes {v m h o r} (hw : writes v o = true) (hg : guarded v m h (o :: r) = true) : h = 2 := by
  cases o <;> simp [writes] at hw
  simp [guarded, hw] at hg; exact hg.1

theorem guarded_accesses {v m h o r} (ha : accesses v o = true) (hg : guarded v m h (o :: r) = true) : 1 ≤ h := by
  cases o <;> simp [accesses] at ha <;> simp [guarded, ha] at hg
  · exact hg.1
  · omega

theorem modeOf_excl {ow rd ga gb} (hex : ∀ g, ow = some g → rd = []) (ha : modeOf ow rd ga = 2) (hb : 1 ≤ modeOf ow rd gb) :
    ga = gb := by
  by_cases how : ow = some ga
  · refine Decidable.by_contra fun hne => ?_
    simp [modeOf, how, hex ga how, hne] at hb
  · simp [modeOf, how] at ha; split at ha <;> omega

/-- The way `g` holds `m` in the state follows the mode that `guarded` threads through `g`'s program; nobody else's mode
    changes; owner and readers go on excluding each other. -/
theorem MuEff.lockinv {v m g o ow rd ow' rd' r} (he : MuEff m g o ow rd ow' rd') (hex : ∀ g, ow = some g → rd = [])
    (hnd : rd.Nodup) (hg : guarded v m (modeOf ow rd g) (o :: r) = true) :
    guarded v m (modeOf ow' rd' g) r = true ∧ (∀ g', g' ≠ g → modeOf ow' rd' g' = modeOf ow rd g') ∧
    (∀ g, ow' = some g → rd' = []) ∧ rd'.Nodup := by
  cases he with
  | lock =>
    have hg : guarded v m 2 r = true := by simpa [guarded, modeOf] using hg
    exact ⟨by simpa [modeOf] using hg, fun g' hg' => by simp [modeOf, Ne.symm hg'], fun _ _ => rfl, hnd⟩
  | unlock =>
    cases hex g rfl
    have hg : guarded v m 0 r = true := by simpa [guarded, modeOf] using hg
    exact ⟨by simpa [modeOf] using hg, fun g' hg' => by simp [modeOf, Ne.symm hg'], nofun, hnd⟩
  | rlock =>
    have hg : g ∉ rd ∧ guarded v m 1 r = true := by simpa [guarded, modeOf] using hg
    exact ⟨by simpa [modeOf] using hg.2, fun g' hg' => by simp [modeOf, hg'], nofun, List.nodup_cons.2 ⟨hg.1, hnd⟩⟩
  | runlock hin =>
    have how : ow ≠ some g := fun h => by rw [hex g h] at hin; cases hin
    have hg : guarded v m 0 r = true := by simp [guarded] at hg; exact hg.2
    exact ⟨by simpa [modeOf, how, hnd.mem_erase_iff] using hg, fun g' hg' => by simp [modeOf, List.mem_erase_of_ne hg'],
      fun g' h => by rw [hex g' h]; rfl, hnd.erase g⟩
  | skip hn => exact ⟨guarded_skip hn hg, fun _ _ => rfl, hex, hnd⟩

structure LockInv (v : Var) (m : Mu) (s : St) : Prop where
  g : ∀ g, guarded v m (modeOf (s.owner m) (s.readers m) g) (s.progs g) = true
  excl : ∀ g, s.owner m = some g → s.readers m = []
  nodup : (s.readers m).Nodup

theorem step_lockinv (v : Var) (m : Mu) {s s' : St} (hs : Step s s') (hi : LockInv v m s) : LockInv v m s' := by
  obtain ⟨g, o, rest, hp, hp', he⟩ := step_view hs
  have hg := hi.g g; rw [hp] at hg
  obtain ⟨h1, h2, h3, h4⟩ := (he m).lockinv hi.excl hi.nodup hg
  refine ⟨fun g' => ?_, h3, h4⟩
  rw [hp']
  by_cases hgg : g' = g
  · rw [if_pos hgg, hgg]; exact h1
  · rw [if_neg hgg, h2 g' hgg]; exact hi.g g'

theorem LockInv.reach {v m s0 s} (h : Reach s0 s) (hi : LockInv v m s0) : LockInv v m s := by
  induction h with
  | refl => exact hi
  | step _ hs ih => exact step_lockinv v m hs ih

/-- whoever writes holds the mutex exclusively; then the other one holds nothing and may not touch `v` -/
theorem LockInv.no_race {v m s} (hi : LockInv v m s) : ¬ RaceOn v s :=
  fun hr => hr.elim fun ga gb _ _ _ _ hne hpa hpb hw _ hab =>
    hne (modeOf_excl hi.excl (guarded_writes hw (hpa ▸ hi.g ga)) (guarded_accesses hab (hpb ▸ hi.g gb)))

end Mav.Race
