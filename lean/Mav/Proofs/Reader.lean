import Mav.Proofs.Bytes
import Mav.Proofs.Frame
/-
  The frame reader. One notion carries the reading primitives (`Reads p n`); on it the two frame parsers are characterised:
  they succeed exactly on the spec bytes of a well-formed frame (`unmarshal_ok_iff`) and never lengthen the stream (only that:
  after a transport error inside a frame the rest is no suffix of the input — `peek` takes the error item out and leaves the
  bytes before it). `readOne`
  is the parser selected by the magic byte followed by the two gates (`readOne_eq`, its only unfolding). Without key and
  dialect the gates pass every frame (`gates_plain`); what they do with either is in Mav/Proofs/Gates.lean.
-/
namespace Mav
open Spec

@[simp] theorem bytesToItems_nil : bytesToItems [] = [] := rfl
@[simp] theorem bytesToItems_cons (x : UInt8) (r : Bytes) : bytesToItems (x :: r) = Item.b x :: bytesToItems r := rfl
@[simp] theorem bytesToItems_append (a b : Bytes) : bytesToItems (a ++ b) = bytesToItems a ++ bytesToItems b := by
  simp [bytesToItems]
@[simp] theorem bytesToItems_length (a : Bytes) : (bytesToItems a).length = a.length := by simp [bytesToItems]

theorem items_inj (a b : Bytes) (h : bytesToItems a = bytesToItems b) : a = b :=
  (List.map_inj_right fun _ _ h => Item.b.inj h).mp h

theorem takeBytes_items (a : Bytes) (r : Stream) : takeBytes a.length (bytesToItems a ++ r) = (a, r) := by
  induction a with
  | nil => simp [takeBytes]
  | cons x a ih => simp [takeBytes, ih]

theorem takeBytes_items_rest (n : Nat) (s : Stream) :
    bytesToItems (takeBytes n s).1 ++ (takeBytes n s).2 = s := by
  induction n generalizing s with
  | zero => simp [takeBytes]
  | succ n ih =>
    cases s with
    | nil => simp [takeBytes]
    | cons x r =>
      cases x with
      | e k => simp [takeBytes]
      | b x => simp [takeBytes, ih r]

theorem takeBytes_len_le (n : Nat) (s : Stream) : (takeBytes n s).1.length ≤ n := by
  induction n generalizing s with
  | zero => simp [takeBytes]
  | succ n ih =>
    cases s with
    | nil => simp [takeBytes]
    | cons x r =>
      cases x with
      | e k => simp [takeBytes]
      | b x => simp [takeBytes]; exact ih r

theorem takeBytes_len {n : Nat} {s r : Stream} {bs : Bytes} (h : takeBytes n s = (bs, r)) : bs.length + r.length = s.length := by
  simpa [h] using congrArg List.length (takeBytes_items_rest n s)

/-- `p` reads `n` bytes: it succeeds exactly on a stream that begins with `n` bytes, returning them and what follows them; and
    whatever it returns, it leaves a stream no longer than the one it was given -/
structure Reads (p : Stream → Except IOErr Bytes × Stream) (n : Nat) : Prop where
  ok_iff {s s' : Stream} {bs : Bytes} : p s = (.ok bs, s') ↔ s = bytesToItems bs ++ s' ∧ bs.length = n
  le {s s' : Stream} {r : Except IOErr Bytes} : p s = (r, s') → s'.length ≤ s.length

theorem Reads.of_takeBytes {p : Stream → Except IOErr Bytes × Stream} {n : Nat}
    (hok : ∀ s bs r, takeBytes n s = (bs, r) → bs.length = n → p s = (.ok bs, r))
    (herr : ∀ s bs r, takeBytes n s = (bs, r) → bs.length ≠ n → ∃ e r', p s = (.error e, r') ∧ r'.length ≤ s.length) :
    Reads p n where
  ok_iff {s s' bs} := by
    constructor
    · intro h
      by_cases hn : (takeBytes n s).1.length = n
      · cases (hok s _ _ rfl hn).symm.trans h
        exact ⟨(takeBytes_items_rest n s).symm, hn⟩
      · obtain ⟨e, r, he, _⟩ := herr s _ _ rfl hn
        cases he.symm.trans h
    · rintro ⟨rfl, rfl⟩
      exact hok _ _ _ (takeBytes_items bs s') rfl
  le {s s' r} h := by
    by_cases hn : (takeBytes n s).1.length = n
    · cases (hok s _ _ rfl hn).symm.trans h
      have hl := takeBytes_len (n := n) (s := s) rfl
      omega
    · obtain ⟨e, r, he, hle⟩ := herr s _ _ rfl hn
      cases he.symm.trans h
      exact hle

theorem peekDiscard_reads (n : Nat) : Reads (peekDiscard n) n :=
  .of_takeBytes (fun s bs r ht h => by simp [peekDiscard, peek, ht, h]) fun s bs r ht h => by
    have hl := takeBytes_len ht
    unfold peekDiscard peek
    simp only [ht, h, if_false]
    rcases r with _ | ⟨_ | k, r'⟩ <;> exact ⟨_, _, rfl, by simp at hl ⊢ <;> omega⟩

theorem readFull_reads (n : Nat) : Reads (readFull n) n :=
  .of_takeBytes (fun s bs r ht h => by simp [readFull, ht, h]) fun s bs r ht h => by
    have hl := takeBytes_len ht
    unfold readFull
    simp only [ht, h, if_false]
    rcases r with _ | ⟨_ | k, r'⟩ <;> exact ⟨_, _, rfl, by simp at hl ⊢ <;> omega⟩

/-- the payload read skipped for length byte 0 is a read of no bytes -/
theorem readPayload_eq (l : UInt8) : readPayload l = readFull l.toNat := by
  funext s
  unfold readPayload
  split
  · rfl
  · rename_i hl
    have : l.toNat = 0 := by simpa [UInt8.lt_iff_toNat_lt] using hl
    simp [this, readFull, takeBytes]

theorem readPayload_reads (l : UInt8) : Reads (readPayload l) l.toNat := readPayload_eq l ▸ readFull_reads _

theorem readPayload_items (p : Bytes) (r : Stream) (h : p.length ≤ 255) :
    readPayload (UInt8.ofNat p.length) (bytesToItems p ++ r) = (.ok p, r) :=
  (readPayload_reads _).ok_iff.mpr ⟨rfl, by simp; omega⟩

/-! ### the frame parsers: they succeed exactly on the spec bytes of a well-formed frame, and never lengthen the stream

  The parsers are entered after `readByte` has consumed the magic byte, so their statements put it back: the stream `s` they
  are given, behind the magic byte, is the spec bytes of the frame followed by what they leave.

  Left to right, each successful read says how the stream begins (`Reads.ok_iff`), and the packings encode what they decoded
  to the bytes read; right to left, the header, checksum and signature reads are evaluated on the bytes of the layout, the
  payload read by `readPayload_items`, and the packings decode what they encoded. -/

theorem unmarshalV1_ok_iff {s s' : Stream} {f : V1Frame} :
    unmarshalV1 s = (.ok f, s') ↔ WF (.v1 f) ∧ .b Gen.v1MagicByte :: s = bytesToItems (specBytes (.v1 f)) ++ s' := by
  constructor
  · intro h
    unfold unmarshalV1 at h
    split at h
    · cases h
    · rename_i len seq sys comp id s1 h5
      obtain ⟨rfl, _⟩ := (peekDiscard_reads 5).ok_iff.mp h5
      split at h
      · cases h
      · rename_i p s2 hp
        obtain ⟨rfl, hlen⟩ := (readPayload_reads len).ok_iff.mp hp
        split at h
        · cases h
        · rename_i c0 c1 s3 h2
          obtain ⟨rfl, _⟩ := (peekDiscard_reads 2).ok_iff.mp h2
          cases h
          have hid : id.toUInt32 ≤ 0xFF := by simpa [UInt32.le_iff_toNat_le] using Nat.le_of_lt_succ id.toNat_lt
          have hp255 : p.length ≤ 255 := by have := len.toNat_lt; omega
          exact ⟨wf_v1_iff.mpr ⟨_, _, rfl, hid, hp255⟩, by simp [specBytes, v1Bytes, Gen.v1MagicByte, hlen, le16_unLe16]⟩
        · cases h
    · cases h
  · rintro ⟨h, hs⟩
    obtain ⟨seq, sys, comp, msg, crc⟩ := f
    obtain ⟨id, p, rfl, hid, hp⟩ := wf_v1_iff.mp h
    have hidr : id.toUInt8.toUInt32 = id := by
      have : id.toNat ≤ 255 := by simpa [UInt32.le_iff_toNat_le] using hid
      apply UInt32.toNat_inj.mp
      simp
      omega
    simp [specBytes, v1Bytes, Gen.v1MagicByte, le16] at hs
    subst hs
    simp [unmarshalV1, peekDiscard, peek, takeBytes, readPayload_items p _ hp, unLe16_le16, hidr]

theorem unmarshalV2_ok_iff {s s' : Stream} {f : V2Frame} :
    unmarshalV2 s = (.ok f, s') ↔ WF (.v2 f) ∧ .b Gen.v2MagicByte :: s = bytesToItems (specBytes (.v2 f)) ++ s' := by
  constructor
  · intro h
    unfold unmarshalV2 at h
    split at h
    · cases h
    · rename_i len ic c seq sys comp i0 i1 i2 s1 h9
      obtain ⟨rfl, _⟩ := (peekDiscard_reads 9).ok_iff.mp h9
      split at h
      · cases h
      · rename_i hic
        split at h
        · cases h
        · rename_i p s2 hp
          obtain ⟨rfl, hlen⟩ := (readPayload_reads len).ok_iff.mp hp
          have hp255 : p.length ≤ 255 := by have := len.toNat_lt; omega
          split at h
          · cases h
          · rename_i c0 c1 s3 h2
            obtain ⟨rfl, _⟩ := (peekDiscard_reads 2).ok_iff.mp h2
            have hicv : ic = 0 ∨ ic = 1 := by simpa [Gen.v2FlagSigned, Decidable.or_iff_not_imp_left] using hic
            rcases hicv with rfl | rfl
            · simp [V2Frame.isSigned, Gen.v2FlagSigned] at h
              obtain ⟨rfl, rfl⟩ := h
              exact ⟨wf_v2_iff.mpr ⟨_, _, rfl, uint24Decode_lt _ _ _, hp255, .inl ⟨rfl, rfl, rfl, rfl⟩⟩,
                by simp [specBytes, v2Bytes, Gen.v2MagicByte, hlen, le16_unLe16, le24_uint24Decode]⟩
            · simp [V2Frame.isSigned, Gen.v2FlagSigned] at h
              split at h
              · cases h
              · rename_i l t0 t1 t2 t3 t4 t5 g0 g1 g2 g3 g4 g5 s4 h13
                obtain ⟨rfl, _⟩ := (peekDiscard_reads 13).ok_iff.mp h13
                cases h
                exact ⟨wf_v2_iff.mpr
                    ⟨_, _, rfl, uint24Decode_lt _ _ _, hp255, .inr ⟨rfl, uint48Decode_lt _ _ _ _ _ _, _, rfl, rfl⟩⟩,
                  by simp [specBytes, v2Bytes, Gen.v2MagicByte, hlen, le16_unLe16, le24_uint24Decode, le48_uint48Decode]⟩
              · cases h
          · cases h
    · cases h
  · rintro ⟨h, hs⟩
    obtain ⟨ic, c, seq, sys, comp, msg, crc, link, ts, sig⟩ := f
    obtain ⟨id, p, rfl, hid, hp, ⟨rfl, rfl, rfl, rfl⟩ | ⟨rfl, hts, sg, rfl, hsg⟩⟩ := wf_v2_iff.mp h
    · simp [specBytes, v2Bytes, Gen.v2MagicByte, le16, le24] at hs
      subst hs
      simp [unmarshalV2, peekDiscard, peek, takeBytes, readPayload_items p _ hp, unLe16_le16, uint24Decode_le24 id hid,
        V2Frame.isSigned, Gen.v2FlagSigned]
    · match sg, hsg with
      | [g0, g1, g2, g3, g4, g5], _ =>
        simp [specBytes, v2Bytes, Gen.v2MagicByte, le16, le24, le48] at hs
        subst hs
        simp [unmarshalV2, peekDiscard, peek, takeBytes, readPayload_items p _ hp, unLe16_le16, uint24Decode_le24 id hid,
          uint48Decode_le48 ts hts, V2Frame.isSigned, Gen.v2FlagSigned]

/- every branch returns the stream one of the reads left -/
theorem unmarshalV1_le (s : Stream) : (unmarshalV1 s).2.length ≤ s.length := by
  unfold unmarshalV1
  split
  · exact (peekDiscard_reads 5).le ‹_›
  · have h1 := (peekDiscard_reads 5).le ‹_›
    split
    · exact Nat.le_trans ((readPayload_reads _).le ‹_›) h1
    · have h2 := Nat.le_trans ((readPayload_reads _).le ‹_›) h1
      split <;> exact Nat.le_trans ((peekDiscard_reads 2).le ‹_›) h2
  · exact (peekDiscard_reads 5).le ‹_›

theorem unmarshalV2_le (s : Stream) : (unmarshalV2 s).2.length ≤ s.length := by
  unfold unmarshalV2
  split
  · exact (peekDiscard_reads 9).le ‹_›
  · have h1 := (peekDiscard_reads 9).le ‹_›
    split
    · exact h1
    · split
      · exact Nat.le_trans ((readPayload_reads _).le ‹_›) h1
      · have h2 := Nat.le_trans ((readPayload_reads _).le ‹_›) h1
        split
        · exact Nat.le_trans ((peekDiscard_reads 2).le ‹_›) h2
        · have h3 := Nat.le_trans ((peekDiscard_reads 2).le ‹_›) h2
          dsimp only
          split
          · split <;> exact Nat.le_trans ((peekDiscard_reads 13).le ‹_›) h3
          · exact h3
        · exact Nat.le_trans ((peekDiscard_reads 2).le ‹_›) h2
  · exact (peekDiscard_reads 9).le ‹_›

/-- the frame parser selected by the magic byte (`none`: not a magic byte) -/
def unmarshal (magic : UInt8) (s : Stream) : Option (Except PErr Frame × Stream) :=
  if magic = Gen.v1MagicByte then some ((unmarshalV1 s).1.map .v1, (unmarshalV1 s).2)
  else if magic = Gen.v2MagicByte then some ((unmarshalV2 s).1.map .v2, (unmarshalV2 s).2)
  else none

def gates (cfg : RCfg) (st : RState) (f : Frame) : RRes × RState :=
  match sigGate cfg st f with
  | .error e => (.perr e, st)
  | .ok st' => (dialectGate cfg f, st')

/-- without key and dialect each gate stops at its first test -/
theorem gates_plain (cfg : RCfg) (hk : cfg.key = none) (hd : cfg.dialect = none) (st : RState) (f : Frame) :
    gates cfg st f = (.frame f, st) := by
  simp only [gates, sigGate, dialectGate, hk, hd]

theorem readOne_eq (cfg : RCfg) (st : RState) (s : Stream) :
    readOne cfg st s =
      match s with
      | [] => (.terr .eof, [], st)
      | .e k :: r => (.terr (.tr k), r, st)
      | .b m :: r =>
        match unmarshal m r with
        | none => (.perr (.badMagic m), r, st)
        | some (.error e, s') => (.perr e, s', st)
        | some (.ok f, s') => ((gates cfg st f).1, s', (gates cfg st f).2) := by
  unfold readOne readByte unmarshal gates
  rcases s with _ | ⟨m | k, r⟩
  · rfl
  · dsimp only
    split
    · rcases unmarshalV1 r with ⟨e | f, s'⟩
      · rfl
      · dsimp only [Except.map]; cases sigGate cfg st (.v1 f) <;> rfl
    · split
      · rcases unmarshalV2 r with ⟨e | f, s'⟩
        · rfl
        · dsimp only [Except.map]; cases sigGate cfg st (.v2 f) <;> rfl
      · rfl
  · rfl

theorem unmarshal_le {m : UInt8} {s s' : Stream} {r : Except PErr Frame} (h : unmarshal m s = some (r, s')) :
    s'.length ≤ s.length := by
  unfold unmarshal at h
  split at h
  · simp only [Option.some.injEq, Prod.mk.injEq] at h; exact h.2 ▸ unmarshalV1_le s
  · split at h
    · simp only [Option.some.injEq, Prod.mk.injEq] at h; exact h.2 ▸ unmarshalV2_le s
    · cases h

theorem specBytes_cons {f : Frame} (h : WF f) :
    ∃ t, specBytes f = (if f.isV2 then Gen.v2MagicByte else Gen.v1MagicByte) :: t := by
  obtain ⟨id, p, hm⟩ := wf_raw h
  obtain ⟨g, rfl, hg⟩ | ⟨g, rfl, hg⟩ := Frame.raw_cases hm
  · exact ⟨_, by simp [specBytes, v1Bytes, hg, Gen.v1MagicByte, Frame.isV2]; rfl⟩
  · exact ⟨_, by simp [specBytes, v2Bytes, hg, Gen.v2MagicByte, Frame.isV2]; rfl⟩

theorem unmarshal_ok_iff {m : UInt8} {s s' : Stream} {f : Frame} :
    unmarshal m s = some (.ok f, s') ↔ WF f ∧ .b m :: s = bytesToItems (specBytes f) ++ s' := by
  have hne : Gen.v2MagicByte ≠ Gen.v1MagicByte := by decide
  constructor
  · intro h
    unfold unmarshal at h
    split at h
    · rename_i hm
      cases hu : unmarshalV1 s with
      | mk r s1 =>
        cases r <;> simp [hu, Except.map] at h
        obtain ⟨rfl, rfl⟩ := h
        exact hm ▸ unmarshalV1_ok_iff.mp hu
    · split at h
      · rename_i hm
        cases hu : unmarshalV2 s with
        | mk r s1 =>
          cases r <;> simp [hu, Except.map] at h
          obtain ⟨rfl, rfl⟩ := h
          exact hm ▸ unmarshalV2_ok_iff.mp hu
      · cases h
  · rintro ⟨hwf, hs⟩
    obtain ⟨t, ht⟩ := specBytes_cons hwf
    obtain rfl : m = (if f.isV2 then Gen.v2MagicByte else Gen.v1MagicByte) := by
      rw [ht] at hs; exact (by simpa using hs : _ ∧ _).1
    cases f with
    | v1 g => simp [unmarshal, Frame.isV2, unmarshalV1_ok_iff.mpr ⟨hwf, hs⟩, Except.map]
    | v2 g => simp [unmarshal, Frame.isV2, hne, unmarshalV2_ok_iff.mpr ⟨hwf, hs⟩, Except.map]

theorem readOne_progress (cfg : RCfg) (st : RState) (s : Stream) :
    (s = [] ∧ readOne cfg st s = (.terr .eof, [], st)) ∨ (readOne cfg st s).2.1.length < s.length := by
  rw [readOne_eq]
  cases s with
  | nil => exact .inl ⟨rfl, rfl⟩
  | cons x r =>
    right
    cases x with
    | e k => simp
    | b m =>
      dsimp only
      cases hu : unmarshal m r with
      | none => simp
      | some q =>
        obtain ⟨res, s'⟩ := q
        have := unmarshal_le hu
        cases res <;> simp <;> omega

/-- whatever the configuration: on the spec bytes of a well-formed frame, `readOne` returns what the gates make of the frame -/
theorem readOne_specBytes (cfg : RCfg) (st : RState) {f : Frame} (hwf : WF f) (rest : Stream) :
    readOne cfg st (bytesToItems (specBytes f) ++ rest) = ((gates cfg st f).1, rest, (gates cfg st f).2) := by
  obtain ⟨t, ht⟩ := specBytes_cons hwf
  have hu : unmarshal _ (bytesToItems t ++ rest) = some (.ok f, rest) := unmarshal_ok_iff.mpr ⟨hwf, by rw [ht]; rfl⟩
  simp [readOne_eq, ht, hu]

/-- `hg` holds without key and dialect (`gates_plain`) -/
theorem readOne_frame_iff {cfg : RCfg} {st st' : RState} {s rest : Stream} {f : Frame}
    (hg : ∀ f, gates cfg st f = (.frame f, st)) :
    readOne cfg st s = (.frame f, rest, st') ↔ WF f ∧ s = bytesToItems (specBytes f) ++ rest ∧ st' = st := by
  constructor
  · intro h
    rw [readOne_eq] at h
    split at h
    · cases h
    · cases h
    · split at h
      · cases h
      · cases h
      · rename_i hu
        simp only [hg, Prod.mk.injEq, RRes.frame.injEq] at h
        obtain ⟨rfl, rfl, rfl⟩ := h
        exact ⟨(unmarshal_ok_iff.mp hu).1, (unmarshal_ok_iff.mp hu).2, rfl⟩
  · rintro ⟨hwf, rfl, rfl⟩
    rw [readOne_specBytes cfg st' hwf, hg]

theorem readOne_no_panic (cfg : RCfg) (st : RState) (s : Stream) (h : ∀ f, WF f → dialectGate cfg f ≠ .panic) :
    (readOne cfg st s).1 ≠ .panic := by
  rw [readOne_eq]
  split
  · simp
  · simp
  · split
    · simp
    · simp
    · rename_i hu
      unfold gates
      split
      · simp
      · exact h _ (unmarshal_ok_iff.mp hu).1

end Mav
