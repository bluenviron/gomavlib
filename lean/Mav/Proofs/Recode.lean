import Mav.Proofs.Codec
/-
  Re-encoding what was decoded (C08, hypothesis `CodecConsistent` of the forwarding theorem). Every value `Read` makes of a field's
  bytes is well-typed and a fixed point of `canonF`; for a layout whose field indexes are distinct positions of the struct
  (`IdxOk`) the list `Read` returns holds each field's value at the field's index. So setting every field to the canonical form
  of what was read changes nothing (`readFields_fixed`): by the round trip, `Write` of that list succeeds and `Read` of that gives
  the same list back.
-/
namespace Mav.Msg

theorem takeWhile_idem {α} (p : α → Bool) (l : List α) : (l.takeWhile p).takeWhile p = l.takeWhile p := by
  induction l with
  | nil => rfl
  | cons x r ih => by_cases hx : p x = true <;> simp [hx, ih]

theorem canonF_idem (f : DField) (v : FVal) : canonF f (canonF f v) = canonF f v := by
  cases v with
  | num xs =>
    simp only [canonF, FVal.num.injEq]
    rw [List.take_of_length_le (by simp [List.length_take]; omega), List.map_map]
    exact List.map_congr_left fun x _ => maskW_idem _ (width_ok f) x
  | str s =>
    simp only [canonF, FVal.str.injEq]
    rw [List.take_of_length_le (Nat.le_trans (List.takeWhile_sublist _).length_le (List.length_take_le _ _)), takeWhile_idem]

theorem elems_masked (w : Nat) (hw : w = 1 ∨ w = 2 ∨ w = 4 ∨ w = 8) (n : Nat) (s : Bytes) :
    (elems w n s).map (maskW w) = elems w n s := by
  induction n generalizing s with
  | zero => rfl
  | succ n ih =>
    simp only [elems, List.map_cons, ih]
    rw [maskW_unLeN_le w hw _ (List.length_take_le w s)]

theorem decVal_canonical (f : DField) (s : Bytes) (hs : s.length ≤ fsize f) :
    wellTyped f (decVal f s) = true ∧ canonF f (decVal f s) = decVal f s := by
  unfold decVal
  by_cases h : isStr f = true
  · simp only [h, if_true, wellTyped, canonF, true_and, FVal.str.injEq]
    simp only [fsize, h, if_true] at hs
    rw [List.take_of_length_le (Nat.le_trans (List.takeWhile_sublist _).length_le hs), takeWhile_idem]
  · have h : isStr f = false := by simpa using h
    simp only [h, Bool.false_eq_true, if_false, wellTyped, canonF, elems_length, Bool.not_false, Bool.true_and, beq_self_eq_true,
      true_and, FVal.num.injEq]
    rw [List.take_of_length_le (by rw [elems_length]; exact Nat.le_refl _), elems_masked _ (width_ok f)]

theorem fieldVals_canonical (fs : List DField) (buf : Bytes) :
    ∀ p ∈ fieldVals fs buf, wellTyped p.1 p.2 = true ∧ canonF p.1 p.2 = p.2 := by
  induction fs generalizing buf with
  | nil => intro p hp; cases hp
  | cons f r ih =>
    intro p hp
    cases hp with
    | head => exact decVal_canonical f _ (List.length_take_le _ _)
    | tail _ h => exact ih _ p h

theorem fieldVals_fst (fs : List DField) (buf : Bytes) : (fieldVals fs buf).map Prod.fst = fs := by
  induction fs generalizing buf with
  | nil => rfl
  | cons f r ih => simp [fieldVals, ih]

def IdxOk (fs : List DField) (n : Nat) : Prop := (fs.map (·.index)).Nodup ∧ ∀ f ∈ fs, f.index < n

theorem idxOk_filter (fs : List DField) (n : Nat) (p : DField → Bool) (h : IdxOk fs n) : IdxOk (fs.filter p) n :=
  ⟨((List.filter_sublist).map _).nodup h.1, fun f hf => h.2 f (List.mem_filter.mp hf).1⟩

theorem zeroVals_length (rw : RW) : (zeroVals rw).length = rw.nfields := by simp [zeroVals]

theorem setAt_length (a : List FVal) (i : Nat) (v : FVal) : (setAt a i v).length = a.length := List.length_set

theorem valAt_setAt_self (a : List FVal) {i : Nat} (h : i < a.length) (v : FVal) : valAt (setAt a i v) i = v := by
  simp [valAt, setAt, h]

theorem valAt_setAt_ne (a : List FVal) {i j : Nat} (h : i ≠ j) (v : FVal) : valAt (setAt a i v) j = valAt a j := by
  simp [valAt, setAt, List.getElem?_set_ne h]

theorem setAll_cons (q : DField × FVal) (r : List (DField × FVal)) (acc : List FVal) :
    setAll (q :: r) acc = setAll r (setAt acc q.1.index q.2) := rfl

theorem setAll_length (ps : List (DField × FVal)) (acc : List FVal) : (setAll ps acc).length = acc.length := by
  induction ps generalizing acc with
  | nil => rfl
  | cons q r ih => rw [setAll_cons, ih, setAt_length]

theorem setAll_untouched (ps : List (DField × FVal)) (acc : List FVal) (i : Nat) (h : i ∉ (ps.map Prod.fst).map (·.index)) :
    valAt (setAll ps acc) i = valAt acc i := by
  induction ps generalizing acc with
  | nil => rfl
  | cons q r ih =>
    simp only [List.map_cons, List.mem_cons, not_or] at h
    rw [setAll_cons, ih _ h.2, valAt_setAt_ne _ (Ne.symm h.1)]

theorem setAll_get (ps : List (DField × FVal)) (acc : List FVal) (h : IdxOk (ps.map Prod.fst) acc.length) :
    ∀ p ∈ ps, valAt (setAll ps acc) p.1.index = p.2 := by
  induction ps generalizing acc with
  | nil => intro p hp; cases hp
  | cons q r ih =>
    obtain ⟨hnd, hlt⟩ := h
    simp only [List.map_cons, List.nodup_cons] at hnd
    intro p hp
    rw [setAll_cons]
    cases hp with
    | head => rw [setAll_untouched r _ _ hnd.1, valAt_setAt_self _ (hlt q.1 List.mem_cons_self)]
    | tail _ hm => exact ih _ ⟨hnd.2, fun f hf => by rw [setAt_length]; exact hlt f (List.mem_cons_of_mem _ hf)⟩ p hm

theorem setAll_fixed (ps : List (DField × FVal)) (z : List FVal) (h : IdxOk (ps.map Prod.fst) z.length)
    (hcan : ∀ p ∈ ps, wellTyped p.1 p.2 = true ∧ canonF p.1 p.2 = p.2) :
    (∀ f ∈ ps.map Prod.fst, wellTyped f (valAt (setAll ps z) f.index) = true) ∧
      (ps.map Prod.fst).foldl (fun a f => setAt a f.index (canonF f (valAt (setAll ps z) f.index))) z = setAll ps z := by
  have hget := setAll_get ps z h
  constructor
  · intro f hf
    obtain ⟨p, hp, rfl⟩ := List.mem_map.mp hf
    rw [hget p hp]; exact (hcan p hp).1
  · rw [List.foldl_map]
    exact List.foldl_rel (r := Eq) rfl fun p hp _ _ e => by rw [e, hget p hp, (hcan p hp).2]

/-- **what `Read` returns is a fixed point of canonicalisation**: every field of the list read is well-typed, and setting every
    field to the canonical form of its own value gives the same list back -/
theorem readFields_fixed (fs : List DField) (z : List FVal) (buf : Bytes) (hidx : IdxOk fs z.length) :
    (∀ f ∈ fs, wellTyped f (valAt (readFields fs buf z) f.index) = true) ∧
      fs.foldl (fun a f => setAt a f.index (canonF f (valAt (readFields fs buf z) f.index))) z = readFields fs buf z := by
  have := setAll_fixed (fieldVals fs buf) z ((fieldVals_fst fs buf).symm ▸ hidx) (fieldVals_canonical fs buf)
  rwa [fieldVals_fst] at this

end Mav.Msg

#print axioms Mav.Msg.idxOk_filter
#print axioms Mav.Msg.zeroVals_length
