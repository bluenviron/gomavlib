import Mav.Proofs.LayoutLink
import Mav.Proofs.FastString
import Mav.Model.MsgCheck
import Mav.Gen.MsgsAll
/-
  The regenerated table of shipped message structs. For every struct, "is a definition in the specification's sense, with
  exported identifiers" already implies everything `layoutAgrees` asks (`layoutAgrees_of_definition`, from the theorems about
  every accepted struct), so that is all the kernel has to decide per struct.
-/
namespace Mav.Shipped
open Msg LayoutLink InitSound

theorem layoutAgrees_of_definition (st : GoStruct) (hd : (Spec.Msg.ofGo st).isSome = true)
    (hn : ∀ f ∈ st.fields, nameOk f) : layoutAgrees st = true := by
  obtain ⟨d, hd⟩ := Option.isSome_iff_exists.mp hd
  obtain ⟨rw, hi⟩ := definition_is_accepted st d hd
  obtain ⟨h1, h2, h3, h4⟩ := layout_agrees st rw d hi hd hn
  simp [layoutAgrees, hi, hd, h1, h2, h3, h4, accepted_never_wraps st rw hi]

def hasMsgPrefixFast (n : String) : Bool := "Message".toList.isPrefixOf (fastChars n) && suffixUpper ((fastChars n).drop 7)

theorem hasMsgPrefixFast_eq (n : String) : hasMsgPrefixFast n = hasMsgPrefix n := by
  rw [hasMsgPrefixFast, fastChars_eq, hasMsgPrefix]

/-- what the kernel decides per shipped struct -/
def shippedOk (st : GoStruct) : Bool :=
  hasMsgPrefixFast st.name && (match Spec.Msg.fieldsOfGo 0 st.fields with | some fs => fieldsOk fs | none => false) &&
  st.fields.all (fun f => suffixUpper (fastChars f.goName) || f.mavname != "")

theorem layoutAgrees_of_shippedOk (st : GoStruct) (h : shippedOk st = true) : layoutAgrees st = true := by
  simp only [shippedOk, Bool.and_eq_true, List.all_eq_true, Bool.or_eq_true, bne_iff_ne, ne_eq, hasMsgPrefixFast_eq,
    fastChars_eq, ← firstUpper_iff] at h
  obtain ⟨⟨hp, h2⟩, h3⟩ := h
  refine layoutAgrees_of_definition st ?_ (fun f hf hm => (h3 f hf).resolve_right (fun hne => hne hm))
  rw [ofGo_eq, hp]
  cases hf : Spec.Msg.fieldsOfGo 0 st.fields with
  | none => rw [hf] at h2; cases h2
  | some fs => rw [hf] at h2; simp [h2]

/-- every message struct defined under pkg/dialects is a definition whose layout the model and the guide agree on
    (the table is regenerated from the source on every run) -/
theorem all_layout : ∀ m ∈ Gen.allMsgs, layoutAgrees m.2.2 = true := by
  have h : Gen.allMsgs.all (fun m => shippedOk m.2.2) = true := by decide +kernel
  exact fun m hm => layoutAgrees_of_shippedOk _ (List.all_eq_true.mp h m hm)

end Mav.Shipped
