import Mav.Proofs.SortOrder
import Mav.Spec.Msg
/-
  The abstract ordering theorem (Mav/Proofs/SortOrder.lean) applied to the model of ReadWriter.Initialize and to the
  specification's wireOrder: the model's sort is `isort`, the specification's order is `specOrder`, each through its key.
-/
namespace Mav.SortLink
open Msg SortOrder

def projD (f : DField) : Item := ⟨f.index, f.isExt, (Gen.fieldTypeSizes f.ftype).toNat⟩
def projS (f : Spec.Msg.SField) : Item := ⟨f.idx, f.ext, Spec.Msg.tySize f.ty⟩

theorem less_proj (a b : DField) : Msg.less a b = lessK projD a b := by
  have h : ∀ x y : UInt8, (x == y) = (x.toNat == y.toNat) := fun x y => by
    rw [Bool.eq_iff_iff, beq_iff_eq, beq_iff_eq, UInt8.toNat_inj]
  unfold Msg.less lessK SortOrder.less projD
  simp only [bne, UInt8.lt_iff_toNat_lt, gt_iff_lt, h]

theorem sortFields_eq (l : List DField) : sortFields l = isort projD l := by
  have : Msg.insertBy = ins (lessK projD) := by
    funext x l
    induction l with
    | nil => rfl
    | cons y r ih => simp only [Msg.insertBy, ins, ih, less_proj]
  unfold sortFields isort; rw [this]

theorem stableSortDesc_eq (l : List Spec.Msg.SField) : Spec.Msg.stableSortDesc l = stable projS l := by
  have : (fun acc x => Spec.Msg.insertStable x acc) = fun acc x => ins (geK projS) x acc := by
    funext l x
    induction l with
    | nil => rfl
    | cons y r ih =>
      simp only [Spec.Msg.insertStable, ins, ih, geK, projS]
      by_cases hc : Spec.Msg.tySize y.ty ≥ Spec.Msg.tySize x.ty <;> simp only [hc, decide_true, decide_false, if_true, if_false,
        Bool.false_eq_true]
  unfold Spec.Msg.stableSortDesc stable; rw [this]

theorem wireOrder_eq (d : Spec.Msg.SDef) : Spec.Msg.wireOrder d = specOrder projS d.fields := by
  unfold Spec.Msg.wireOrder specOrder; rw [stableSortDesc_eq]; rfl

theorem sortFields_perm (l : List DField) : (sortFields l).Perm l := sortFields_eq l ▸ isort_perm projD l

theorem stableSortDesc_perm (l : List Spec.Msg.SField) : (Spec.Msg.stableSortDesc l).Perm l :=
  stableSortDesc_eq l ▸ stable_perm projS l

theorem wireOrder_filter_base (d : Spec.Msg.SDef) :
    (Spec.Msg.wireOrder d).filter (!·.ext) = Spec.Msg.stableSortDesc (d.fields.filter (!·.ext)) := by
  have h1 : (d.fields.filter (·.ext)).filter (!·.ext) = [] :=
    List.filter_eq_nil_iff.mpr fun x hx => by simp [(List.mem_filter.mp hx).2]
  unfold Spec.Msg.wireOrder
  rw [List.filter_append, h1, List.append_nil, List.filter_eq_self]
  exact fun x hx => (List.mem_filter.mp ((stableSortDesc_perm _).mem_iff.mp hx)).2

theorem order_agrees (g : DField → Spec.Msg.SField) (hg : ∀ d, projS (g d) = projD d) (n : String) (fs : List DField)
    (h : Declared projD fs) : (sortFields fs).map g = Spec.Msg.wireOrder ⟨n, fs.map g⟩ := by
  rw [wireOrder_eq, sortFields_eq]; exact isort_eq_spec projD projS g hg fs h

end Mav.SortLink
