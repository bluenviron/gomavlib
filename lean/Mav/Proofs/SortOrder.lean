/-
  Ordering of message fields: the model's sort (insertion with the comparator of `sort.Slice` in ReadWriter.Initialize) and
  the specification's (stable sort of the base fields by decreasing primitive size, extensions after them as declared)
  produce the same order, for every field list whose extensions come after its base fields.
  Generic setting: fields of any type `α`, seen through `key : α → Item` = (declaration index, extension?, primitive size);
  both sorts are folds of one insertion step `ins`.
-/
namespace Mav.SortOrder

structure Item where
  idx : Nat
  ext : Bool
  sz : Nat
deriving DecidableEq, Repr

/-- the comparator of ReadWriter.Initialize -/
def less (a b : Item) : Bool :=
  if !a.ext && !b.ext && a.sz != b.sz then decide (a.sz > b.sz) else decide (a.idx < b.idx)

/-! ### the comparator is a strict total order on the items of a well-formed struct -/

theorem less_iff (a b : Item) : less a b = true ↔
    (a.ext = false ∧ b.ext = false ∧ a.sz ≠ b.sz ∧ a.sz > b.sz) ∨
    ((a.ext = true ∨ b.ext = true ∨ a.sz = b.sz) ∧ a.idx < b.idx) := by
  unfold less
  cases a.ext <;> cases b.ext <;> by_cases h : a.sz = b.sz <;> simp [h]

theorem less_irrefl (a : Item) : less a a = false := by simp [less]

theorem less_asymm (a b : Item) (h : less a b = true) : less b a = false := by
  refine Bool.eq_false_iff.2 fun h' => ?_
  simp only [less_iff] at h h'
  rcases a with ⟨ia, _ | _, sa⟩ <;> rcases b with ⟨ib, _ | _, sb⟩ <;>
    simp only [eq_self, Bool.true_eq_false, Bool.false_eq_true, true_and, false_and, and_false, true_or,
      false_or] at h h' <;> omega

/-- `a` is declared before `b` in a well-formed struct: smaller index, and nothing but extensions follows an extension -/
def Before (a b : Item) : Prop := a.idx < b.idx ∧ (a.ext = true → b.ext = true)

/-- two distinct items of a well-formed struct -/
def Cmp (a b : Item) : Prop := Before a b ∨ Before b a

theorem less_total (a b : Item) (h : Cmp a b) : less a b = true ∨ less b a = true := by
  simp only [less_iff, Cmp, Before] at *
  rcases a with ⟨ia, _ | _, sa⟩ <;> rcases b with ⟨ib, _ | _, sb⟩ <;>
    simp only [eq_self, Bool.true_eq_false, Bool.false_eq_true, true_and, false_and, and_true, and_false, true_or, false_or,
      or_false, true_imp_iff, false_imp_iff] at * <;> omega

theorem less_trans (a b c : Item) (hab : Cmp a b) (hbc : Cmp b c) (hac : Cmp a c)
    (h1 : less a b = true) (h2 : less b c = true) : less a c = true := by
  simp only [less_iff, Cmp, Before] at *
  rcases a with ⟨ia, _ | _, sa⟩ <;> rcases b with ⟨ib, _ | _, sb⟩ <;> rcases c with ⟨ic, _ | _, sc⟩ <;>
    simp only [eq_self, Bool.true_eq_false, Bool.false_eq_true, true_and, false_and, and_true, and_false, true_or, false_or,
      or_false, true_imp_iff, false_imp_iff] at * <;> omega

/-- on base items in declaration order the comparator is the test of the stable insertion -/
theorem less_base (a b : Item) (h : Before a b) (ha : a.ext = false) (hb : b.ext = false) :
    less a b = decide (a.sz ≥ b.sz) := by
  rw [Bool.eq_iff_iff, less_iff, decide_eq_true_eq]
  simp only [ha, hb, eq_self, Bool.false_eq_true, true_and, false_or]
  have := h.1; omega

theorem less_ext (a b : Item) (h : Before a b) (hb : b.ext = true) : less a b = true := by
  rw [less_iff]; exact .inr ⟨.inr (.inl hb), h.1⟩

/-- the step of both sorts: `x` is put before the first `y` with `lt y x = false` -/
def ins {α} (lt : α → α → Bool) (x : α) : List α → List α
  | [] => [x]
  | y :: r => if lt y x then y :: ins lt x r else x :: y :: r

theorem ins_perm {α} (lt : α → α → Bool) (x : α) (l : List α) : (ins lt x l).Perm (x :: l) := by
  induction l with
  | nil => exact .refl _
  | cons y r ih =>
    simp only [ins]; split
    · exact (ih.cons y).trans (.swap x y r)
    · exact .refl _

theorem foldr_ins_perm {α} (lt : α → α → Bool) (l : List α) : (l.foldr (ins lt) []).Perm l := by
  induction l with
  | nil => exact .refl _
  | cons x r ih => exact (ins_perm lt x _).trans (ih.cons x)

theorem ins_pairwise {α} (R : α → α → Prop) (lt : α → α → Bool) (x : α) (l : List α) (hs : l.Pairwise R)
    (h1 : ∀ y ∈ l, lt y x = true → R y x) (h2 : ∀ y ∈ l, lt y x = false → R x y)
    (h3 : ∀ y ∈ l, ∀ z ∈ l, R x y → R y z → R x z) : (ins lt x l).Pairwise R := by
  induction l with
  | nil => exact List.pairwise_singleton R x
  | cons y r ih =>
    rw [List.pairwise_cons] at hs
    simp only [ins]; split
    next hc =>
      refine .cons (fun z hz => ?_) (ih hs.2 (fun z hz => h1 z (.tail _ hz)) (fun z hz => h2 z (.tail _ hz))
        fun z hz w hw => h3 z (.tail _ hz) w (.tail _ hw))
      rcases List.mem_cons.mp ((ins_perm lt x r).mem_iff.mp hz) with rfl | hz
      · exact h1 y (.head _) hc
      · exact hs.1 z hz
    next hc =>
      have hxy := h2 y (.head _) (Bool.eq_false_iff.2 hc)
      refine .cons (fun z hz => ?_) (.cons hs.1 hs.2)
      rcases List.mem_cons.mp hz with rfl | hz
      · exact hxy
      · exact h3 y (.head _) z (.tail _ hz) hxy (hs.1 z hz)

theorem pairwise_mem {α} {R : α → α → Prop} {l : List α} (h : l.Pairwise R) {a b : α} (ha : a ∈ l) (hb : b ∈ l) :
    a = b ∨ R a b ∨ R b a :=
  List.Pairwise.forall_of_forall_of_flip (R := fun a b => a = b ∨ R a b ∨ R b a) (fun _ _ => .inl rfl)
    (h.imp fun h => .inr (.inl h)) (h.imp fun h => .inr (.inr h)) ha hb

variable {α : Type} (key : α → Item)

def lessK (a b : α) : Bool := less (key a) (key b)
def geK (y x : α) : Bool := decide ((key y).sz ≥ (key x).sz)

def isort (l : List α) : List α := l.foldr (ins (lessK key)) []
def stable (l : List α) : List α := l.foldl (fun acc x => ins (geK key) x acc) []
def specOrder (l : List α) : List α :=
  stable key (l.filter (fun a => !(key a).ext)) ++ l.filter (fun a => (key a).ext)

def Declared (l : List α) : Prop := l.Pairwise (fun a b => Before (key a) (key b))

/-- folding `ins lt` sorts for the comparator, if `lt` is the comparator on the pairs it is asked about (a later item
    of the list against an earlier one) and these are items of one well-formed struct -/
theorem foldr_ins_sorted (lt : α → α → Bool) (l : List α)
    (h : l.Pairwise (fun x y => Cmp (key x) (key y) ∧ lt y x = lessK key y x)) :
    (l.foldr (ins lt) []).Pairwise (fun a b => lessK key a b = true) := by
  induction l with
  | nil => exact .nil
  | cons x r ih =>
    rw [List.pairwise_cons] at h
    have hm : ∀ y ∈ r.foldr (ins lt) [], y ∈ r := fun y => (foldr_ins_perm lt r).mem_iff.mp
    refine ins_pairwise _ lt x _ (ih h.2) (fun y hy hc => ?_) (fun y hy hc => ?_) (fun y hy z hz hxy hyz => ?_)
    · exact (h.1 y (hm y hy)).2.symm.trans hc
    · have hy' := h.1 y (hm y hy)
      exact (less_total _ _ hy'.1).resolve_right (ne_true_of_eq_false (hy'.2.symm.trans hc))
    · rcases pairwise_mem h.2 (hm y hy) (hm z hz) with rfl | c | c
      · exact hxy
      · exact less_trans _ _ _ (h.1 y (hm y hy)).1 c.1 (h.1 z (hm z hz)).1 hxy hyz
      · exact less_trans _ _ _ (h.1 y (hm y hy)).1 c.1.symm (h.1 z (hm z hz)).1 hxy hyz

theorem stable_eq (l : List α) : stable key l = l.reverse.foldr (ins (geK key)) [] := List.foldr_reverse.symm

theorem isort_perm (l : List α) : (isort key l).Perm l := foldr_ins_perm _ l

theorem stable_perm (l : List α) : (stable key l).Perm l :=
  stable_eq key l ▸ (foldr_ins_perm _ _).trans (List.reverse_perm l)

theorem specOrder_perm (l : List α) : (specOrder key l).Perm l :=
  ((stable_perm key _).append_right _).trans
    (List.perm_append_comm.trans (List.filter_append_perm (fun a => (key a).ext) l))

theorem isort_sorted (l : List α) (h : Declared key l) : (isort key l).Pairwise (fun a b => lessK key a b = true) :=
  foldr_ins_sorted key _ l (h.imp fun h => ⟨.inl h, rfl⟩)

theorem specOrder_sorted (l : List α) (h : Declared key l) :
    (specOrder key l).Pairwise (fun a b => lessK key a b = true) := by
  refine List.pairwise_append.2 ⟨?_, ?_, fun a ha b hb => ?_⟩
  · rw [stable_eq]
    refine foldr_ins_sorted key _ _ (List.pairwise_reverse.2 (List.pairwise_filter.2 (h.imp fun hab ha hb => ?_)))
    exact ⟨.inr hab, (less_base _ _ hab ((Bool.not_eq_true' _).mp ha) ((Bool.not_eq_true' _).mp hb)).symm⟩
  · exact List.pairwise_filter.2 (h.imp fun {a _} hab (_ : (key a).ext = true) hb => less_ext _ _ hab hb)
  · have ha := List.mem_filter.1 ((stable_perm key _).mem_iff.1 ha)
    have hb := List.mem_filter.1 hb
    have hae := (Bool.not_eq_true' _).mp ha.2
    rcases pairwise_mem h ha.1 hb.1 with rfl | c | c
    · exact nomatch hae.symm.trans hb.2
    · exact less_ext _ _ c hb.2
    · exact nomatch hae.symm.trans (c.2 hb.2)

theorem sorted_unique {l1 l2 : List α} (h1 : l1.Pairwise (fun a b => lessK key a b = true))
    (h2 : l2.Pairwise (fun a b => lessK key a b = true)) (hp : l1.Perm l2) : l1 = l2 :=
  hp.eq_of_pairwise (fun _ _ _ _ hab hba => nomatch (less_asymm _ _ hab).symm.trans hba) h1 h2

/-- **the model's order is the specification's**, also when the two work on different readings of the fields: if `g` keeps
    the keys and the fields are in declaration order, sorting and then reading through `g` is reading through `g` and then
    taking the specification's order -/
theorem isort_eq_spec {β : Type} (keyB : β → Item) (g : α → β) (hg : ∀ a, keyB (g a) = key a) (l : List α)
    (h : Declared key l) : (isort key l).map g = specOrder keyB (l.map g) := by
  have hk : ∀ a b, lessK keyB (g a) (g b) = lessK key a b := fun a b => by simp only [lessK, hg]
  refine sorted_unique keyB (List.pairwise_map.2 ?_) (specOrder_sorted keyB _ (List.pairwise_map.2 ?_))
    (((isort_perm key l).map g).trans (specOrder_perm keyB _).symm)
  · simp only [hk]; exact isort_sorted key l h
  · simp only [hg]; exact h

end Mav.SortOrder
