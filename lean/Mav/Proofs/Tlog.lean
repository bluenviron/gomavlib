import Mav.Model.Tlog
import Mav.Proofs.Reader
/- For C20: truncated division of a small numerator, the 8-byte big-endian packing read back by the reader's fold, and the
   entries `readEntry` returns: exactly 8 timestamp bytes followed by the spec bytes of a well-formed frame. -/
namespace Mav
open Spec Tlog

theorem tdiv_small (x : Int) (h1 : -1000000000 < x) (h2 : x < 1000000000) : x.tdiv 1000000000 = 0 := by
  by_cases hx : 0 ≤ x
  · exact Int.tdiv_eq_zero_of_lt hx h2
  · have : (-x).tdiv 1000000000 = 0 := Int.tdiv_eq_zero_of_lt (by omega) (by omega)
    rw [Int.neg_tdiv] at this
    omega

/-- the reader's fold over the eight bytes is `unLeN` of them in little-endian order, and `be64` is `leN 8` reversed -/
theorem be64_fold (x : UInt64) :
    (be64 x).foldl (fun (acc : UInt64) (b : UInt8) => (acc <<< (8 : UInt64)) ||| b.toUInt64) 0 = x := by
  rw [show be64 x = (Msg.leN 8 x).reverse from rfl, ← List.foldr_reverse, List.reverse_reverse]
  exact Msg.unLeN_leN 8 (by decide) x

theorem readEntry_entry_iff (cfg : RCfg) (hk : cfg.key = none) (hd : cfg.dialect = none) {s rest : Stream} {e : Int}
    {t : Int × Int} {f : Frame} :
    readEntry cfg s = (.entry e t f, rest) ↔
      ∃ ts : Bytes, ts.length = 8 ∧ e = int64OfBytes ts ∧ t = timeOfEpoch e ∧ WF f ∧
        s = bytesToItems ts ++ (bytesToItems (specBytes f) ++ rest) := by
  have hg := gates_plain cfg hk hd
  unfold readEntry
  constructor
  · intro h
    split at h
    · cases h
    · rename_i bs s1 hr
      obtain ⟨rfl, hlen⟩ := (readFull_reads 8).ok_iff.mp hr
      split at h
      · rename_i g s2 st' ho
        simp only [Prod.mk.injEq, RdRes.entry.injEq] at h
        obtain ⟨⟨rfl, rfl, rfl⟩, rfl⟩ := h
        obtain ⟨hwf, rfl, _⟩ := (readOne_frame_iff (hg _)).mp ho
        exact ⟨bs, hlen, rfl, rfl, hwf, rfl⟩
      · cases h
  · rintro ⟨ts, hlen, rfl, rfl, hwf, rfl⟩
    simp [(readFull_reads 8).ok_iff.mpr ⟨rfl, hlen⟩, (readOne_frame_iff (hg _)).mpr ⟨hwf, rfl, rfl⟩]

end Mav
