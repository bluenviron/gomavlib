import Mav.Spec.Writer
import Mav.Props.C01
import Mav.Proofs.X25
/- The stream writer against its specification (C09, C06). For one `Write` of a raw payload, `swFrame` names the frame the
   model builds; the model emits the spec bytes of that frame (through `C01.write_emits_spec`, the frame being well-formed on
   the domain), and the specification prescribes the same bytes. A decoded message is encoded first, on both sides alike. -/
namespace Mav
open Spec

/-- domain of the writer theorems -/
structure CfgOk (c : SWCfg) : Prop where
  ver : c.version = 1 ∨ c.version = 2
  comp : c.compId ≠ 0
  key : c.key.isSome → c.version = 2

theorem swInitialize_ok_iff (c c' : SWCfg) :
    swInitialize c = .ok c' ↔
      c.version ≠ 0 ∧ c.sysId ≠ 0 ∧ (c.key.isSome → c.version = 2) ∧
      { c with compId := if c.compId < 1 then 1 else c.compId } = c' := by
  unfold swInitialize
  by_cases hv : c.version = 0
  · simp [hv]
  by_cases hs : c.sysId = 0
  · simp [hv, hs]
  by_cases hk : c.key.isSome ∧ c.version ≠ 2
  · simp [hv, hs, hk.1, hk.2]
  · simp [hv, hs, hk]
    exact fun _ => Decidable.not_and_not_right.mp hk

theorem initialize_ok (c0 c : SWCfg) (h : swInitialize c0 = .ok c) (hv : c0.version ≤ 2) : CfgOk c := by
  obtain ⟨h1, _, h3, rfl⟩ := (swInitialize_ok_iff c0 c).mp h
  refine ⟨by simp only; omega, ?_, h3⟩
  simp only
  split
  · decide
  · rename_i hc; exact fun h0 => hc (h0 ▸ by decide)

/-- the frame `Write` builds around a raw payload: header from the configuration, checksum, and on a keyed link the
    signature block -/
def swFrame (H : Bytes → Bytes) (c : SWCfg) (seq : UInt8) (t : UInt64) (id : UInt32) (p : Bytes) (extra : UInt8) : Frame :=
  if c.version = 1 then
    let g : V1Frame := { seq := seq, sys := c.sysId, comp := c.compId, msg := .raw id p, crc := 0 }
    .v1 { g with crc := X25.sum (g.crcInput p ++ [extra]) }
  else
    let g : V2Frame := { incompat := if c.key.isSome then Gen.v2FlagSigned else 0, compat := 0, seq := seq, sys := c.sysId,
                         comp := c.compId, msg := .raw id p, crc := 0 }
    let g := { g with crc := X25.sum (g.crcInput p ++ [extra]) }
    match c.key with
    | none => .v2 g
    | some k =>
      let g := { g with linkId := c.linkId, ts := sigTicks t }
      .v2 { g with sig := some ((H (k ++ g.sigInput p)).take 6) }

theorem toNat_sigTicks (t : UInt64) : (sigTicks t).toNat = t.toNat / 10000 := by
  rw [sigTicks, UInt64.toNat_div]
  rfl

section
variable {H : Bytes → Bytes} {dd : UInt32 → Option WCodec} {c : SWCfg} {st : SWState} {count : Nat} {t : UInt64}
  {id : UInt32} {p : Bytes} {vals : List Msg.FVal} {codec : WCodec}

/-- `ht`: the count of 10 µs ticks fits 48 bits, true until 2104; `hbig`: the frame is not one a v1 link refuses -/
theorem swFrame_wf (hH : ∀ x, 6 ≤ (H x).length) (hc : CfgOk c) (ht : t.toNat < 2 ^ 48 * 10000) (hp : p.length ≤ 255)
    (hid : c.version = 2 → id < 0x1000000) (seq extra : UInt8) (hbig : ¬ (c.version = 1 ∧ id > 0xFF)) :
    WF (swFrame H c seq t id p extra) := by
  by_cases hv : c.version = 1
  · rw [swFrame, if_pos hv]
    exact wf_v1_iff.mpr ⟨id, p, rfl, UInt32.not_lt.mp fun h => hbig ⟨hv, h⟩, hp⟩
  · have hid := hid (hc.ver.resolve_left hv)
    have hts : sigTicks t < 0x1000000000000 := by
      rw [UInt64.lt_iff_toNat_lt, toNat_sigTicks]
      simp
      omega
    rw [swFrame, if_neg hv]
    cases c.key with
    | none => exact wf_v2_iff.mpr ⟨id, p, rfl, hid, hp, .inl ⟨rfl, rfl, rfl, rfl⟩⟩
    | some k =>
      exact wf_v2_iff.mpr ⟨id, p, rfl, hid, hp, .inr ⟨rfl, hts, _, rfl, List.length_take.trans (Nat.min_eq_left (hH _))⟩⟩

theorem swWrite_raw_eq (hd : dd id = some codec)
    (hwf : ¬ (c.version = 1 ∧ id > 0xFF) → WF (swFrame H c st.nextSeq t id p codec.crcExtra)) :
    swWrite H (some dd) c st t (.raw id p) =
      if c.version = 1 ∧ id > 0xFF then (st, .error .v1Id)
      else ({ nextSeq := st.nextSeq + 1 }, .ok (specBytes (swFrame H c st.nextSeq t id p codec.crcExtra))) := by
  by_cases hbig : c.version = 1 ∧ id > 0xFF
  · simp [swWrite, hbig.1, hbig.2, hd, Msg.id, encodeInFrame, Frame.msg, Frame.genChecksum, frameWrite, Frame.marshal]
  · have hw := C01.write_emits_spec _ (hwf hbig) (some dd)
    rw [if_neg hbig]
    -- in each shape of the frame (v1; v2 unsigned or signed), `swWrite` unfolds to `frameWrite` of it
    by_cases hv : c.version = 1
    · simp only [swFrame, hv, if_true] at hw ⊢
      simp only [swWrite, Msg.id, hd, hv, if_true, encodeInFrame, Frame.msg, Frame.genChecksum, hw]
    · cases hk : c.key <;> simp only [swFrame, hv, hk, if_false] at hw ⊢ <;>
        simp only [swWrite, Msg.id, hd, hv, hk, if_false, encodeInFrame, Frame.msg, Frame.genChecksum, V2Frame.genSignature, hw]

/-- the frame is built with the specification's "component id 1 when unset" -/
theorem spec_swWrite_raw (hd : dd id = some codec) :
    Spec.swWrite H (some dd) c count t (.raw id p) =
      if c.version = 1 ∧ id > 0xFF then (count, .error .v1Id)
      else (count + 1, .ok (specBytes (swFrame H { c with compId := if c.compId = 0 then 1 else c.compId }
        (UInt8.ofNat (count % 256)) t id p codec.crcExtra))) := by
  by_cases hv : c.version = 1
  · by_cases hid : id > 0xFF
    · simp [Spec.swWrite, hd, Msg.id, hv, hid]
    · simp [Spec.swWrite, swFrame, hd, Msg.id, hv, hid, specBytes, v1Bytes, V1Frame.crcInput, ← x25_sum_eq_crc16, lenByte]
  · cases hk : c.key with
    | none =>
      simp [Spec.swWrite, swFrame, hd, Msg.id, hv, hk, specBytes, v2Bytes, V2Frame.crcInput, ← x25_sum_eq_crc16, lenByte,
        uint24Encode_eq_le24]
    | some k =>
      simp [Spec.swWrite, swFrame, hd, Msg.id, hv, hk, specBytes, v2Bytes, V2Frame.crcInput, ← x25_sum_eq_crc16, lenByte,
        uint24Encode_eq_le24, uint48Encode_eq_le48, V2Frame.sigInput, Gen.v2MagicByte, Gen.v2FlagSigned, ← toNat_sigTicks]

theorem swWrite_raw (hH : ∀ x, 6 ≤ (H x).length) (hc : CfgOk c) (hseq : st.nextSeq = UInt8.ofNat (count % 256))
    (ht : t.toNat < 2 ^ 48 * 10000) (hp : p.length ≤ 255) (hid : c.version = 2 → id < 0x1000000) (hd : dd id = some codec) :
    (swWrite H (some dd) c st t (.raw id p)).2 = (Spec.swWrite H (some dd) c count t (.raw id p)).2 ∧
    (swWrite H (some dd) c st t (.raw id p)).1.nextSeq = UInt8.ofNat ((Spec.swWrite H (some dd) c count t (.raw id p)).1 % 256) := by
  rw [swWrite_raw_eq hd (swFrame_wf hH hc ht hp hid _ _), spec_swWrite_raw hd, if_neg hc.comp, hseq]
  split
  · exact ⟨rfl, hseq⟩
  · -- the counter: `(count % 256 : UInt8) + 1 = (count + 1) % 256`
    refine ⟨rfl, UInt8.toNat_inj.mp ?_⟩
    simp

theorem swWrite_dec (hv : c.version = 1 ∨ c.version = 2) (hd : dd id = some codec) :
    swWrite H (some dd) c st t (.dec id vals) =
      match codec.encode (c.version != 1) vals with
      | .panic => (st, .error .panic)
      | .ok p => swWrite H (some dd) c st t (.raw id p) := by
  -- `simp [hv] at he` evaluates the version test in `he`, as `simp` does in the goal
  rcases hv with hv | hv <;> cases he : codec.encode (c.version != 1) vals <;> simp [hv] at he <;>
    simp [swWrite, hv, hd, Msg.id, encodeInFrame, Frame.msg, Frame.isV2, Frame.setMsg, he]

theorem spec_swWrite_dec (hd : dd id = some codec) :
    Spec.swWrite H (some dd) c count t (.dec id vals) =
      match codec.encode (c.version != 1) vals with
      | .panic => (count, .error .panic)
      | .ok p => Spec.swWrite H (some dd) c count t (.raw id p) := by
  cases he : codec.encode (c.version != 1) vals <;> simp only [Spec.swWrite, hd, Msg.id, he]
  rfl

end

theorem spec_swWrite_cases (H : Bytes → Bytes) (d : WDialect) (c : SWCfg) (n : Nat) (t : UInt64) (m : Mav.Msg) :
    (∃ e, Spec.swWrite H d c n t m = (n, .error e)) ∨ (∃ bs, Spec.swWrite H d c n t m = (n + 1, .ok bs)) := by
  cases d with
  | none => exact .inl ⟨_, rfl⟩
  | some dd =>
    cases hd : dd m.id with
    | none => exact .inl ⟨.notInDialect, by simp [Spec.swWrite, hd]⟩
    | some codec =>
      have raw : ∀ id p, dd id = some codec →
          (∃ e, Spec.swWrite H (some dd) c n t (.raw id p) = (n, .error e)) ∨
          (∃ bs, Spec.swWrite H (some dd) c n t (.raw id p) = (n + 1, .ok bs)) := by
        intro id p hd
        rw [spec_swWrite_raw hd]
        split
        · exact .inl ⟨_, rfl⟩
        · exact .inr ⟨_, rfl⟩
      cases m with
      | raw id p => exact raw id p hd
      | dec id v =>
        rw [spec_swWrite_dec (id := id) hd]
        cases codec.encode (c.version != 1) v with
        | panic => exact .inl ⟨_, rfl⟩
        | ok p => exact raw id p hd

/-- the messages the theorems quantify over: payload (given or produced by the codec) of at most 255 bytes,
    id representable in 24 bits on a v2 link -/
def MsgOk (dd : UInt32 → Option WCodec) (c : SWCfg) : Mav.Msg → Prop
  | .raw id p => p.length ≤ 255 ∧ (c.version = 2 → id < 0x1000000)
  | .dec id vals => (c.version = 2 → id < 0x1000000) ∧
      ∀ codec p, dd id = some codec → codec.encode (c.version != 1) vals = .ok p → p.length ≤ 255

theorem swWrite_refines (H : Bytes → Bytes) (hH : ∀ x, 6 ≤ (H x).length) (d : WDialect) (c : SWCfg) (hc : CfgOk c)
    (st : SWState) (count : Nat) (hseq : st.nextSeq = UInt8.ofNat (count % 256)) (t : UInt64) (ht : t.toNat < 2 ^ 48 * 10000)
    (m : Mav.Msg) (hm : ∀ dd, d = some dd → MsgOk dd c m) :
    (swWrite H d c st t m).2 = (Spec.swWrite H d c count t m).2 ∧
    (swWrite H d c st t m).1.nextSeq = UInt8.ofNat ((Spec.swWrite H d c count t m).1 % 256) := by
  cases d with
  | none => simp [swWrite, Spec.swWrite, hseq]
  | some dd =>
    have hm := hm dd rfl
    cases hd : dd m.id with
    | none => simp [swWrite, Spec.swWrite, hd, hseq]
    | some codec =>
      cases m with
      | raw id p => exact swWrite_raw hH hc hseq ht hm.1 hm.2 hd
      | dec id vals =>
        simp only [Msg.id] at hd
        rw [swWrite_dec hc.ver hd, spec_swWrite_dec hd]
        cases he : codec.encode (c.version != 1) vals with
        | panic => simp [hseq]
        | ok p => exact swWrite_raw hH hc hseq ht (hm.2 codec p hd he) hm.1 hd
end Mav
