import Mav.Spec.Crc
import Mav.Model.X25
/-
  The model's byte step of X25 (`Gen.x25Step`, regenerated from pkg/x25: a few shifts and xors of the 16-bit state, no loop) is
  one byte of the bitwise reference CRC (`Spec.crcByte`: eight conditional shift-and-xor steps). Both split the same way. The
  bit step is xor-linear (`crcBit_xor`), so the reference on state `c` and byte `b` is its value on the high byte of `c`, which
  eight steps only shift down (`hi_part`), xor its value on the byte `low c ^^^ b` (`crcByte_split`); the model step has the
  same shape (`stepB_split`); and the two agree on the 256 values of that byte (`lo_part`, by evaluation).
-/
namespace Mav
open Spec

theorem xor_cancel (a b p : BitVec 16) : a ^^^ p ^^^ b ^^^ p = a ^^^ b := by
  rw [BitVec.xor_assoc a p b, BitVec.xor_comm p b, ← BitVec.xor_assoc, BitVec.xor_assoc (a ^^^ b),
    BitVec.xor_self, BitVec.xor_zero]

theorem crcBit_xor (x y : BitVec 16) : crcBit (x ^^^ y) = crcBit x ^^^ crcBit y := by
  unfold crcBit
  simp only [BitVec.getLsbD_xor, BitVec.ushiftRight_xor_distrib]
  cases x.getLsbD 0 <;> cases y.getLsbD 0 <;> simp
  · ac_rfl
  · ac_rfl
  · rw [← BitVec.xor_assoc]; exact (xor_cancel _ _ _).symm

theorem crcBit8_xor (x y : BitVec 16) : crcBit8 (x ^^^ y) = crcBit8 x ^^^ crcBit8 y := by
  simp only [crcBit8, crcBit_xor]

theorem crcBit_shr (y : BitVec 16) (k : Nat) (h : y.getLsbD k = false) : crcBit (y >>> k) = y >>> (k + 1) := by
  simp [crcBit, h, BitVec.shiftRight_add]

theorem hi_part (h : BitVec 8) : crcBit8 (h.zeroExtend 16 <<< 8) = h.zeroExtend 16 := by
  have hz : ∀ k, k < 8 → (h.zeroExtend 16 <<< 8).getLsbD k = false := by
    intro k hk; simp [hk]
  have e : h.zeroExtend 16 <<< 8 = (h.zeroExtend 16 <<< 8) >>> 0 := by simp
  rw [crcBit8, e, crcBit_shr _ 0 (hz 0 (by omega)), crcBit_shr _ 1 (hz 1 (by omega)), crcBit_shr _ 2 (hz 2 (by omega)),
    crcBit_shr _ 3 (hz 3 (by omega)), crcBit_shr _ 4 (hz 4 (by omega)), crcBit_shr _ 5 (hz 5 (by omega)),
    crcBit_shr _ 6 (hz 6 (by omega)), crcBit_shr _ 7 (hz 7 (by omega))]
  apply BitVec.eq_of_getLsbD_eq; intro i hi
  by_cases h8 : i < 8
  · simp [h8, hi]; omega
  · simp [hi]; intro hh; exact absurd (h.getLsbD_of_ge i (by omega)) (by simp [hh])

theorem shr8_setWidth (c : BitVec 16) : ((c >>> 8).setWidth 8).setWidth 16 = c >>> 8 := by
  apply BitVec.eq_of_getLsbD_eq; intro i hi
  simp only [BitVec.getLsbD_setWidth, BitVec.getLsbD_ushiftRight]
  by_cases h : i < 8
  · simp [h, hi]
  · have : 16 ≤ 8 + i := by omega
    simp [h, BitVec.getLsbD_of_ge _ _ this]

theorem hi_lo (c : BitVec 16) : c = ((c >>> 8).setWidth 8).setWidth 16 <<< 8 ^^^ (c.setWidth 8).setWidth 16 := by
  apply BitVec.eq_of_getLsbD_eq; intro i hi
  by_cases h : i < 8
  · simp [h, hi]
  · have e : 8 + (i - 8) = i := by omega
    have : i - 8 < 8 := by omega
    simp [h, hi, e, this]

theorem crcByte_split (c : BitVec 16) (b : BitVec 8) :
    crcByte c b = (c >>> 8) ^^^ crcBit8 ((c.setWidth 8 ^^^ b).setWidth 16) := by
  have h : c ^^^ b.setWidth 16 = ((c >>> 8).setWidth 8).setWidth 16 <<< 8 ^^^ (c.setWidth 8 ^^^ b).setWidth 16 := by
    rw [BitVec.setWidth_xor, ← BitVec.xor_assoc, ← hi_lo]
  unfold crcByte
  rw [BitVec.zeroExtend_eq_setWidth, h, crcBit8_xor]
  have := hi_part ((c >>> 8).setWidth 8)
  rw [BitVec.zeroExtend_eq_setWidth] at this
  rw [this, shr8_setWidth]

/-- the model's byte step, on bit vectors -/
def stepBV (c : BitVec 16) (b : BitVec 8) : BitVec 16 :=
  (Gen.x25Step ⟨c⟩ ⟨b⟩).toBitVec

/-- `Gen.x25Step` written out on bit vectors (`stepBV_eq`): what the lemmas below are about; `stepBV` only carries it to the
    statement of `x25_step_eq_ref` -/
def stepB (c : BitVec 16) (b : BitVec 8) : BitVec 16 :=
  let t := (b.setWidth 16 ^^^ (c &&& 0xFF#16))
  let t2 := (t ^^^ t <<< 4) &&& 0xFF#16
  (c >>> 8) ^^^ (t2 <<< 8) ^^^ (t2 <<< 3) ^^^ (t2 >>> 4)

theorem stepBV_eq (c : BitVec 16) (b : BitVec 8) : stepBV c b = stepB c b := by
  simp [stepBV, Gen.x25Step, stepB]

theorem and_ff (c : BitVec 16) : c &&& 0xFF#16 = (c.setWidth 8).setWidth 16 := by
  change c &&& (BitVec.allOnes 8).setWidth 16 = _
  apply BitVec.eq_of_getLsbD_eq; intro i hi
  simp only [BitVec.getLsbD_and, BitVec.getLsbD_setWidth, BitVec.getLsbD_allOnes]
  by_cases h : i < 8 <;> simp [h, hi]

theorem stepB_split (c : BitVec 16) (b : BitVec 8) :
    stepB c b = (c >>> 8) ^^^ stepB 0 (c.setWidth 8 ^^^ b) := by
  have h : b.setWidth 16 ^^^ (c &&& 0xFF#16) = (c.setWidth 8 ^^^ b).setWidth 16 := by
    rw [and_ff, BitVec.setWidth_xor, BitVec.xor_comm]
  simp [stepB, h]
  ac_rfl

-- `+kernel`: plain `decide` first evaluates the 256 cases in the elaborator, at several times the kernel's cost
theorem lo_part : ∀ t : BitVec 8, crcBit8 (t.setWidth 16) = stepB 0 t := by decide +kernel

theorem x25_step_eq_ref (c : BitVec 16) (b : BitVec 8) : stepBV c b = crcByte c b := by
  rw [stepBV_eq, stepB_split, crcByte_split, lo_part]

theorem x25_write_eq (bs : Bytes) (c : UInt16) :
    (X25.write c bs).toBitVec = bs.foldl (fun c b => crcByte c b.toBitVec) c.toBitVec :=
  (List.foldl_hom UInt16.toBitVec fun c b => (x25_step_eq_ref c.toBitVec b.toBitVec).symm).symm

theorem x25_sum_eq_crc16 (bs : Bytes) : (X25.sum bs).toBitVec = crc16 bs := by
  simp [X25.sum, crc16, x25_write_eq, X25.init, crcInit]

-- case analysis on a bit index below 16; not called by any proof
macro "cases16 " i:ident : tactic =>
  `(tactic| (
    have hcases : $i = 0 ∨ $i = 1 ∨ $i = 2 ∨ $i = 3 ∨ $i = 4 ∨ $i = 5 ∨ $i = 6 ∨ $i = 7 ∨
      $i = 8 ∨ $i = 9 ∨ $i = 10 ∨ $i = 11 ∨ $i = 12 ∨ $i = 13 ∨ $i = 14 ∨ $i = 15 := by omega
    rcases hcases with h|h|h|h|h|h|h|h|h|h|h|h|h|h|h|h <;> subst h))

end Mav
