import Mav.Proofs.Frame
import Mav.Proofs.Reader
/-
  C01 — frame wire format and round trip.
  Domain: `Spec.WF` (v1: id ≤ 255; v2: id < 2^24, incompat ∈ {0,1} with the signature block present
  iff incompat = 1, ts < 2^48, 6-byte signature; payload 0..255 bytes, every header byte arbitrary).
-/
namespace Mav.C01
open Spec

/-- The writer's scratch buffer holds the largest well-formed frame (10 + 255 + 2 + 13). -/
theorem buffer_fits : 10 + 255 + 2 + 13 ≤ Gen.bufferSize := by decide

/-- **C01 (layout).** For every well-formed frame the marshalled bytes are exactly the spec layout. -/
theorem marshal_eq_spec (f : Frame) (h : WF f) : f.marshal Gen.bufferSize = .ok (specBytes f) := by
  cases f with
  | v1 g =>
    obtain ⟨seq, sys, comp, msg, crc⟩ := g
    obtain ⟨id, p, rfl, hid, hp⟩ := wf_v1_iff.mp h
    have hid' : ¬ id > 0xFF := by simpa using hid
    -- run `marshal`: every write fits the buffer (`simp only` computes the lengths, `omega` compares)
    simp (disch := simp only [List.length_append, List.length_cons, List.length_nil, le16] <;> omega)
      only [Frame.marshal, Gen.bufferSize, if_neg hid', putInto_fits, copyInto_fits]
    rfl
  | v2 g =>
    obtain ⟨ic, c, seq, sys, comp, msg, crc, link, ts, sig⟩ := g
    -- unsigned or signed (the signature block's write is discharged in both: `simp` visits both arms of `if g.isSigned`
    -- before deciding it)
    obtain ⟨id, p, rfl, hid, hp, ⟨rfl, rfl, rfl, rfl⟩ | ⟨rfl, hts, s, rfl, hs⟩⟩ := wf_v2_iff.mp h <;>
    · simp (disch := simp only [List.length_append, List.length_cons, List.length_nil, le16, uint24Encode,
          Gen.uint24Encode, uint48Encode, Gen.uint48Encode] <;> omega)
        only [Frame.marshal, Gen.bufferSize, putInto_fits, copyInto_fits, V2Frame.isSigned, Gen.v2FlagSigned]
      -- what was written is the spec layout, bracketed differently
      simp only [specBytes, v2Bytes, List.append_assoc, List.append_nil]
      rfl

/-- a reader without key and dialect -/
def plainCfg (H : Bytes → Bytes) : RCfg := { H := H }

theorem read_marshal (H : Bytes → Bytes) (f : Frame) (h : WF f) (rest : Stream) (st : RState) :
    readOne (plainCfg H) st (bytesToItems (specBytes f) ++ rest) = (.frame f, rest, st) :=
  (readOne_frame_iff (gates_plain _ rfl rfl st)).mpr ⟨h, rfl, rfl⟩

/-- **C01 (refusal).** A v1 frame whose id exceeds 255 is refused; nothing is emitted
    (`frameWrite` returns an error, no bytes), whatever the buffer size. -/
theorem v1_big_id_refused (g : V1Frame) (id : UInt32) (p : Bytes) (hm : g.msg = .raw id p) (h : id > 0xFF) (cap : Nat) :
    (Frame.v1 g).marshal cap = .errV1Id ∧ frameWrite none (.v1 g) = .error .v1Id := by
  obtain ⟨seq, sys, comp, msg, crc⟩ := g
  simp at hm; subst hm
  simp [Frame.marshal, h, frameWrite, encodeInFrame, Frame.msg]

/-- **C01 (single write).** A successful `frameWrite` of a well-formed frame emits exactly its spec bytes. -/
theorem write_emits_spec (f : Frame) (h : WF f) (d : WDialect) : frameWrite d f = .ok (specBytes f, f) := by
  obtain ⟨id, p, hm⟩ := wf_raw h
  simp [frameWrite, encodeInFrame, hm, marshal_eq_spec f h]

/- non-vacuity: concrete well-formed frames (a signed v2 frame with a 255-byte payload, id 2^24-1;
    a v1 frame with id 255) satisfy the hypotheses. -/
set_option maxRecDepth 20000 in
example : WF (.v2 { incompat := 1, compat := 7, seq := 255, sys := 0, comp := 254, msg := .raw 0xFFFFFF (List.replicate 255 0xFD),
                     crc := 0xBEEF, linkId := 9, ts := 0xFFFFFFFFFFFF, sig := some [1, 2, 3, 4, 5, 6] }) :=
  wf_v2_iff.mpr ⟨_, _, rfl, by decide, by simp, .inr ⟨rfl, by decide, _, rfl, rfl⟩⟩
example : WF (.v1 { seq := 1, sys := 2, comp := 3, msg := .raw 255 [], crc := 0 }) :=
  wf_v1_iff.mpr ⟨_, _, rfl, by decide, by decide⟩

end Mav.C01
