import Mav.Proofs.CrcDetect
import Mav.Proofs.Gates
/-
  C02 — checksum gate.
  Model: `X25.sum` over `Gen.x25Step` (regenerated from pkg/x25/x25.go), `Frame.genChecksum`, the reader's `dialectGate`;
  Spec: `Spec.crc16` (Mav/Spec/Crc.lean, bit by bit) over `Spec.crcInput` (Mav/Spec/Frame.lean).
  The algorithm theorems are those of Mav/Proofs/X25.lean. The gate theorems are cases of the one decision list
  `dialectGate_eq` (Mav/Proofs/Gates.lean): the checksum it compares, `Frame.sum`, is the spec's CRC (`Frame.sum_spec`).
  A damaged byte is caught because the per-byte state map of the CRC is a bijection (Mav/Proofs/CrcDetect.lean).
-/
namespace Mav.C02
open Spec

/-- **C02 (algorithm).** The per-byte step of `x25.Write` (regenerated from /repo) is one byte of the bitwise
    reflected CRC with polynomial 0x8408 — for all 2^16 states and 2^8 bytes. -/
theorem x25_step_eq_ref (c : UInt16) (b : UInt8) : (Gen.x25Step c b).toBitVec = crcByte c.toBitVec b.toBitVec :=
  Mav.x25_step_eq_ref c.toBitVec b.toBitVec

/-- **C02 (algorithm).** `X25` over any byte string equals CRC-16/MCRF4XX ("X.25" in MAVLink; init 0xFFFF, no final xor). -/
theorem x25_eq_crc16 (bs : Bytes) : (X25.sum bs).toBitVec = crc16 bs := x25_sum_eq_crc16 bs

/-- the running hash may be fed in pieces -/
theorem x25_split (c : UInt16) (a b : Bytes) : X25.write (X25.write c a) b = X25.write c (a ++ b) :=
  (X25.write_append c a b).symm

theorem x25_reset : X25.init = 0xFFFF := rfl

/-- **C02 (coverage).** The frame checksum is the CRC over length..payload followed by CRC_EXTRA. -/
theorem checksum_eq_spec (f : Frame) (id : UInt32) (p : Bytes) (hm : f.msg = .raw id p) (extra : UInt8) :
    ∃ s, f.genChecksum extra = .ok s ∧ s.toBitVec = crc16 (crcInput f ++ [extra]) :=
  ⟨_, genChecksum_raw hm extra, Frame.sum_spec hm extra⟩

/-- **C02 (gate).** With a dialect containing the frame's id, the reader's dialect gate delivers a frame
    exactly when the carried checksum equals the CRC (with that message's CRC_EXTRA) and the payload decodes (and the
    decoded value re-encodes — always true of a consistent codec, C04); a checksum mismatch is reported as the
    non-fatal parse error `crcWrong`, nothing delivered. -/
theorem gate_iff (cfg : RCfg) (d : UInt32 → Option Codec) (hd : cfg.dialect = some d) (ho : cfg.specWindow = false)
    (f : Frame) (id : UInt32) (p : Bytes) (hm : f.msg = .raw id p) (c : Codec) (hc : d id = some c) :
    ((∃ g, dialectGate cfg f = .frame g) ↔
      (f.crc.toBitVec = crc16 (crcInput f ++ [c.crcExtra]) ∧
        ∃ v p', c.decode f.isV2 p = .ok v ∧ c.encode f.isV2 v = .ok p')) ∧
    (f.crc.toBitVec ≠ crc16 (crcInput f ++ [c.crcExtra]) → dialectGate cfg f = .perr .crcWrong) := by
  simp only [← Frame.sum_spec hm, dialectGate_eq, hd, hm, hc, ho, Bool.false_eq_true, false_and, if_false]
  by_cases hcrc : f.sum p c.crcExtra = f.crc
  · simp only [hcrc, ne_eq, not_true_eq_false, if_false, true_and, false_imp_iff, and_true]
    cases c.decode f.isV2 p with
    | errSize => simp
    | panic => simp
    | ok v => cases he : c.encode f.isV2 v <;> simp [he]
  · have : f.crc.toBitVec ≠ (f.sum p c.crcExtra).toBitVec := fun h => hcrc (UInt16.toBitVec_inj.mp h.symm)
    simp [hcrc, this]

/-- an id outside the dialect passes through undecoded (no CRC_EXTRA is known for it) -/
theorem gate_unknown_id (cfg : RCfg) (d : UInt32 → Option Codec) (hd : cfg.dialect = some d)
    (f : Frame) (id : UInt32) (p : Bytes) (hm : f.msg = .raw id p) (hc : d id = none) :
    dialectGate cfg f = .frame f := by
  simp [dialectGate_eq, hd, hm, hc]

/-- **C02 (a damaged frame is never delivered).** Two frames with the same carried checksum whose CRC-covered bytes
    (length, header, message id, payload) differ in exactly one byte — any number of bits of it — cannot both pass: if the
    original carried the right checksum, the damaged one is reported as `crcWrong`. (Damage to the checksum bytes themselves
    is the trivial case: the carried value changes while the computed one does not.) -/
theorem one_damaged_byte_refused (cfg : RCfg) (d : UInt32 → Option Codec) (hd : cfg.dialect = some d) (ho : cfg.specWindow = false)
    (f f' : Frame) (id : UInt32) (p p' : Bytes) (hm : f.msg = .raw id p) (hm' : f'.msg = .raw id p') (c : Codec) (hc : d id = some c)
    (pre post : Bytes) (x x' : UInt8) (hx : x ≠ x')
    (hin : crcInput f = pre ++ x :: post) (hin' : crcInput f' = pre ++ x' :: post)
    (hsame : f'.crc = f.crc) (hgood : f.crc.toBitVec = crc16 (crcInput f ++ [c.crcExtra])) :
    dialectGate cfg f' = .perr .crcWrong := by
  apply (gate_iff cfg d hd ho f' id p' hm' c hc).2
  rw [hsame, hgood, hin, hin']
  have := Spec.crc16_one_byte pre (post ++ [c.crcExtra]) x x' hx
  simpa [List.append_assoc] using this

end Mav.C02
