import Mav.Gen.Consts
import Mav.Proofs.PayloadLink
import Mav.Proofs.FastCrc
/-
  C03 — payload layout, sizes and CRC_EXTRA.
  `layoutAgrees st` (Mav/Model/MsgCheck.lean) says: the MODEL of `ReadWriter.Initialize` accepts `st`, `st` is in the
  SPEC's domain (name `Message…`, extensions after base fields, arrays 1..255, total ≤ 255 bytes), wire order,
  base/extended sizes and CRC_EXTRA computed by the model equal those the serialization guide derives, and the byte-wide sizes
  the model stores are what its fields consume (`Msg.rwOkB`, the hypothesis of the C04 theorems as a Bool).
-/
namespace Mav.C03

/-- **C03 (tables).** The code's size and type-name tables (regenerated from pkg/message) are the guide's. -/
theorem sizes_table (t : Gen.FType) : (Gen.fieldTypeSizes t).toNat = Spec.Msg.tySize t := InitField.sizes_tbl t

theorem names_table (t : Gen.FType) : Gen.fieldTypeString t = Spec.Msg.tyName t := InitField.names_tbl t

/-- **C03 (field order, for every struct).** Not only for the shipped definitions: whenever `Initialize` accepts a struct and the
    struct is a MAVLink definition in the specification's sense (extensions declared after the base fields), the model
    puts the fields on the wire in the specification's order — base fields by decreasing primitive size, declaration order
    within a size, then the extensions as declared. The model's sort is insertion with the comparator of the Go code; the
    comparator is proved to be a strict total order on such structs, so ANY correct sort (Go's `sort.Slice` included) yields
    this same order (`SortOrder.sorted_unique`). -/
theorem wire_order_universal (st : Msg.GoStruct) (rw : Msg.RW) (d : Spec.Msg.SDef)
    (h1 : Msg.init st = .ok rw) (h2 : Spec.Msg.ofGo st = some d) :
    rw.fields.map (·.index) = (Spec.Msg.wireOrder d).map (·.idx) := InitSound.wire_order_agrees st rw d h1 h2

def firstUpperB (s : String) : Bool := match s.toList with | c :: _ => Msg.isUpper c | [] => false

/-- identifiers of the struct are exported Go identifiers: the type name after `Message` and every field name that is not
    overridden by a `mavname` tag begin with a letter A-Z (decidable form of `LayoutLink.firstUpper` / `nameOk`) -/
def exportedB (st : Msg.GoStruct) : Bool :=
  firstUpperB (Msg.msgSuffix st.name) && st.fields.all (fun f => f.mavname != "" || firstUpperB f.goName)

theorem firstUpperB_iff (s : String) : firstUpperB s = true ↔ LayoutLink.firstUpper s := (LayoutLink.firstUpper_iff s).symm

theorem exportedB_iff (st : Msg.GoStruct) : exportedB st = true ↔
    LayoutLink.firstUpper (Msg.msgSuffix st.name) ∧ ∀ f ∈ st.fields, LayoutLink.nameOk f := by
  simp only [exportedB, Bool.and_eq_true, List.all_eq_true, Bool.or_eq_true, bne_iff_ne, firstUpperB_iff, LayoutLink.nameOk,
    ne_eq, ← Decidable.imp_iff_not_or]

/-- **C03 (sizes and CRC_EXTRA, for every struct).** Whenever `Initialize` accepts a struct, the struct is a MAVLink definition in
    the specification's sense (`Spec.Msg.ofGo`: name `Message…`, extensions after the base fields, array lengths 1..255, at most
    255 bytes) and its identifiers are exported, then the field order, the base and the extended payload size and the CRC_EXTRA
    the model of `Initialize` computes — byte-wide size arithmetic, `sort.Slice` comparator, X25 over the run-time's name
    conversion — are exactly those the serialization guide derives from the definition. No enumeration: any struct, any number
    of fields. -/
theorem layout_universal (st : Msg.GoStruct) (rw : Msg.RW) (d : Spec.Msg.SDef)
    (h1 : Msg.init st = .ok rw) (h2 : Spec.Msg.ofGo st = some d) (hx : exportedB st = true) :
    rw.fields.map (·.index) = (Spec.Msg.wireOrder d).map (·.idx) ∧
    rw.sizeNormal.toNat = Spec.Msg.sizeBase d ∧ rw.sizeExtended.toNat = Spec.Msg.sizeExt d ∧
    rw.crcExtra.toNat = Spec.Msg.crcExtra d :=
  LayoutLink.layout_agrees st rw d h1 h2 ((exportedB_iff st).mp hx).2

/-- **C03 (payload bytes, for every struct).** For every struct `Initialize` accepts that is a definition in the specification's
    sense, every assignment of well-typed values and both protocol versions: the bytes the model of `ReadWriter.Write` produces
    are exactly the bytes the serialization guide prescribes (`Spec.Msg.encode`, written from the guide): fields in wire order,
    scalars little-endian, arrays element by element, strings cut / NUL-padded to their declared length, enum fields at their
    declared wire width; in version 2 trailing zero bytes removed but never below one byte, in version 1 the base fields only. -/
theorem payload_bytes_universal (st : Msg.GoStruct) (rw : Msg.RW) (d : Spec.Msg.SDef)
    (h1 : Msg.init st = .ok rw) (h2 : Spec.Msg.ofGo st = some d) (vals : List Msg.FVal)
    (hw : ∀ f ∈ rw.fields, Msg.wellTyped f (Msg.valAt vals f.index) = true) (isV2 : Bool) :
    Msg.encode rw isV2 vals = .ok (Spec.Msg.encode d isV2 vals) :=
  PayloadLink.encode_eq_spec st rw d h1 h2 vals hw isV2

/-- **C03 (decoding reads the same layout, for every struct and every payload).** For every struct `Initialize` accepts that is a
    definition, both versions and EVERY payload (any length, any bytes): the model of `ReadWriter.Read` returns what the
    serialization guide prescribes (`Spec.Msg.decode`) — a short version-2 payload zero-extended to the extended size, each field
    taken at its offset in wire order, scalars little-endian, arrays element by element, strings cut at the first NUL; in
    version 1 exactly the base payload length or a size error. (`isS rw i`: whether struct field i is a Go string — the one fact
    about the Go type the wire does not carry.) -/
theorem decoding_universal (st : Msg.GoStruct) (rw : Msg.RW) (d : Spec.Msg.SDef)
    (h1 : Msg.init st = .ok rw) (h2 : Spec.Msg.ofGo st = some d) (isV2 : Bool) (payload : Bytes) :
    Msg.decode rw isV2 payload = DecodeLink.ofSpecRes (Spec.Msg.decode d (DecodeLink.isS rw) isV2 payload) :=
  DecodeLink.decode_eq_spec st rw d h1 h2 isV2 payload

/-- **C03 (sizes, no hypothesis on identifiers).** -/
theorem sizes_universal (st : Msg.GoStruct) (rw : Msg.RW) (d : Spec.Msg.SDef)
    (h1 : Msg.init st = .ok rw) (h2 : Spec.Msg.ofGo st = some d) :
    rw.sizeExtended.toNat = Spec.Msg.sizeExt d ∧ rw.sizeNormal.toNat = Spec.Msg.sizeBase d :=
  InitSound.sizes_eq st rw d h1 h2

/-- an instance: a HEARTBEAT value, version 2 -/
example : (Msg.init Gen.m_minimal_MessageHeartbeat).toOption.bind (fun rw =>
      match Msg.encode rw true [.num [6], .num [8], .num [0x81], .num [0x01020304], .num [4], .num [3]] with
      | .ok p => some p | .panic => none) =
    (Spec.Msg.ofGo Gen.m_minimal_MessageHeartbeat).map (fun d =>
      Spec.Msg.encode d true [.num [6], .num [8], .num [0x81], .num [0x01020304], .num [4], .num [3]]) := by
  decide +kernel

/-- the hypotheses are satisfiable: the standard heartbeat meets all three -/
example : (Msg.init Gen.m_minimal_MessageHeartbeat).toOption.isSome = true ∧
    (Spec.Msg.ofGo Gen.m_minimal_MessageHeartbeat).isSome = true ∧ exportedB Gen.m_minimal_MessageHeartbeat = true := by
  decide +kernel

/-- why `exportedB` is needed: the run-time's conversion drops the first character of an identifier that does not begin with a
    capital letter (`regexp ([A-Z]) → _$1`, then `[1:]`), the documented convention does not — an unexported field is outside the
    property's domain (reflection cannot set it) -/
example : Msg.fieldGoToDef "fooBar" = "oo_bar" ∧ Spec.Msg.snakeLower "fooBar" = "foo_bar" := by decide

/-- without "extensions after base fields" the comparator of the Go code is not transitive (a base field declared after an
    extension): the result of `sort.Slice` would be unspecified; the specification's domain excludes such structs -/
example : SortOrder.less ⟨0, false, 1⟩ ⟨1, true, 1⟩ = true ∧ SortOrder.less ⟨1, true, 1⟩ ⟨2, false, 8⟩ = true ∧
    SortOrder.less ⟨0, false, 1⟩ ⟨2, false, 8⟩ = false := by decide

/-- **C03 (every shipped definition; enumerated, kernel-decided).** For each of the message structs defined under
    pkg/dialects (regenerated from the source on every run) layout, sizes and CRC_EXTRA of the model equal the spec's. -/
theorem shipped_layout_agrees : ∀ m ∈ Gen.allMsgs, layoutAgrees m.2.2 = true := Shipped.all_layout

/-- anchors pinned by the repository itself (node_heartbeat.go / node_stream_request.go): HEARTBEAT 50, REQUEST_DATA_STREAM 148 -/
theorem heartbeat_crc_extra :
    (Spec.Msg.ofGo Gen.m_minimal_MessageHeartbeat).map Spec.Msg.crcExtra = some Gen.heartbeatCRC := by
  rw [Fast.crcExtraFast_eq]; decide +kernel

theorem request_data_stream_crc_extra :
    (Spec.Msg.ofGo Gen.m_common_MessageRequestDataStream).map Spec.Msg.crcExtra = some Gen.requestDataStreamCRC := by
  rw [Fast.crcExtraFast_eq]; decide +kernel

/-- the bare `char` of the test dialect: not an array, CRC_EXTRA 103 as published with the C library's test dialect -/
theorem test_types_crc_extra :
    (Msg.init Gen.m_test_MessageTestTypes).toOption.map (·.crcExtra) = some 103 := by
  decide +kernel

end Mav.C03
