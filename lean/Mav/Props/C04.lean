import Mav.Proofs.InitIdx
import Mav.Proofs.Shipped
/-
  C04 — message round trip, truncation, extensions.
  Model: Mav/Model/Msg.lean (`ReadWriter.Write` = encode, `ReadWriter.Read` = decode), for ANY message layout `rw` whose sizes
  agree with its fields (`RWok`: true of every layout `Initialize` produces — theorem `accepted_struct_usable` below, since `fix: reject at
  initialization the message structs that cannot be encoded`; the 408 shipped definitions are among them, `shipped_layouts_ok`). All
  theorems are for every layout, every value assignment and every payload, not for the shipped types only.
  Not in Lean: that the decoder never writes to the caller's buffer (Go slice aliasing) — decided by the harness on poisoned
  backing arrays.
-/
namespace Mav.C04
open Msg

/-- **C04 (fails only with an error, never a panic).** Every payload, of any length, in both versions. -/
theorem decode_never_panics (rw : RW) (hok : RWok rw) (isV2 : Bool) (payload : Bytes) : decode rw isV2 payload ≠ .panic := by
  cases isV2 with
  | true => rw [decode_v2 rw hok]; simp
  | false => rw [decode_v1 rw hok]; split <;> simp

/-- **C04 (v1 accepts only the exact base payload length).** -/
theorem v1_exact_length (rw : RW) (payload : Bytes) :
    decode rw false payload = .errSize ↔ payload.length ≠ rw.sizeNormal.toNat := by
  simp only [decode, Bool.false_eq_true, if_false]
  by_cases h : payload.length ≠ rw.sizeNormal.toNat
  · simp [h]
  · cases decFields (rw.fields.filter (fun f => !f.isExt)) payload (zeroVals rw) <;> simp [h, resOf]

/-- **C04 (any number of zero bytes appended).** -/
theorem zero_extension_invariant (rw : RW) (hok : RWok rw) (p : Bytes) (k : Nat) :
    decode rw true (p ++ replicateZ k) = decode rw true p := by
  rw [decode_v2 rw hok, decode_v2 rw hok, window_append_zeros]

/-- **C04 (any number of trailing zero bytes removed).** Two payloads that differ by trailing zeros decode alike. -/
theorem zero_truncation_invariant (rw : RW) (hok : RWok rw) (p q : Bytes) (j k : Nat) (h : p ++ replicateZ j = q ++ replicateZ k) :
    decode rw true p = decode rw true q := by
  rw [← zero_extension_invariant rw hok p j, h, zero_extension_invariant rw hok q k]

/-- **C04 (unknown trailing bytes are ignored).** -/
theorem trailing_bytes_ignored (rw : RW) (hok : RWok rw) (p extra : Bytes) (h : rw.sizeExtended.toNat ≤ p.length) :
    decode rw true (p ++ extra) = decode rw true p := by
  rw [decode_v2 rw hok, decode_v2 rw hok, window_of_le _ p h, window_of_le _ _ (by rw [List.length_append]; omega),
    List.take_append_of_le_length h]

/-- **C04 (the encoder strips trailing zeros, never below one byte).** -/
theorem strip_shape (buf : Bytes) : (∃ k, buf = removeEmptyBytes buf ++ replicateZ k) ∧ (buf ≠ [] → 1 ≤ (removeEmptyBytes buf).length) :=
  ⟨strip_is_zero_suffix buf, fun h => by cases buf with | nil => exact absurd rfl h | cons b r => simp [removeEmptyBytes]⟩

/-- … and what it strips does not change what is decoded -/
theorem stripped_decodes_alike (rw : RW) (hok : RWok rw) (full : Bytes) :
    decode rw true (removeEmptyBytes full) = decode rw true full := by
  rw [decode_v2 rw hok, decode_v2 rw hok, window_strip]

/-- every field's value has the shape of the field -/
def WellTyped (rw : RW) (vals : List FVal) : Prop := ∀ f ∈ rw.fields, wellTyped f (valAt vals f.index) = true

/-- canonical form of a whole message in version 2: every field set to the canonical form of its value -/
def canonV2 (rw : RW) (vals : List FVal) : List FVal :=
  rw.fields.foldl (fun a f => setAt a f.index (canonF f (valAt vals f.index))) (zeroVals rw)

/-- … in version 1: base fields only, extension fields stay at their zero value -/
def canonV1 (rw : RW) (vals : List FVal) : List FVal :=
  (rw.fields.filter (fun f => !f.isExt)).foldl (fun a f => setAt a f.index (canonF f (valAt vals f.index))) (zeroVals rw)

/-- **C04 (round trip, version 2).** For every layout and every well-typed value assignment: the encoder succeeds, and decoding
    what it produced — trailing zeros stripped — returns the canonical form (numbers reduced to their wire width, floats being
    bit patterns untouched, strings cut at the declared length or the first NUL). -/
theorem roundtrip_v2 (rw : RW) (hok : RWok rw) (vals : List FVal) (hw : WellTyped rw vals) :
    ∃ p, encode rw true vals = .ok p ∧ decode rw true p = .ok (canonV2 rw vals) := by
  have hlen := (writeFields_length vals rw.fields hw).trans hok.ext
  refine ⟨_, (encode_v2 rw vals).trans (if_pos hlen), ?_⟩
  rw [stripped_decodes_alike rw hok, decode_v2 rw hok, window_self _ _ hlen, readFields_writeFields vals _ hw]
  rfl

/-- version 1 needs only the BASE fields to be well-typed: the extension fields are not sent -/
theorem roundtrip_v1_base (rw : RW) (hok : RWok rw) (vals : List FVal)
    (hw' : ∀ f ∈ rw.fields.filter (fun f => !f.isExt), wellTyped f (valAt vals f.index) = true) :
    ∃ p, encode rw false vals = .ok p ∧ p.length = rw.sizeNormal.toNat ∧ decode rw false p = .ok (canonV1 rw vals) := by
  have hlen := (writeFields_length vals _ hw').trans hok.base
  refine ⟨_, (encode_v1 rw vals).trans (if_pos hlen), hlen, ?_⟩
  rw [decode_v1 rw hok, if_neg (by simp [hlen]), readFields_writeFields vals _ hw']
  rfl

/-- **C04 (round trip, version 1).** Extension fields are not sent and come back as zero. -/
theorem roundtrip_v1 (rw : RW) (hok : RWok rw) (vals : List FVal) (hw : WellTyped rw vals) :
    ∃ p, encode rw false vals = .ok p ∧ p.length = rw.sizeNormal.toNat ∧ decode rw false p = .ok (canonV1 rw vals) :=
  roundtrip_v1_base rw hok vals (fun f hf => hw f (List.mem_filter.mp hf).1)

/-- the canonical form is a fixed point of canonicalisation (`canonF_idem`, for every value; that re-encoding what was decoded
    gives it back is `C08.recode`) -/
theorem canon_idempotent_num (f : DField) (xs : List UInt64) (h : xs.length = nElems f) :
    canonF f (canonF f (.num xs)) = canonF f (.num xs) :=
  let _ := h
  canonF_idem f _

/-- **C04 (the theorems apply to every struct `Initialize` accepts).** Whatever struct the model of `Initialize` accepts, its
    layout satisfies `RWok`; so decoding any payload never panics and encoding any well-typed value succeeds and decodes to its
    canonical form, in both versions — no struct fails at first use. -/
theorem accepted_struct_usable (st : GoStruct) (rw : RW) (h : Msg.init st = .ok rw) :
    RWok rw ∧ (∀ isV2 payload, decode rw isV2 payload ≠ .panic) ∧
    (∀ vals, WellTyped rw vals → ∃ p, encode rw true vals = .ok p ∧ decode rw true p = .ok (canonV2 rw vals)) ∧
    (∀ vals, WellTyped rw vals → ∃ p, encode rw false vals = .ok p ∧ p.length = rw.sizeNormal.toNat ∧
      decode rw false p = .ok (canonV1 rw vals)) := by
  have hok := InitSound.accepted_rwOk st rw h
  exact ⟨hok, fun isV2 payload => decode_never_panics rw hok isV2 payload, fun vals hw => roundtrip_v2 rw hok vals hw,
    fun vals hw => roundtrip_v1 rw hok vals hw⟩

/-- **C04 (the theorems apply to every shipped message type).** For each of the 408 message structs of the 19 shipped dialects
    (regenerated from the source on every run), the layout `Initialize` computes satisfies the hypothesis `RWok`. -/
theorem shipped_layouts_ok : ∀ m ∈ Gen.allMsgs, ∃ rw, Msg.init m.2.2 = .ok rw ∧ RWok rw := by
  intro m hm
  cases h : Msg.init m.2.2 with
  | ok rw => exact ⟨rw, rfl, InitSound.accepted_rwOk _ rw h⟩
  | error e => have := Shipped.all_layout m hm; simp [layoutAgrees, h] at this

/-- non-vacuity: a two-field layout (uint16 then a 3-byte string), values with bits above the width and an over-long string -/
def demoRW : RW :=
  { fields := [{ isEnum := false, ftype := .uint16, name := "a", arrayLength := 0, isArray := false, index := 1, isExt := false, goIsArray := false, goArrLen := 0 },
               { isEnum := false, ftype := .char, name := "s", arrayLength := 3, isArray := true, index := 0, isExt := false, goIsArray := false, goArrLen := 0 }],
    sizeNormal := 5, sizeExtended := 5, crcExtra := 0, nfields := 2 }

example : RWok demoRW := rwOk_of_bool _ (by decide)

example : encode demoRW true [.str [65, 66, 0, 67], .num [0x12345]] = .ok [0x45, 0x23, 65, 66] ∧
    decode demoRW true [0x45, 0x23, 65, 66] = .ok [.str [65, 66], .num [0x2345]] := by decide

end Mav.C04
