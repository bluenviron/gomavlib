import Mav.Props.C01
import Mav.Proofs.Gates
/-
  C05 — the frame reader is total, makes progress and resynchronises.
  The model is the *flat* semantics (bytes and positioned one-shot transport errors; end of list = EOF).
  Independence of the chunking is carried by TIE-D (every stream is read under several chunkings by the
  real bufio-based reader and compared with this flat model) — see DESIGN.md, C05 `partial`.
-/
namespace Mav.C05
open Spec

/-- **C05 (totality).** `readOne` is a total function whose result is a frame, a non-fatal parse error or the
    transport's own error; the `panic` outcome only arises from the dialect gate (excluded for the codecs `Initialize`
    yields in C05b: decoding never panics, `C04.decode_never_panics`, and what was decoded encodes again, `C08.recode`).
    Without a dialect it never arises. -/
theorem no_panic_without_dialect (cfg : RCfg) (hd : cfg.dialect = none) (st : RState) (s : Stream) :
    (readOne cfg st s).1 ≠ .panic :=
  readOne_no_panic cfg st s fun f _ => by simp [dialectGate_eq, hd]

/-- **C05 (progress).** A call either finds the stream empty (and reports EOF, consuming nothing) or consumes
    at least one item — a byte, or the transport error it reports. -/
theorem progress (cfg : RCfg) (st : RState) (s : Stream) :
    (s = [] ∧ readOne cfg st s = (.terr .eof, [], st)) ∨ (readOne cfg st s).2.1.length < s.length :=
  readOne_progress cfg st s

/-- **C05 (bounded calls).** A stream of n items is exhausted in at most n+1 calls: with fuel n+1 `readAll`
    ends with the EOF report (it is never cut off by the fuel). -/
theorem readAll_terminates (cfg : RCfg) (st : RState) (s : Stream) (fuel : Nat) (h : s.length < fuel) :
    (readAll cfg fuel st s).getLast? = some (.terr .eof) ∧ (readAll cfg fuel st s).length ≤ s.length + 1 := by
  induction fuel generalizing st s with
  | zero => omega
  | succ n ih =>
    rcases readOne_progress cfg st s with ⟨hs, he⟩ | hlt
    · subst hs
      simp [readAll, he]
    · unfold readAll
      split
      · simp
      · rename_i r s' st' hne heq
        rw [heq] at hlt
        simp at hlt
        obtain ⟨h1, h2⟩ := ih st' s' (by omega)
        exact ⟨by simp [List.getLast?_cons, h1], by simp; omega⟩

/-- **C05 (frames correspond to consumed bytes).** Without key and dialect, whenever a call returns a frame, the frame is
    well-formed and the items consumed by that call are exactly the frame's spec bytes — nothing more, nothing less;
    the reader state is untouched. (Converse of `C01.read_marshal`.) -/
theorem frame_matches_consumed (H : Bytes → Bytes) (st st' : RState) (s rest : Stream) (f : Frame)
    (h : readOne (C01.plainCfg H) st s = (.frame f, rest, st')) :
    WF f ∧ s = bytesToItems (specBytes f) ++ rest ∧ st' = st :=
  (readOne_frame_iff (gates_plain _ rfl rfl st)).mp h

/-- what junk bytes yield: one `badMagic` parse error each -/
def junkErrs (j : Bytes) : List RRes := j.map (fun b => RRes.perr (.badMagic b))

def mkStream : List (Bytes × Frame) → Bytes
  | [] => []
  | (j, f) :: r => j ++ specBytes f ++ mkStream r

def expected : List (Bytes × Frame) → List RRes
  | [] => [.terr .eof]
  | (j, f) :: r => junkErrs j ++ [.frame f] ++ expected r

theorem readAll_junk (H : Bytes → Bytes) (j : Bytes) (hj : ∀ b ∈ j, b ≠ Gen.v1MagicByte ∧ b ≠ Gen.v2MagicByte)
    (rest : Stream) (st : RState) (fuel : Nat) :
    readAll (C01.plainCfg H) (j.length + fuel) st (bytesToItems j ++ rest) =
      junkErrs j ++ readAll (C01.plainCfg H) fuel st rest := by
  induction j with
  | nil => simp [junkErrs]
  | cons b r ih =>
    have hb := hj b (by simp)
    have hr : ∀ x ∈ r, x ≠ Gen.v1MagicByte ∧ x ≠ Gen.v2MagicByte := fun x hx => hj x (by simp [hx])
    have : (b :: r).length + fuel = (r.length + fuel) + 1 := by simp; omega
    rw [this]
    simp only [bytesToItems_cons, List.cons_append, readAll, readOne_eq, unmarshal, hb.1, hb.2, if_false]
    simp [junkErrs] at ih ⊢
    exact ih hr

/-- **C05 (valid streams yield every frame).** A stream made of well-formed frames, each preceded by junk bytes that are
    not frame markers, yields — in order — one `badMagic` parse error per junk byte and then the frame, for every frame,
    and finally EOF. Unbounded in the number of frames and in the amount of junk. -/
theorem resync (H : Bytes → Bytes) (l : List (Bytes × Frame))
    (hl : ∀ jf ∈ l, WF jf.2 ∧ ∀ b ∈ jf.1, b ≠ Gen.v1MagicByte ∧ b ≠ Gen.v2MagicByte) (st : RState)
    (fuel : Nat) (hfuel : (mkStream l).length < fuel) :
    readAll (C01.plainCfg H) fuel st (bytesToItems (mkStream l)) = expected l := by
  induction l generalizing fuel with
  | nil =>
    cases fuel with
    | zero => omega
    | succ n => simp [mkStream, expected, readAll, readOne_eq]
  | cons jf r ih =>
    obtain ⟨j, f⟩ := jf
    have h0 := hl (j, f) (by simp)
    have hr : ∀ x ∈ r, WF x.2 ∧ ∀ b ∈ x.1, b ≠ Gen.v1MagicByte ∧ b ≠ Gen.v2MagicByte :=
      fun x hx => hl x (List.mem_cons_of_mem _ hx)
    have hpos : 1 ≤ (specBytes f).length := by
      obtain ⟨t, ht⟩ := specBytes_cons h0.1
      simp [ht]
    simp only [mkStream, List.length_append] at hfuel
    obtain ⟨fuel2, hf2⟩ : ∃ k, fuel = j.length + (k + 1) := ⟨fuel - j.length - 1, by omega⟩
    subst hf2
    simp only [mkStream, bytesToItems_append, List.append_assoc]
    rw [readAll_junk H j h0.2]
    simp only [expected, List.append_assoc]
    congr 1
    rw [readAll, C01.read_marshal H f h0.1]
    simp only [List.singleton_append, List.cons.injEq, true_and]
    exact ih hr fuel2 (by omega)

end Mav.C05
