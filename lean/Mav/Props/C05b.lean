import Mav.Props.C08
/-
  C05 — the reader never panics, WITH a dialect: for a dialect whose codecs are those of message structs `Initialize` accepts
  (every dialect that initialises, C17), no byte stream makes `Read` panic. Apart from the rest of C05 because it rests on
  `C08.recode` (what was decoded can be encoded again), and C08 on C05.
-/
namespace Mav.C05
open Spec

/-- a codec that cannot make the reader panic: decoding is total, and what it decodes can be encoded again -/
def NoPanic (c : Codec) : Prop :=
  (∀ isV2 p, c.decode isV2 p ≠ .panic) ∧ (∀ isV2 p v, c.decode isV2 p = .ok v → c.encode isV2 v ≠ .panic)

theorem accepted_no_panic (st : Msg.GoStruct) (rw : Msg.RW) (h : Msg.init st = .ok rw) : NoPanic (C08.codecOf rw) := by
  have hok := InitSound.accepted_rwOk st rw h
  refine ⟨fun isV2 p => C04.decode_never_panics rw hok isV2 p, ?_⟩
  intro isV2 p v hdec
  obtain ⟨q, hq, _⟩ := C08.recode rw hok (InitSound.accepted_idx_ok st rw h) isV2 p v hdec
  exact fun hp => Msg.EncRes.noConfusion (hq.symm.trans hp)

theorem gate_no_panic (cfg : RCfg) (hw : cfg.specWindow = false)
    (hacc : ∀ d, cfg.dialect = some d → ∀ id c, d id = some c → NoPanic c)
    (f : Frame) (id : UInt32) (p : Bytes) (hm : f.msg = .raw id p) : dialectGate cfg f ≠ .panic := by
  cases hd : cfg.dialect with
  | none => simp [dialectGate_eq, hd]
  | some d =>
    cases hc : d id with
    | none => simp [dialectGate_eq, hd, hm, hc]
    | some c =>
      obtain ⟨hdecnp, hencnp⟩ := hacc d hd id c hc
      simp only [dialectGate_eq, hd, hm, hc, hw, Bool.false_eq_true, if_false]
      split
      · simp
      · cases hdec : c.decode f.isV2 p with
        | errSize => simp
        | panic => exact absurd hdec (hdecnp _ _)
        | ok vals =>
          cases henc : c.encode f.isV2 vals with
          | panic => exact absurd henc (hencnp _ _ _ hdec)
          | ok p' => simp [henc]

/-- **C05 (never panics, with a dialect).** For a reader whose dialect holds the codecs of message structs `Initialize` accepts —
    which is every dialect that initialises (`C17.dialect_init_iff`) — no stream, however malformed, makes `Read` panic: every
    call returns a frame, a parse error or the transport's error. -/
theorem no_panic_with_accepted_dialect (cfg : RCfg) (hw : cfg.specWindow = false)
    (hacc : ∀ d, cfg.dialect = some d → ∀ id c, d id = some c → ∃ st rw, Msg.init st = .ok rw ∧ c = C08.codecOf rw)
    (st : RState) (s : Stream) : (readOne cfg st s).1 ≠ .panic := by
  have hnp : ∀ d, cfg.dialect = some d → ∀ id c, d id = some c → NoPanic c := by
    intro d hd id c hc
    obtain ⟨st0, rw, hi, rfl⟩ := hacc d hd id c hc
    exact accepted_no_panic st0 rw hi
  refine readOne_no_panic cfg st s fun f hwf => ?_
  obtain ⟨id, p, hm⟩ := wf_raw hwf
  exact gate_no_panic cfg hw hnp f id p hm

end Mav.C05
