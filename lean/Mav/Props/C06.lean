import Mav.Proofs.Writer
import Mav.Proofs.Gates
/-
  C06 — link signing. Generic in the hash `H` (SHA-256 in the code).
-/
namespace Mav.C06

/-- **C06 (signed bytes).** The hash input after the key is the 0xFD header, payload, checksum (LE),
    link id and 48-bit timestamp (LE) — i.e. the frame's wire bytes up to the signature. -/
theorem sigInput_spec (f : V2Frame) (p : Bytes) :
    f.sigInput p = [0xFD, UInt8.ofNat p.length, f.incompat, f.compat, f.seq, f.sys, f.comp] ++ le24 f.msg.id ++ p
      ++ le16 f.crc ++ [f.linkId] ++ le48 f.ts := by
  simp [V2Frame.sigInput, Gen.v2MagicByte, lenByte, uint24Encode_eq_le24, uint48Encode_eq_le48]

/-- **C06 (gate).** With an incoming key the signature gate accepts exactly v2 frames that carry a signature equal
    to the first 6 bytes of H(key ‖ sigInput) and are not refused by the replay window; the three refusals are
    distinct non-fatal parse errors. -/
theorem keyed_accept_iff (cfg : RCfg) (key : Bytes) (hk : cfg.key = some key) (hw : cfg.specWindow = false)
    (st : RState) (f : Frame) :
    (∃ st', sigGate cfg st f = .ok st') ↔
      ∃ g id p sg, f = .v2 g ∧ g.msg = .raw id p ∧ g.sig = some sg ∧
        sg = (cfg.H (key ++ g.sigInput p)).take 6 ∧ windowRefuse st.cur g.ts = false := by
  simp only [sigGate_eq, hk, hw, Bool.false_eq_true, if_false]
  constructor
  · -- down the decision list: every leaf but the last is a refusal
    rintro ⟨st', h⟩
    split at h
    · cases h
    · rename_i g
      split at h
      · cases h
      · cases h
      · rename_i sg id p hs hm
        split at h
        · cases h
        · split at h
          · cases h
          · rename_i h1 h2
            exact ⟨g, id, p, sg, rfl, hm, hs, Decidable.not_not.mp h1, Bool.eq_false_iff.mpr h2⟩
  · rintro ⟨g, id, p, sg, rfl, hm, hs, rfl, hr⟩
    simp [hm, hs, hr]

theorem v1_refused (cfg : RCfg) (key : Bytes) (hk : cfg.key = some key) (st : RState) (g : V1Frame) :
    sigGate cfg st (.v1 g) = .error .sigNotV2 := by simp [sigGate_eq, hk]

theorem unsigned_refused (cfg : RCfg) (key : Bytes) (hk : cfg.key = some key) (st : RState) (g : V2Frame)
    (h : g.sig = none) : sigGate cfg st (.v2 g) = .error .sigMissing := by simp [sigGate_eq, hk, h]

theorem mismatch_refused (cfg : RCfg) (key : Bytes) (hk : cfg.key = some key) (hw : cfg.specWindow = false) (st : RState) (g : V2Frame)
    (id : UInt32) (p sg : Bytes) (hm : g.msg = .raw id p) (hs : g.sig = some sg)
    (h : sg ≠ (cfg.H (key ++ g.sigInput p)).take 6) : sigGate cfg st (.v2 g) = .error .sigWrong := by
  simp [sigGate_eq, hk, hm, hs, h]

/-- without a key nothing is checked -/
theorem no_key_passes (cfg : RCfg) (hk : cfg.key = none) (st : RState) (f : Frame) : sigGate cfg st f = .ok st := by
  simp [sigGate_eq, hk]

/-- **C06 (writers sign correctly).** A stream writer configured with an outgoing key emits, for every accepted
    message of the domain, a frame with the signed flag, the link's link id, the 10 µs timestamp of the call and a
    signature equal to the first 6 bytes of H(key ‖ everything before the signature). -/
theorem writer_signs (H : Bytes → Bytes) (hH : ∀ x, 6 ≤ (H x).length) (dd : UInt32 → Option WCodec) (c : SWCfg) (hc : CfgOk c)
    (k : Bytes) (hk : c.key = some k) (st : SWState) (count : Nat) (hseq : st.nextSeq = UInt8.ofNat (count % 256))
    (t : UInt64) (ht : t.toNat < 2 ^ 48 * 10000) (id : UInt32) (p : Bytes) (hp : p.length ≤ 255) (hid : id < 0x1000000)
    (codec : WCodec) (hd : dd id = some codec) :
    ∃ crc : UInt16,
      let pre := [0xFD, UInt8.ofNat p.length, 1, 0, UInt8.ofNat (count % 256), c.sysId, c.compId] ++ le24 id ++ p ++ le16 crc
                  ++ [c.linkId] ++ le48 (UInt64.ofNat (t.toNat / 10000))
      (swWrite H (some dd) c st t (.raw id p)).2 = .ok (pre ++ (H (k ++ pre)).take 6) := by
  have hv : c.version = 2 := hc.key (by simp [hk])
  rw [(swWrite_refines H hH (some dd) c hc st count hseq t ht (.raw id p) fun _ _ => ⟨hp, fun _ => hid⟩).1]
  refine ⟨UInt16.ofBitVec (Spec.crc16 ([UInt8.ofNat p.length, 1, 0, UInt8.ofNat (count % 256), c.sysId, c.compId] ++ le24 id ++ p ++ [codec.crcExtra])), ?_⟩
  simp [Spec.swWrite, hd, Msg.id, hv, hk, hc.comp]

end Mav.C06
