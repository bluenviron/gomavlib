import Mav.Props.C05
import Mav.Props.C04
/-
  C08 — routing transparency. Without a dialect a frame that was read is written back as the very bytes that were consumed:
  C05's `frame_matches_consumed` (they are the spec bytes of a well-formed frame) with C01's `write_emits_spec`. With a dialect
  the reader decodes and the writer encodes again, so the bytes may change (zeros truncated, bytes after a NUL gone); what
  stays is that the next hop accepts the frame and returns the same decoded frame. Of the codec that needs `CodecConsistent`
  only — what was decoded encodes to at most 255 bytes that decode to the same —, and `recode` proves it for every struct
  `Initialize` accepts: what `Read` returns is well-typed and canonical already (`Msg.readFields_fixed`), so the round trip of
  C04 gives it back unchanged.
-/
namespace Mav.C08
open Spec

/-- **C08 (no dialect: byte identity).** A frame read without a dialect and written unchanged is emitted as exactly the
    bytes that were consumed when it was read — for every frame the reader can return, so checksums and signatures
    (which are part of those bytes) survive. Version, flags, sequence number, system and component id are fields of
    those bytes. -/
theorem forward_raw_identity (H : Bytes → Bytes) (st st' : RState) (s rest : Stream) (f : Frame)
    (h : readOne (C01.plainCfg H) st s = (.frame f, rest, st')) :
    ∃ consumed, s = bytesToItems consumed ++ rest ∧ frameWrite none f = .ok (consumed, f) := by
  obtain ⟨hwf, hs, _⟩ := C05.frame_matches_consumed H st st' s rest f h
  exact ⟨specBytes f, hs, C01.write_emits_spec f hwf none⟩

/-- one forwarding hop on a byte string holding one frame: read it, write it -/
def hop (H : Bytes → Bytes) (bs : Bytes) : Option Bytes :=
  match readOne (C01.plainCfg H) {} (bytesToItems bs) with
  | (.frame f, _, _) => (match frameWrite none f with | .ok (out, _) => some out | .error _ => none)
  | _ => none

/-- **C08 (any number of hops).** The bytes of a well-formed frame are a fixed point of a hop, hence of any number of hops. -/
theorem hop_fixed (H : Bytes → Bytes) (f : Frame) (hwf : WF f) : hop H (specBytes f) = some (specBytes f) := by
  have h := C01.read_marshal H f hwf [] {}
  simp only [List.append_nil] at h
  simp [hop, h, C01.write_emits_spec f hwf none]

/-- k forwarding hops in a row -/
def hops (H : Bytes → Bytes) : Nat → Bytes → Option Bytes
  | 0, bs => some bs
  | k + 1, bs => (hop H bs).bind (hops H k)

theorem hops_identity (H : Bytes → Bytes) (f : Frame) (hwf : WF f) (k : Nat) :
    hops H k (specBytes f) = some (specBytes f) := by
  induction k with
  | zero => rfl
  | succ n ih => simp [hops, hop_fixed H f hwf, ih]

/-- what the forwarding theorem asks of a message codec, and `accepted_codec_consistent` establishes: re-encoding a decoded
    value gives a payload of at most 255 bytes that decodes to the same value (the decoded value is already canonical) -/
def CodecConsistent (c : Codec) : Prop :=
  ∀ isV2 p v p', c.decode isV2 p = .ok v → c.encode isV2 v = .ok p' →
    p'.length ≤ 255 ∧ c.decode isV2 p' = .ok v

/-- the codec a dialect holds for a message type: `Read` and `Write` of its initialised ReadWriter -/
def codecOf (rw : Msg.RW) : Codec := { crcExtra := rw.crcExtra, decode := Msg.decode rw, encode := Msg.encode rw }

theorem encode_len (rw : Msg.RW) (isV2 : Bool) (vals : List Msg.FVal) (p : Bytes) (h : Msg.encode rw isV2 vals = .ok p) :
    p.length ≤ 255 := by
  have hx := rw.sizeExtended.toNat_lt
  have hn := rw.sizeNormal.toNat_lt
  cases isV2 with
  | true =>
    rw [Msg.encode_v2] at h
    split at h <;> cases h
    have := Msg.strip_length_le (Msg.writeFields rw.fields vals)
    omega
  | false =>
    rw [Msg.encode_v1] at h
    split at h <;> cases h
    omega

/-- **what was read can be written, and reads back as itself**, in both versions: the value list `Read` returns is well-typed
    and already canonical (`Msg.readFields_fixed`), so the round trip of C04 applies to it and changes nothing -/
theorem recode (rw : Msg.RW) (hok : Msg.RWok rw) (hidx : Msg.IdxOk rw.fields rw.nfields) (isV2 : Bool) (p : Bytes)
    (v : List Msg.FVal) (hdec : Msg.decode rw isV2 p = .ok v) :
    ∃ p', Msg.encode rw isV2 v = .ok p' ∧ Msg.decode rw isV2 p' = .ok v := by
  rw [← Msg.zeroVals_length] at hidx
  cases isV2 with
  | true =>
    rw [Msg.decode_v2 rw hok, Msg.DecRes.ok.injEq] at hdec
    subst hdec
    obtain ⟨hwt, hfix⟩ := Msg.readFields_fixed rw.fields (Msg.zeroVals rw) (Msg.window rw.sizeExtended.toNat p) hidx
    obtain ⟨q, hq, hdq⟩ := C04.roundtrip_v2 rw hok _ hwt
    exact ⟨q, hq, by rw [hdq, C04.canonV2, hfix]⟩
  | false =>
    rw [Msg.decode_v1 rw hok] at hdec
    split at hdec
    · cases hdec
    · rw [Msg.DecRes.ok.injEq] at hdec
      subst hdec
      obtain ⟨hwt, hfix⟩ := Msg.readFields_fixed _ (Msg.zeroVals rw) p (Msg.idxOk_filter _ _ (fun f => !f.isExt) hidx)
      obtain ⟨q, hq, _, hdq⟩ := C04.roundtrip_v1_base rw hok _ hwt
      exact ⟨q, hq, by rw [hdq, C04.canonV1, hfix]⟩

/-- **C08 (the hypothesis of the forwarding theorem holds for every struct `Initialize` accepts).** The value list `Read`
    returns is well-typed and already canonical (`Msg.readFields_fixed`: strings cut at the first NUL and at the declared length,
    numbers within their wire width, every field at its own position), so `Write` of it succeeds with at most 255 bytes and
    `Read` of those gives the same list back — in both versions. -/
theorem accepted_codec_consistent (st : Msg.GoStruct) (rw : Msg.RW) (h : Msg.init st = .ok rw) :
    CodecConsistent (codecOf rw) := by
  intro isV2 p v p' hdec henc
  obtain ⟨q, hq, hdq⟩ := recode rw (InitSound.accepted_rwOk st rw h)
    (InitSound.accepted_idx_ok st rw h) isV2 p v hdec
  have : q = p' := Msg.EncRes.ok.inj (hq.symm.trans henc)
  subst this
  exact ⟨encode_len rw isV2 v q henc, hdq⟩

/-- **C08 (dialect: forwarded frame stays valid).** Let the reader, with a dialect, accept a well-formed frame and return
    `f'` (decoded message, checksum made consistent with the canonical re-encoding — `fix: keep the checksum of a
    decoded frame consistent…`). Writing `f'` unchanged emits the spec bytes of a well-formed frame `f2` which the next
    hop's gate accepts, returning the very same `f'` (same header fields, same decoded message). Includes payloads sent
    without zero-truncation, with unknown trailing bytes, with bytes after a string terminator, and empty payloads. -/
theorem forward_dialect_valid (cfg : RCfg) (d : UInt32 → Option Codec) (hd : cfg.dialect = some d) (ho : cfg.specWindow = false)
    (wd : UInt32 → Option WCodec) (f f' : Frame) (hwf : WF f) (id : UInt32) (p : Bytes) (hm : f.msg = .raw id p)
    (c : Codec) (hc : d id = some c) (hcons : CodecConsistent c)
    (wc : WCodec) (hwc : wd id = some wc) (hsame : wc.encode = c.encode)
    (hg : dialectGate cfg f = .frame f') :
    ∃ f2, WF f2 ∧ frameWrite (some wd) f' = .ok (specBytes f2, f2) ∧ dialectGate cfg f2 = .frame f' := by
  simp only [dialectGate_eq, hd, hm, hc, ho, Bool.false_eq_true, false_and, if_false] at hg
  split at hg
  · cases hg
  · cases hdec : c.decode f.isV2 p with
    | errSize => simp [hdec] at hg
    | panic => simp [hdec] at hg
    | ok v =>
      cases henc : c.encode f.isV2 v with
      | panic => simp [hdec, henc] at hg
      | ok p' =>
        simp only [hdec, henc, RRes.frame.injEq] at hg
        subst hg
        obtain ⟨hp255, hdec'⟩ := hcons _ p v p' hdec henc
        -- the frame the next hop sees: the canonical payload under the checksum the gate put on `f'`
        let f2 := (f.setMsg (.raw id p')).setCrc (f.sum p' c.crcExtra)
        have hw2 : WF f2 := wf_setMsg_raw hwf hm hp255 _
        have hsum : f2.sum p' c.crcExtra = f.sum p' c.crcExtra :=
          Frame.sum_setMsg_setCrc f _ _ (by simp [hm, Msg.id]) p' c.crcExtra
        refine ⟨f2, hw2, ?_, ?_⟩
        · rw [← C01.write_emits_spec f2 hw2 (some wd)]
          simp [frameWrite, encodeInFrame, hwc, hsame, henc, f2]
        · simp [dialectGate_eq, hd, hc, ho, hsum, f2, hdec', henc]

/-- **C08 (dialect, no assumption on the codec).** The forwarding theorem for the codec of ANY message struct `Initialize`
    accepts: `CodecConsistent` is discharged by `accepted_codec_consistent`. -/
theorem forward_dialect_valid_accepted (cfg : RCfg) (d : UInt32 → Option Codec) (hd : cfg.dialect = some d) (ho : cfg.specWindow = false)
    (wd : UInt32 → Option WCodec) (f f' : Frame) (hwf : WF f) (id : UInt32) (p : Bytes) (hm : f.msg = .raw id p)
    (st : Msg.GoStruct) (rw : Msg.RW) (hinit : Msg.init st = .ok rw) (hc : d id = some (codecOf rw))
    (wc : WCodec) (hwc : wd id = some wc) (hsame : wc.encode = (codecOf rw).encode)
    (hg : dialectGate cfg f = .frame f') :
    ∃ f2, WF f2 ∧ frameWrite (some wd) f' = .ok (specBytes f2, f2) ∧ dialectGate cfg f2 = .frame f' :=
  forward_dialect_valid cfg d hd ho wd f f' hwf id p hm (codecOf rw) hc (accepted_codec_consistent st rw hinit) wc hwc hsame hg

/-- **C08 (FixFrame).** After `Node.FixFrame` succeeds the frame carries the checksum of its (re-encoded) payload and,
    for a v2 frame on a node with an outgoing key, the signature of its signed bytes under that key. -/
theorem fixframe_valid (H : Bytes → Bytes) (wd : UInt32 → Option WCodec) (key : Option Bytes) (f f' : Frame)
    (h : fixFrame H (some wd) key f = .ok f') :
    ∃ id p codec, f'.msg = .raw id p ∧ wd id = some codec ∧ f'.genChecksum codec.crcExtra = .ok f'.crc ∧
      (∀ g k, f' = .v2 g → key = some k → g.genSignature H k = .ok (g.sig.getD [])) := by
  unfold fixFrame at h
  cases he : encodeInFrame (some wd) f with
  | error e => cases e <;> simp [he] at h
  | ok f1 =>
    obtain ⟨id, p, hm⟩ := encodeInFrame_raw he
    cases hcodec : wd id with
    | none => simp [he, hm, Msg.id, hcodec] at h
    | some codec =>
      -- the checksum stays a variable: written out, the unifier below would compute in it
      obtain ⟨sum, hsum⟩ : ∃ sum, f1.genChecksum codec.crcExtra = .ok sum := ⟨_, genChecksum_raw hm _⟩
      simp only [he, hm, Msg.id, hcodec, hsum] at h
      -- `h` gives `f'` as `f1` with `sum` in `crc` and perhaps a signature in `sig`; the checksum reads neither field and
      -- the signature does not read `sig`, so `hm`, `hsum` and the signature just computed hold of `f'` as they stand
      refine ⟨id, p, codec, ?_⟩
      cases f1 with
      | v1 g =>
        cases h
        exact ⟨hm, hcodec, hsum, fun _ _ hg => nomatch hg⟩
      | v2 g =>
        cases key with
        | none =>
          cases h
          exact ⟨hm, hcodec, hsum, fun _ _ _ hk => nomatch hk⟩
        | some k =>
          dsimp only at h
          split at h
          · cases h
            refine ⟨hm, hcodec, hsum, fun g' k' hg' hk => ?_⟩
            cases hg'; cases hk
            assumption
          · cases h

end Mav.C08
