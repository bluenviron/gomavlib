import Mav.Proofs.Node
import Mav.Spec.Events
/-
  C10 — per-channel event stream.
  Model: the transition system Mav/Model/Node.lean (any number of channels, any interleaving of readers, writers,
  Channel.run, providers, the node loop, the application's Close), after `fix: deliver the events of a channel as a
  prefix when the node is closing`. Every theorem quantifies over every REACHABLE state.
-/
namespace Mav.C10
open Nd

/-- the channel's ideal event sequence at this point: open, one event per non-fatal read result in arrival order, and
    the close event once Channel.run has decided on it -/
def ideal (x : ChanSt) : List Ev := .opn :: evsOf x.consumed ++ x.closeEv

/-- **C10 (never a hole, a duplicate, a reordering or an invented event).** In every reachable state, what the application
    has received from a channel is a prefix of the channel's ideal sequence — whatever the interleaving, whether or not
    Close has been called, whether or not the application keeps receiving. -/
theorem delivered_prefix_of_ideal (inputs : Cid → List RdRes) (s : St) (hr : Reach (init inputs) s) (c : Cid) :
    (s.chans c).delivered <+: ideal (s.chans c) := by
  have hi := (reach_inv hr).chan c
  rw [ideal, ← hi.want.ideal]
  exact hi.ev.delivered_prefix.trans hi.ev.produced_prefix

/-- **C10 (nothing lost while the node is not being closed).** Before `Close` is called, every event the channel has decided
    to emit has been received, is blocked in `pushEvent` waiting for the application, or is the one about to be pushed:
    delivered ++ in flight ++ pending = ideal. Nothing is dropped, whatever traffic flows on other channels. -/
theorem nothing_lost_before_close (inputs : Cid → List RdRes) (s : St) (hr : Reach (init inputs) s) (c : Cid)
    (ht : s.terminate = false) :
    (s.chans c).delivered ++ inflight (s.chans c) ++ pend (s.chans c) = ideal (s.chans c) := by
  have hi := (reach_inv hr).chan c
  obtain ⟨hA, hB⟩ := hi.ev
  have hw := hi.want.ideal
  rcases hA with hA | ⟨h, _⟩
  · rcases hB with hB | ⟨h, _⟩
    · unfold ideal; rw [← hw, ← hB, ← hA]
    · rw [ht] at h; cases h
  · rw [ht] at h; cases h

/-- **C10 (open first).** The first event of a channel, if any, is its open event. -/
theorem open_first (inputs : Cid → List RdRes) (s : St) (hr : Reach (init inputs) s) (c : Cid) (ev : Ev) (rest : List Ev)
    (h : (s.chans c).delivered = ev :: rest) : ev = .opn := by
  have hp := delivered_prefix_of_ideal inputs s hr c
  rw [h] at hp
  obtain ⟨t, ht⟩ := hp
  simp [ideal] at ht
  exact ht.1

/-- in `body ++ ce` with at most one element in `ce`, nothing follows an element that does not occur in `body` -/
theorem nothing_after {α} {a : α} {body ce pre post t : List α} (hb : a ∉ body) (hce : ce.length ≤ 1)
    (h : pre ++ [a] ++ post ++ t = body ++ ce) : post = [] := by
  rw [List.append_assoc, List.append_assoc] at h
  rcases List.append_eq_append_iff.mp h with ⟨m, hm, h2⟩ | ⟨m, _, h2⟩
  · cases m with
    | nil => have := congrArg List.length h2; simp at this; exact List.eq_nil_of_length_eq_zero (by omega)
    | cons b m' =>
      injection h2 with hab _
      exact absurd (by rw [hm, hab]; simp) hb
  · have := congrArg List.length h2; simp at this; exact List.eq_nil_of_length_eq_zero (by omega)

/-- **C10 (close last, at most once).** Nothing is ever received after a channel's close event. -/
theorem nothing_after_close (inputs : Cid → List RdRes) (s : St) (hr : Reach (init inputs) s) (c : Cid) (e : Option Nat)
    (pre post : List Ev) (h : (s.chans c).delivered = pre ++ [.close e] ++ post) : post = [] := by
  have hp := delivered_prefix_of_ideal inputs s hr c
  rw [h] at hp
  obtain ⟨t, ht⟩ := hp
  -- the ideal sequence contains a close event only as its last element
  refine nothing_after (body := .opn :: evsOf (s.chans c).consumed) (ce := (s.chans c).closeEv) ?_ ?_ ht
  · simp only [List.mem_cons, evsOf, List.mem_filterMap, not_or, not_exists, not_and]
    exact ⟨nofun, fun r _ hr' => by cases r <;> cases hr'⟩
  · rcases ((reach_inv hr).chan c).want.close with h | ⟨_, h⟩ <;> simp [h]

/-- **C10 (attribution and global order).** The events the application has received from channel c, in the order of the
    node's single event stream, are exactly c's delivered list: events are attributed to their channel and the per-channel
    order is the order in the global stream. -/
theorem log_projection (inputs : Cid → List RdRes) (s : St) (hr : Reach (init inputs) s) (c : Cid) :
    logOf s.log c = (s.chans c).delivered := (reach_inv hr).log c

/-- **C10 (frames correspond to the input).** The read results behind the events are a prefix of what the transport
    delivered, in order; each non-fatal result yields exactly one event. -/
theorem consumed_prefix_of_input (inputs : Cid → List RdRes) (s : St) (hr : Reach (init inputs) s) (c : Cid) :
    (s.chans c).consumed <+: inputs c := by
  have hw := ((reach_inv hr).chan c).want
  rcases hw.taken with h | ⟨e, h⟩
  · exact ⟨(s.chans c).inputs, by rw [← h]; exact hw.input⟩
  · refine ⟨[.fatal e] ++ (s.chans c).inputs, ?_⟩
    rw [← List.append_assoc, ← h]; exact hw.input

/-- the executable judge used on real runs (Spec.evLegal, early mode) accepts every observation the model can produce:
    a prefix of body ++ [close] -/
theorem model_observation_is_legal (closeEvt : Ev) (body obs : List Ev) (h : obs <+: body ++ [closeEvt]) :
    obs <+: body ∨ ∃ pre, obs = pre ++ [closeEvt] ∧ pre <+: body := by
  obtain ⟨t, ht⟩ := h
  by_cases hl : obs.length ≤ body.length
  · exact .inl (List.prefix_of_prefix_length_le ⟨t, ht⟩ (List.prefix_append body [closeEvt]) hl)
  · right
    have hlen := congrArg List.length ht
    simp at hlen
    have ht0 : t = [] := by
      cases t with
      | nil => rfl
      | cons a b => simp at hlen; omega
    subst ht0
    simp at ht
    exact ⟨body, ht, List.prefix_refl _⟩

/-- non-vacuity: the hypotheses are met by a state in which a channel was opened, its open event received and a frame read. -/
example : ∃ s, Reach (init (fun _ => [.frame 7, .fatal 3])) s ∧ (s.chans 0).delivered = [.opn] ∧ s.terminate = false ∧
    (s.chans 0).consumed = [.frame 7] := by
  let i : Cid → List RdRes := fun _ => [.frame 7, .fatal 3]
  have r0 : Reach (init i) (init i) := .refl
  have r1 := Reach.step r0 (Step.newChan (init i) 0 rfl rfl rfl nofun)
  have r2 := Reach.step r1 (Step.pBegin _ 0 .opn nofun rfl rfl)
  have r3 := Reach.step r2 (Step.pDeliver _ 0 .opn rfl rfl)
  have r4 := Reach.step r3 (Step.rResume _ 0 rfl rfl)
  have r5 := Reach.step r4 (Step.rReadOk _ 0 (.frame 7) [.fatal 3] (.frame 7) rfl rfl rfl rfl)
  exact ⟨_, r5, rfl, rfl, rfl⟩
end Mav.C10
