import Mav.Proofs.NodeLive
/-
  C12 — Close terminates and releases everything.
  Model: Mav/Model/Node.lean (after `fix: close the transport before waiting for the writer …`).
  Safety: nothing is sent on the closed event channel; everything has ended when it is closed.
  Termination: a closing node is never stuck (`close_never_stuck`), and once the node loop has seen `terminate` and the
  providers have returned every state-changing step lowers a natural-number measure, so at most `mu s` of them can follow
  (`close_bounded`), under every interleaving. What remains an assumption is fairness of the Go scheduler / `select` towards
  the node loop and the providers (they must get to see `terminate`), and that a transport's blocked Read / Write returns
  once the transport is closed (steps rReadClosed / wFail). The harness observes the real thing (closecheck scenarios).
-/
namespace Mav.C12
open Nd

/-- **C12 (the event channel is closed only after its last sender stopped).** In every reachable state in which
    `close(chEvent)` has been executed, no goroutine is inside `pushEvent` or about to be: the `evClosed = false`
    premise of the delivery step is never the thing that prevents a send — a send on the closed channel (a panic in Go)
    is unreachable. -/
theorem no_sender_after_close (inputs : Cid → List RdRes) (s : St) (hr : Reach (init inputs) s) (h : s.evClosed = true) (c : Cid) :
    ∀ ev, (s.chans c).push ≠ .pushing ev := by
  have hi := reach_inv hr
  have hs := (hi.chan c).shape
  intro ev hp
  rcases hi.glob.all_ended h c with hc | hc
  · have := (hs.fresh hc).1
    rw [hp] at this; cases this
  · have := (hs.finished hc).2.2
    rw [hp] at this; cases this

/-- **C12 (everything the node started has ended when the event channel is closed).** When `close(chEvent)` has run —
    the last thing the node loop does before `Close` returns — the node loop and every provider have finished and every channel
    that was ever started has completed `Channel.run`: reader gone, writer gone, transport closed. -/
theorem all_ended_when_closed (inputs : Cid → List RdRes) (s : St) (hr : Reach (init inputs) s) (h : s.evClosed = true) :
    s.npc = .done ∧ s.provDone = true ∧
    ∀ c, (s.chans c).cp ≠ .notStarted → (s.chans c).cp = .finished ∧ (s.chans c).rp = .exited := by
  have hi := reach_inv hr
  have hd := hi.glob.evClosed.mp h
  refine ⟨hd, (hi.glob.atDone hd).1, fun c hc => ?_⟩
  have hf := (hi.glob.all_ended h c).resolve_left hc
  exact ⟨hf, ((hi.chan c).shape.finished hf).1⟩

/-- **C12 (Write* after Close does nothing).** Once the node loop has left its loop no dispatch happens: the only steps that
    change what a channel is offered are dispatches, and they need `npc = loop`. -/
theorem no_dispatch_after_loop {s s' : St} (h : Step s s') (hn : s.npc ≠ .loop) : SameFan s s' := by
  rcases step_sameFan h with ⟨_, _, _, hl, _⟩ | h
  · exact absurd hl hn
  · exact h

/-- **C12 (closing is irrevocable and needs Close).** The node leaves its loop only after `terminate` was closed. -/
theorem epilogue_needs_terminate (inputs : Cid → List RdRes) (s : St) (hr : Reach (init inputs) s) (h : s.npc ≠ .loop) :
    s.terminate = true := (reach_inv hr).glob.leftLoop h

/-- **C12 (Close is never stuck).** In every reachable state in which `Close` has been called and the event channel is not
    closed yet — whatever readers, writers, providers, `Channel.run`s and the application are doing, consumer running or
    not — some goroutine can take a step, and that step lowers the measure `mu`. No deadlock on the way to `close(chEvent)`. -/
theorem close_never_stuck (inputs : Cid → List RdRes) (s : St) (hr : Reach (init inputs) s)
    (ht : s.terminate = true) (he : s.evClosed = false) : ∃ s', Step s s' ∧ mu s' < mu s :=
  close_progress inputs s hr ht he

/-- **C12 (every step of the shutdown makes progress).** After the node loop has left its loop and the providers have
    returned, every step either changes nothing (a repeated Close) or lowers the measure. -/
theorem shutdown_step_decreases (inputs : Cid → List RdRes) (s s' : St) (hr : Reach (init inputs) s) (h : Step s s')
    (ht : s.terminate = true) (hn : s.npc ≠ .loop) (hp : s.provDone = true) : s' = s ∨ mu s' < mu s :=
  step_decreases h (reach_inv hr).glob (fun c => ((reach_inv hr).chan c).shape) ht hn hp

/-- **C12 (Close terminates).** … hence at most `mu s` state-changing steps can follow, under every interleaving: together
    with `close_never_stuck` the shutdown reaches `close(chEvent)` and `Close` returns. -/
theorem close_bounded (inputs : Cid → List RdRes) (s s'' : St) (n : Nat) (hr : Reach (init inputs) s)
    (ht : s.terminate = true) (hn : s.npc ≠ .loop) (hp : s.provDone = true) (hc : Chain s n s'') : n ≤ mu s :=
  closing_bounded inputs s n s'' hc hr ht hn hp

/-- with the OLD order of `Channel.run` (writer first, transport afterwards) a writer blocked in a transport that only returns
    when closed has no enabled step at `bRecvW`: the progress proof needs `rwcClosed` there (Shape.rwc), which the fix provides -/
example : rwcMust .bRecvW = true ∧ rwcMust .bTermW = true := ⟨rfl, rfl⟩

end Mav.C12
