import Mav.Proofs.Lifecycle
/-
  C14 — channel lifecycle under faults.
  Model: Mav/Model/Provider.lean (provider loop with the `first` flag and the inner retry loop; timednetconn; idle read loop).
  Spec: Mav/Spec/Lifecycle.lean. All theorems are for EVERY fault script: any number of consecutive failed attempts,
  channel deaths of any kind, in any order. Each theorem comes with the definition that says it in the property's words.
-/
namespace Mav.C14
open Mav.Prov Mav.Spec.Life

/-- **C14 (reconnects, for any number of consecutive failures).** For every fault script the provider loop — `first` flag,
    inner retry loop, wait for the channel's end — produces exactly the specified trace: the first attempt at once, every
    later attempt after exactly one reconnect delay, one channel per successful attempt, closed with its cause before the
    next attempt. -/
theorem model_eq_spec (s : List Outcome) : modelTrace s = specTrace false s :=
  trimWaits_providerLoop _ false s (Nat.lt_succ_self _)

/-- opens and closes alternate strictly, starting with an open: `k` = channels currently open -/
def alternates : Nat → List Act → Bool
  | _, [] => true
  | k, .opn :: r => k == 0 && alternates 1 r
  | k, .close _ :: r => k == 1 && alternates 0 r
  | k, _ :: r => alternates k r

/-- **C14 (never two channels open at once).** In the trace of a client-type endpoint a channel is opened only when none
    is open, and closed only when one is. -/
theorem never_two_open (b : Bool) (s : List Outcome) : alternates 0 (specTrace b s) = true := by
  induction s generalizing b with
  | nil => simp [specTrace, alternates]
  | cons o rest ih =>
    cases o <;> cases b <;> simp [specTrace, alternates, ih]

/-- the first attempt is immediate; every later attempt is preceded by exactly one reconnect delay; no delay is wasted -/
def wellSpaced : Bool → List Act → Bool
  | _, [] => true
  | true, .attempt _ :: r => wellSpaced false r
  | false, .wait :: .attempt _ :: r => wellSpaced false r
  | f, .opn :: r => wellSpaced f r
  | f, .frames _ :: r => wellSpaced f r
  | f, .close _ :: r => wellSpaced f r
  | _, _ => false

theorem wellSpaced_specTrace (b : Bool) (s : List Outcome) : wellSpaced (!b) (specTrace b s) = true := by
  induction s generalizing b with
  | nil => rfl
  | cons o rest ih => cases o <;> cases b <;> simpa [specTrace, wellSpaced] using ih true

/-- **C14 (after the reconnect delay).** -/
theorem attempts_well_spaced (s : List Outcome) : wellSpaced true (specTrace false s) = true :=
  wellSpaced_specTrace false s

def closeCauses : List Act → List End
  | [] => []
  | .close e :: r => e :: closeCauses r
  | _ :: r => closeCauses r

def scriptedCauses : List Outcome → List End
  | [] => []
  | .ok _ e :: r => e :: scriptedCauses r
  | .fail :: r => scriptedCauses r

/-- **C14 (the close event carries the cause; every successful attempt yields a channel).** The causes reported by the
    close events are the causes of the channel deaths, one per successful connection attempt, in order — however many failed
    attempts lie in between. -/
theorem causes_reported (b : Bool) (s : List Outcome) : closeCauses (specTrace b s) = scriptedCauses s := by
  induction s generalizing b with
  | nil => simp [specTrace, closeCauses, scriptedCauses]
  | cons o rest ih => cases o <;> cases b <;> simp [specTrace, closeCauses, scriptedCauses, ih]

/-- **C14 (any number of consecutive failures).** k failed attempts followed by a reachable peer: k + 1 attempts, k delays,
    then the channel — for every k. -/
theorem after_k_failures (k n : Nat) (e : End) :
    specTrace false (List.replicate k .fail ++ [.ok n e]) =
      (List.replicate k [Act.attempt false, .wait]).flatten ++ [.attempt true, .opn, .frames n, .close e] :=
  specTrace_failures false k n e

/-- **C14 (every read and write is bounded by a deadline armed afresh for that call).** For every call sequence the wrapper
    does what the spec says … -/
theorem tnc_eq_spec (failAt : Option Nat) (calls : List Call) : tncRun failAt 0 calls = tncSpec failAt calls := by
  simp [tncSpec, tncStep_foldl]

/-- … and in what it does, a Read or Write of the wrapped connection is always immediately preceded by the arming of its own
    deadline. -/
def armed : List Low → Bool
  | [] => true
  | .setRead true :: .read :: r => armed r
  | .setWrite true :: .write :: r => armed r
  | .setRead false :: r => armed r
  | .setWrite false :: r => armed r
  | .close :: r => armed r
  | _ => false

theorem every_io_armed (failAt : Option Nat) (k : Nat) (calls : List Call) : armed (tncRun failAt k calls) = true := by
  induction calls generalizing k with
  | nil => simp [tncRun, armed]
  | cons c rest ih =>
    cases c <;> simp only [tncRun]
    · split <;> simp [armed, ih]
    · split <;> simp [armed, ih]
    · simp [armed, ih]
    · exact ih k

/-- consecutive gaps between the start of the read loop and the arrivals -/
def gapsOk (idle : Nat) : Nat → List Nat → Bool
  | _, [] => true
  | t, a :: rest => a ≤ t + idle && gapsOk idle (max t a) rest

/-- while the gaps are at most the idle timeout, every arrival only moves the start of the current Read -/
theorem idleExpiry_append (idle t : Nat) (pre rest : List Nat) (h : gapsOk idle t pre = true) :
    idleExpiry idle t (pre ++ rest) = idleExpiry idle (pre.foldl max t) rest := by
  induction pre generalizing t with
  | nil => rfl
  | cons a pre ih =>
    simp only [gapsOk, Bool.and_eq_true, decide_eq_true_eq] at h
    simp only [List.cons_append, idleExpiry, h.1, if_true, List.foldl_cons]
    exact ih _ h.2

/-- **C14 (one that keeps receiving is not closed).** If data keeps arriving with gaps of at most the idle timeout, no Read
    times out while the traffic lasts: the channel expires only one idle timeout after the LAST arrival. -/
theorem busy_channel_not_expired (idle t : Nat) (arr : List Nat) (h : gapsOk idle t arr = true) :
    idleExpiry idle t arr = (arr.foldl max t) + idle := by
  simpa [idleExpiry] using idleExpiry_append idle t arr [] h

/-- **C14 (a channel that receives nothing for the idle timeout is closed).** At the first gap longer than the idle timeout the
    Read in progress fails: the channel is closed one idle timeout after the last data before the gap, whatever arrives later. -/
theorem silent_channel_expires (idle t : Nat) (pre : List Nat) (a : Nat) (post : List Nat)
    (hpre : gapsOk idle t pre = true) (hgap : (pre.foldl max t) + idle < a) :
    idleExpiry idle t (pre ++ a :: post) = (pre.foldl max t) + idle := by
  rw [idleExpiry_append idle t pre _ hpre, idleExpiry, if_neg (by omega)]

/-- had the deadline been armed once, when the connection was made, a busy channel would be closed too: the two designs differ -/
example : idleExpiry 10 0 [5, 12, 20, 28] = 38 ∧ (0 : Nat) + 10 < 38 := by decide

example : specTrace false [.fail, .fail, .ok 3 (.err 2), .fail, .ok 0 .eof] =
    [.attempt false, .wait, .attempt false, .wait, .attempt true, .opn, .frames 3, .close (.err 2),
     .wait, .attempt false, .wait, .attempt true, .opn, .frames 0, .close .eof] := by decide
example : modelTrace [.fail, .ok 1 .reset, .fail] = [.attempt false, .wait, .attempt true, .opn, .frames 1, .close .reset, .wait, .attempt false] := by decide

end Mav.C14
