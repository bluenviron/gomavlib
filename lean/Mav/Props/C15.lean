import Mav.Proofs.Race
import Mav.Gen.Access
/-
  C15 — concurrent use of a node is free of data races.

  Part 1 (model): three disciplines, each proved sufficient for race freedom over every program and interleaving
  (Mav/Proofs/Race.lean): read-only after publication, confinement to one goroutine, lock discipline (sync.Mutex /
  sync.RWMutex, writes need the exclusive lock).
  Part 2 (the code obeys a discipline, field by field): the access facts of every field of every struct of the root package
  are regenerated from the source on every run (tools/extract/access.go → Mav/Gen/Access.lean: who reads, who writes, from
  which goroutine, holding which mutex); the kernel checks them against the discipline stated here. A new field, a new
  access from another goroutine, a write under a read lock, or an access without the lock breaks `discipline_holds`.
  Part 3 (runs): the race detector on concurrent scenarios (./check C15).
-/
namespace Mav.C15
open Mav.Race Mav.Gen.Access

/-- **C15 (read-only after publication).** If no goroutine's program writes `v`, no execution has a data race on `v`. -/
theorem readonly_race_free (v : Var) (s0 s : St) (h : Reach s0 s)
    (h0 : ∀ g, ∀ o ∈ s0.progs g, writes v o = false) : ¬ RaceOn v s :=
  static_no_race h fun ga _ _ oa hoa _ _ hw _ _ => by rw [h0 ga oa hoa] at hw; cases hw

/-- **C15 (confinement).** If only goroutine `g0`'s program accesses `v`, no execution has a data race on `v`. -/
theorem confined_race_free (v : Var) (g0 : Gid) (s0 s : St) (h : Reach s0 s)
    (h0 : ∀ g, ∀ o ∈ s0.progs g, g ≠ g0 → accesses v o = false) : ¬ RaceOn v s :=
  static_no_race h fun ga gb hne oa hoa ob hob _ haa hab => by
    by_cases h1 : ga = g0
    · rw [h0 gb ob hob fun h2 => hne (h1.trans h2.symm)] at hab; cases hab
    · rw [h0 ga oa hoa h1] at haa; cases haa

/-- **C15 (lock discipline).** If every goroutine's program accesses `v` only while holding `m` (exclusively for writes) and
    nobody holds `m` initially, no execution has a data race on `v`. An access under a shared (read) lock that writes is NOT
    covered. -/
theorem locked_race_free (v : Var) (m : Mu) (s0 s : St) (h : Reach s0 s)
    (h0 : ∀ g, guarded v m 0 (s0.progs g) = true) (hfree : s0.owner m = none) (hnor : s0.readers m = []) : ¬ RaceOn v s :=
  (LockInv.reach h
    ⟨fun g => by rw [hfree, hnor]; exact h0 g, fun _ _ => hnor, by rw [hnor]; exact List.nodup_nil⟩).no_race

/-- the lock discipline is not vacuous and not blind: a write under a READ lock is rejected by `guarded`, and two goroutines
    doing it do race in the model -/
example : guarded 0 0 0 [.rlock 0, .write 0, .runlock 0] = false := by decide
example : guarded 0 0 0 [.lock 0, .read 0, .write 0, .unlock 0, .other, .rlock 0, .read 0, .runlock 0] = true := by decide

def rwBug : St :=
  { progs := fun g => if g ≤ 1 then [.rlock 0, .write 0, .runlock 0] else [], started := fun _ => true,
    owner := fun _ => none, readers := fun _ => [] }

/-- two readers of an RWMutex writing under the shared lock: a reachable race (the S15 class of defect) -/
example : ∃ s, Reach rwBug s ∧ RaceOn 0 s := by
  have r1 := Reach.step (Reach.refl (s0 := rwBug)) (Step.rlock rwBug 0 0 [.write 0, .runlock 0] rfl rfl rfl)
  have r2 := Reach.step r1 (Step.rlock _ 1 0 [.write 0, .runlock 0] rfl rfl rfl)
  refine ⟨_, r2, 0, 1, .write 0, .write 0, [.runlock 0], [.runlock 0], by decide, rfl, rfl, ?_, ?_, rfl, rfl, Or.inl rfl⟩
  · simp only [setProg_other _ 1 0 _ Nat.zero_ne_one, setProg_same]
  · simp only [setProg_same]

inductive Discipline
  | exempt                          -- channels, sync primitives, contexts: synchronisation objects themselves
  | readOnly                        -- written only by the constructors of its struct, before the object is shared
  | confined (role : String)        -- every access outside the constructors is made by this goroutine
  | locked (mu : String)            -- every access outside the constructors holds this mutex (exclusively for writes)
  | handoff (src dst : String)      -- owned by `src` until it is handed over on an unbuffered channel, by `dst` afterwards;
                                    -- `src` only reads, and only on the path where the hand-over did not happen

def obeys (f : Field) : Discipline → Bool
  | .exempt => f.kind == "chan" || f.kind == "sync"
  | .readOnly => f.accs.all (fun a => !a.write)
  | .confined r => f.accs.all (fun a => a.roles == [r])
  | .locked mu => f.accs.all (fun a => if a.write then a.heldW.contains mu else (a.heldW.contains mu || a.heldR.contains mu))
  | .handoff src dst => f.accs.all (fun a => if a.write then a.roles == [dst] else a.roles.all (fun r => r == src || r == dst))

/-- the discipline of every field: the six fields that are written outside their constructors, by name; every other field
    must be a synchronisation object or read-only -/
def disciplineOf (f : Field) : Discipline :=
  if f.strct == "Node" && f.name == "channels" then .confined "Node.run"
  else if f.strct == "Channel" && f.name == "running" then .handoff "channelProvider.run" "Node.run"
  else if f.strct == "endpointClient" && f.name == "first" then .confined "channelProvider.run"
  else if f.strct == "endpointSerial" && f.name == "first" then .confined "channelProvider.run"
  else if f.strct == "EndpointUDPBroadcast" && f.name == "LocalAddress" then .confined "init"
  else if f.strct == "nodeStreamRequest" && f.name == "lastRequests" then .locked "lastRequestsMutex"
  else if f.kind == "plain" then .readOnly
  else .exempt

/-- **C15 (the code obeys the discipline).** Every field of every struct of the root package, as accessed in the current source. -/
theorem discipline_holds : allFields.all (fun f => obeys f (disciplineOf f)) = true := by decide +kernel

/-- the goroutines the package starts (a new `go` statement changes this list and must be looked at) -/
theorem goroutines_known : goroutineEntries =
    ["Channel.run", "Channel.run$go1", "Channel.run$go2", "Node.run", "channelProvider.run", "nodeHeartbeat.run",
     "nodeStreamRequest.run"] := by decide +kernel

/-- the map the property names is guarded for real: it has accesses, reads and writes, from two different goroutines -/
example : nodeStreamRequest_lastRequests.accs.length = 4 ∧ (nodeStreamRequest_lastRequests.accs.any (·.write)) = true := by decide

/-- **C15 (an event belongs to the application once it has been pushed).** In no function of the root package is an event value —
    or the frame it was built from — mentioned again in the statements that follow its `pushEvent`: after the hand-over on the
    unbuffered event channel the application may read and modify it (forwarding a received frame rewrites its message) while the
    sender never touches it again. Regenerated from the source on every run (`usesAfterHandoff`, tools/extract/access.go). -/
theorem event_not_used_after_handoff : usesAfterHandoff = [] := by decide +kernel

end Mav.C15
