import Mav.Proofs.AutoMsgs
/-
  C16 — automatic heartbeats and stream requests.
  Model: Mav/Model/AutoMsgs.lean (decision logic of node_heartbeat.go / node_stream_request.go, constants regenerated from
  the source into Mav/Gen/Consts.lean). Spec: Mav/Spec/AutoMsgs.lean (history-based). Every theorem is for every
  configuration and every arrival history (any number of channels and senders, any interleaving with other traffic).
-/
namespace Mav.C16
open Mav.Auto Mav.Spec.Auto

/-- **C16 (heartbeats: when, and with what).** The module runs iff heartbeats are not disabled and the dialect contains the
    standard heartbeat (id 0, CRC_EXTRA 50); what it sends carries the configured system and autopilot type, base mode 0,
    custom mode 0, MAV_STATE_ACTIVE (4) and the dialect's version. -/
theorem heartbeat_spec (c : Cfg) :
    hbExpected c = if hbEnabled c then some (heartbeat c) else none := by
  unfold hbExpected hbEnabled heartbeat
  simp only [Gen.heartbeatID, Gen.heartbeatCRC]
  cases c.heartbeatDisable <;> cases c.hasDialect <;> simp

theorem no_heartbeat_when_disabled (c : Cfg) (h : c.heartbeatDisable = true) : hbEnabled c = false := by
  simp [hbEnabled, h]

theorem no_heartbeat_without_standard_message (c : Cfg) (h : c.crcOf 0 ≠ some 50) : hbEnabled c = false := by
  simp only [hbEnabled, Gen.heartbeatID, Gen.heartbeatCRC, Bool.and_eq_false_imp, Bool.and_eq_true]
  intro _
  simpa using h

/-- `Node.Initialize` defaults: system type 6 (GCS), request rate 4 -/
theorem defaults_spec : defaults 0 0 = (6, 4) ∧ ∀ s f, s ≠ 0 → f ≠ 0 → defaults s f = (s, f) := by
  refine ⟨rfl, fun s f hs hf => by simp [defaults, hs, hf]⟩

/-- **C16 (exactly the seven standard requests).** What a triggering heartbeat produces: streams 1,2,3,6,10,11,12, at the
    configured rate, start = 1, addressed to the sender, on the sender's channel, followed by one stream-requested event. -/
theorem requests_are_the_seven (freq : Nat) (k : Key) : requestsFor freq k = sevenRequests freq k := rfl

theorem seven (freq : Nat) (k : Key) :
    ((requestsFor freq k).filter (fun o => match o with | .req _ => true | _ => false)).length = 7 ∧
    ((requestsFor freq k).filter (fun o => match o with | .requested _ => true | _ => false)) = [.requested k] := by
  constructor <;> rfl

theorem requests_addressed_to_sender (freq : Nat) (k : Key) (r : Request) (h : Out.req r ∈ requestsFor freq k) :
    r.ch = k.ch ∧ r.targetSystem = k.sys ∧ r.targetComponent = k.comp ∧ r.reqMessageRate = freq ∧ r.startStop = 1 := by
  simp only [requestsFor, List.mem_append, List.mem_map, List.mem_singleton, reduceCtorEq, or_false] at h
  obtain ⟨s, -, hs⟩ := h
  cases hs; exact ⟨rfl, rfl, rfl, rfl, rfl⟩

/-- times of a history never decrease (monotonic clock), starting from `clock` -/
def Sorted : Nat → List Input → Prop
  | _, [] => True
  | clock, i :: rest => clock ≤ i.time ∧ Sorted i.time rest

def arrivalsOf : List Input → List Arrival
  | [] => []
  | .arrival a :: rest => a :: arrivalsOf rest
  | .cleanup _ :: rest => arrivalsOf rest

def outputsAtArrivals : List Input → List (List Out) → List (List Out)
  | .arrival _ :: is, o :: os => o :: outputsAtArrivals is os
  | .cleanup _ :: is, _ :: os => outputsAtArrivals is os
  | _, _ => []

/-- only the arrivals are in time order: the time of a cleanup is free (node_stream_request.go takes the tick's timestamp before
    the lock, so it may lie before that of an arrival already handled); a later arrival is not earlier than it -/
def ArrivalsSorted : Nat → List Input → Prop
  | _, [] => True
  | clock, .arrival a :: rest => clock ≤ a.t ∧ ArrivalsSorted a.t rest
  | clock, .cleanup now :: rest => ArrivalsSorted (max clock now) rest

theorem Sorted.arrivals : ∀ {clock : Nat} {inputs : List Input}, Sorted clock inputs → ArrivalsSorted clock inputs
  | _, [], _ => trivial
  | _, .arrival _ :: _, h => ⟨h.1, h.2.arrivals⟩
  | clock, .cleanup now :: _, h => by rw [ArrivalsSorted, Nat.max_eq_right (show clock ≤ now from h.1)]; exact h.2.arrivals

theorem stream_requests_arrivals_sorted (freq : Nat) (inputs : List Input) (last : Last) (older : List Arrival) (clock : Nat)
    (hag : Agree last older clock) (hs : ArrivalsSorted clock inputs) :
    outputsAtArrivals inputs (run freq last inputs) = specRun freq older (arrivalsOf inputs) := by
  induction inputs generalizing last older clock with
  | nil => rfl
  | cons i rest ih =>
    cases i with
    | arrival a =>
      obtain ⟨h1, h2⟩ := onEventFrame_spec freq last older clock a hag hs.1
      simp only [run, step, outputsAtArrivals, arrivalsOf, specRun, h1]
      congr 1
      exact ih _ _ a.t h2 hs.2
    | cleanup now =>
      simp only [run, step, outputsAtArrivals, arrivalsOf]
      exact ih _ _ _ (cleanup_agree last older clock now hag) hs

/-- **C16 (first heartbeat of each ArduPilot sender triggers the requests, not repeated within 30 s; everything else triggers
    nothing) — for every history.** Whatever heartbeats and other messages arrive, from however many (channel, system,
    component) senders, interleaved in any way, and whenever the periodic cleanup runs: the requests and events produced at
    each arrival are exactly those the history-based specification prescribes. In particular the cleanup is invisible. -/
theorem stream_requests_spec (freq : Nat) (inputs : List Input) (last : Last) (older : List Arrival) (clock : Nat)
    (hag : Agree last older clock) (hs : Sorted clock inputs) :
    outputsAtArrivals inputs (run freq last inputs) = specRun freq older (arrivalsOf inputs) :=
  stream_requests_arrivals_sorted freq inputs last older clock hag hs.arrivals

theorem stream_requests_spec_init (freq : Nat) (inputs : List Input) (hs : Sorted 0 inputs) :
    outputsAtArrivals inputs (run freq Last.empty inputs) = specRun freq [] (arrivalsOf inputs) :=
  stream_requests_spec freq inputs Last.empty [] 0 (fun _ => .inl rfl) hs

/-- **C16 (other autopilots and other messages trigger nothing).** -/
theorem others_trigger_nothing (freq : Nat) (last : Last) (a : Arrival) (h : a.msgId ≠ 0 ∨ a.autopilot ≠ 3) :
    onEventFrame freq last a = (last, []) := by simp [onEventFrame, h]

/-- **C16 (not repeated within 30 seconds, repeated after).** -/
theorem second_heartbeat (freq : Nat) (k : Key) (t1 t2 : Nat) (h : t1 ≤ t2) :
    let a1 : Arrival := ⟨t1, k, 0, 3⟩
    let a2 : Arrival := ⟨t2, k, 0, 3⟩
    specRun freq [] [a1, a2] = [sevenRequests freq k, if t2 - t1 ≥ 30000000000 then sevenRequests freq k else []] := by
  simp [specRun, triggers, qualifies, lastTrigger, fresh]

/-- the module is enabled only with both standard messages in the dialect -/
theorem sr_enabled_iff (c : Cfg) : srEnabled c = true ↔
    c.streamRequestEnable = true ∧ c.hasDialect = true ∧ c.crcOf 0 = some 50 ∧ c.crcOf 66 = some 148 := by
  simp [srEnabled, Gen.heartbeatID, Gen.heartbeatCRC, Gen.requestDataStreamID, Gen.requestDataStreamCRC, and_assoc]

/-- the reflection-set fields, as they stand in the source (regenerated on every run) -/
theorem heartbeat_fields_in_source : Gen.heartbeatFields =
    [("Type", "uint64(h.node.HeartbeatSystemType)"), ("Autopilot", "uint64(h.node.HeartbeatAutopilotType)"),
     ("BaseMode", "0"), ("CustomMode", "0"), ("SystemStatus", "4"),
     ("MavlinkVersion", "uint64(h.node.Dialect.Version)")] := by decide +kernel

theorem request_fields_in_source : Gen.streamRequestFields =
    [("TargetSystem", "uint64(evt.SystemID())"), ("TargetComponent", "uint64(evt.ComponentID())"),
     ("ReqStreamId", "uint64(stream)"), ("ReqMessageRate", "uint64(sr.node.StreamRequestFrequency)"),
     ("StartStop", "uint64(1)")] := by decide +kernel

/-- non-vacuity: two senders on two channels, one of them twice, a generic autopilot in between, a cleanup in the middle -/
example : outputsAtArrivals
    [.arrival ⟨5, ⟨0, 3, 1⟩, 0, 3⟩, .arrival ⟨6, ⟨0, 3, 1⟩, 0, 3⟩, .cleanup 7, .arrival ⟨8, ⟨1, 3, 1⟩, 0, 3⟩, .arrival ⟨9, ⟨1, 4, 1⟩, 0, 8⟩]
    (run 4 Last.empty [.arrival ⟨5, ⟨0, 3, 1⟩, 0, 3⟩, .arrival ⟨6, ⟨0, 3, 1⟩, 0, 3⟩, .cleanup 7, .arrival ⟨8, ⟨1, 3, 1⟩, 0, 3⟩, .arrival ⟨9, ⟨1, 4, 1⟩, 0, 8⟩])
    = [sevenRequests 4 ⟨0, 3, 1⟩, [], sevenRequests 4 ⟨1, 3, 1⟩, []] := by decide

end Mav.C16
