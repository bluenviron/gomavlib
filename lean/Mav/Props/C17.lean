import Mav.Spec.PublishedCrc
import Mav.Proofs.Dialect
import Mav.Proofs.InitIdx
import Mav.Gen.Dialects
import Mav.Proofs.FastCrc
import Mav.Proofs.Distinct
import Mav.Gen.EnumsAll
/-
  C17 — shipped dialects are well-formed and mutually consistent.
  Model: Mav/Model/Dialect.lean (dialect.ReadWriter.Initialize / GetMessage); tables regenerated from pkg/dialects.
-/
namespace Mav.C17
open Dialect

/-- **C17 (initialisation decides).** A dialect initialises exactly when its message ids are pairwise distinct and every
    message struct is accepted by `message.ReadWriter.Initialize` — so duplicates and malformed structs are rejected
    when the dialect is initialised, not at first use. -/
theorem dialect_init_iff (msgs : List (UInt32 × Msg.GoStruct)) :
    (∃ tbl, Dialect.init msgs [] = .ok tbl) ↔
      (msgs.map (·.1)).Nodup ∧ ∀ m ∈ msgs, ∃ rw, Msg.init m.2 = .ok rw := by
  simp [init_ok_iff, Table.has]

/-- **C17 (what "malformed" means, and that it is refused at initialisation).** A struct the model of
    `message.ReadWriter.Initialize` accepts is a MAVLink definition in the specification's sense (`Spec.Msg.ofGo`: name
    `Message…`, exported fields of supported types, enum fields of an integer type, array and string lengths 1..255,
    extension fields after the base fields, at most 255 bytes). So a struct that is NOT such a definition is refused by
    `Initialize` (`fix: reject at initialization the message structs that cannot be encoded`). -/
theorem malformed_struct_rejected_at_init (st : Msg.GoStruct) (h : Spec.Msg.ofGo st = none) :
    ∃ e, Msg.init st = .error e := by
  cases hi : Msg.init st with
  | error e => exact ⟨e, rfl⟩
  | ok rw =>
    have := InitSound.accepted_is_definition st rw hi
    rw [h] at this; cases this

/-- **C17 (nothing well-formed is refused either).** The model of `Initialize` accepts a struct exactly when it is a definition in
    the specification's sense. -/
theorem initialize_accepts_exactly_definitions (st : Msg.GoStruct) :
    (∃ rw, Msg.init st = .ok rw) ↔ (Spec.Msg.ofGo st).isSome = true := by
  constructor
  · rintro ⟨rw, h⟩; exact InitSound.accepted_is_definition st rw h
  · intro h
    cases hd : Spec.Msg.ofGo st with
    | none => rw [hd] at h; cases h
    | some d => exact InitSound.definition_is_accepted st d hd

/-- **C17 (initialisation decides, in terms of definitions).** A dialect initialises exactly when its message ids are pairwise
    distinct and every message struct is a MAVLink definition. -/
theorem dialect_init_iff_definitions (msgs : List (UInt32 × Msg.GoStruct)) :
    (∃ tbl, Dialect.init msgs [] = .ok tbl) ↔
      (msgs.map (·.1)).Nodup ∧ ∀ m ∈ msgs, (Spec.Msg.ofGo m.2).isSome = true := by
  simp only [dialect_init_iff, initialize_accepts_exactly_definitions]

/-- **C17 (… not at first use).** For a struct `Initialize` accepts the byte-wide sizes did not wrap: the hypothesis `RWok` of
    every C04 theorem (decoding never panics, encoding a well-typed value succeeds and round-trips; `C04.accepted_struct_usable`). -/
theorem accepted_struct_sizes_exact (st : Msg.GoStruct) (rw : Msg.RW) (h : Msg.init st = .ok rw) : Msg.RWok rw :=
  InitSound.accepted_rwOk st rw h

/-- the rejection is not vacuous: structs of each malformed kind, refused by the model (and, in every run, by the code:
    dialects `badform*` of the harness) -/
example :
    (Msg.init { name := "MessageX", fields := [{ goName := "count", elemType := "uint16", exported := false }] }).toOption = none ∧
    (Msg.init { name := "MessageX", fields := [{ goName := "S", isArray := true, arrLen := 3, elemType := "string" }] }).toOption = none ∧
    (Msg.init { name := "MessageX", fields := [{ goName := "A", isArray := true, arrLen := 300, elemType := "uint8" }] }).toOption = none ∧
    (Msg.init { name := "MessageX", fields := [{ goName := "A", isArray := true, arrLen := 200, elemType := "uint8" },
                                                { goName := "B", isArray := true, arrLen := 14, elemType := "uint32" }] }).toOption = none ∧
    (Msg.init { name := "MessageX", fields := [{ goName := "A", elemType := "uint8", mavext := "true" },
                                                { goName := "B", elemType := "uint32" }] }).toOption = none := by
  decide +kernel

/-- **C17 (lookup).** After a successful initialisation, looking an id up returns the codec of the (unique) message with
    that id, and nothing for an absent id — for every 32-bit id. -/
theorem getMessage_spec (msgs : List (UInt32 × Msg.GoStruct)) (tbl : Table) (h : Dialect.init msgs [] = .ok tbl) (id : UInt32) :
    getMessage tbl id = (msgs.find? (fun m => m.1 == id)).bind (fun m => (Msg.init m.2).toOption) := by
  obtain ⟨_, _, hall, rfl⟩ := (init_ok_iff msgs [] tbl).mp h
  exact codecs_find msgs hall id

/-- **C17 (ids unique; enumerated, kernel-decided).** In every shipped dialect the message ids are pairwise distinct. -/
theorem shipped_ids_distinct : ∀ d ∈ Gen.dialectIds, idsDistinct d.2 = true := by
  have h : Gen.dialectIds.all (fun d => distinctFrom 0 d.2) = true := by decide +kernel
  exact fun d hd => (idsDistinct_of_distinctFrom 0 d.2 (List.all_eq_true.mp h d hd)).1

/-- **C17 (every message well-formed and ≤ 255 bytes; enumerated).** Every message struct defined under pkg/dialects is in
    the spec's domain (which includes: total payload ≤ 255 bytes) and the model's layout / CRC_EXTRA equal the spec's. -/
theorem shipped_messages_ok : ∀ m ∈ Gen.allMsgs, layoutAgrees m.2.2 = true := Shipped.all_layout

/-- **C17 (enum constants agree; enumerated, kernel-decided).** Every enum constant has the same numeric value in every
    dialect package that declares it (alias constants resolved to their definitions). -/
theorem shipped_constants_consistent : ∀ ch ∈ Gen.allConstGroups, ∀ g ∈ ch, groupConsistent g = true := by
  have h : Gen.allConstGroups.all (·.all groupConsistent) = true := by decide +kernel
  exact fun ch hch => List.all_eq_true.mp (List.all_eq_true.mp h ch hch)

/-- **C17 (a message shared by dialects is the very same Go type; enumerated, kernel-decided).** For every message name that occurs
    in the message lists of several shipped dialects, all of them resolve it (through their alias declarations) to the type
    defined in one and the same package, under one id — so a value decoded with one dialect is a value of the other. -/
theorem shipped_messages_shared : ∀ ch ∈ Gen.allMsgGroups, ∀ g ∈ ch, sameDefinition g = true := by
  have h : Gen.allMsgGroups.all (·.all sameDefinition) = true := by decide +kernel
  exact fun ch hch => List.all_eq_true.mp (List.all_eq_true.mp h ch hch)

/-- one published value against the regenerated definition of that id in the dialect `common` -/
def publishedOk (p : Nat × Nat) : Bool :=
  match Gen.commonById.lookup p.1 with
  | some st => (Spec.Msg.ofGo st).map Spec.Msg.crcExtra == some p.2
  | none => false

/-- **C17 (CRC_EXTRA values of standard messages equal the published ones; enumerated, kernel-decided).** For each of the 138
    message ids of the reference table, the CRC_EXTRA that the specification derives from the shipped definition (regenerated from
    the source on every run) — and hence, by `shipped_messages_ok`, the one the code computes — is the published value. -/
theorem published_crc_extra : Spec.publishedCrcExtra.all publishedOk = true := by
  have h : publishedOk = fun p => (Gen.commonById.lookup p.1).any (Fast.crcExtraFast · == some p.2) := by
    funext p; unfold publishedOk; cases Gen.commonById.lookup p.1 <;> simp [Fast.crcExtraFast_eq]
  rw [h]; decide +kernel

/-- **C17 (struct names).** A struct that `Initialize` accepts is named `Message` followed by an uppercase letter: the message name
    the run-time derives (it drops the first character of the converted rest) is then the converted rest itself … -/
theorem accepted_struct_name (st : Msg.GoStruct) (rw : Msg.RW) (h : Msg.init st = .ok rw) :
    ∃ c r, st.name.toList = "Message".toList ++ c :: r ∧ Msg.isUpper c = true :=
  (LayoutLink.hasMsgPrefix_iff st.name).mp ((InitSound.init_ok_iff st rw).mp h).1

/-- … and any other name is refused at initialisation: `Message` alone (the code before d4b63a4 panicked), `Messagex`, `Message9`,
    `Message_` (accepted before, all with an empty message name) -/
theorem malformed_struct_name_rejected (st : Msg.GoStruct) (h : Msg.hasMsgPrefix st.name = false) :
    Msg.init st = .error .namePrefix := by
  unfold Msg.init
  simp [h]
  rfl

example : Msg.hasMsgPrefix "Message" = false ∧ Msg.hasMsgPrefix "Messagex" = false ∧ Msg.hasMsgPrefix "Message9" = false ∧
    Msg.hasMsgPrefix "Message_" = false ∧ Msg.hasMsgPrefix "MessageX" = true ∧ Msg.hasMsgPrefix "Heartbeat" = false := by decide

end Mav.C17
