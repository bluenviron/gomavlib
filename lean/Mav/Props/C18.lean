import Mav.Proofs.Gen18
import Mav.Gen.Src
/-
  C18 — the dialect generator: generated Go means what the XML says.
  Model: Mav/Model/Gen18.lean (pkg/conversion: name conversion, type syntax, enum values, includes with the processed set,
  version override), composed with the run-time model of C03 (Mav/Model/Msg.lean). Spec: Mav/Spec/Gen18.lean (XML level).
  The theorems below are universal: every message name following the rule, every field name, every array length, every
  a**b, every include graph. The equality model = spec on whole dialect sets, and model = compiled generated code, are
  decided by differential runs (./check C18).
-/
namespace Mav.C18
open Mav.Gen18 Mav.Msg

/-- **C18 (message names survive).** For every message name that follows the naming rule, the name the run-time derives from
    the generated Go type name — the only thing it has, there is no tag for message names — is the XML name. -/
theorem msg_name_roundtrip (s : String) (h : msgNameRule s = true) : msgGoToDef (defToGo s) = s := by
  obtain ⟨c, r, hs, hc, hr⟩ := msgNameRule_some h
  unfold msgGoToDef defToGo
  rw [hs, String.toList_ofList, msg_name_roundtrip_list c r hc hr, ← hs, String.ofList_toList]

/-- names outside the rule are NOT recovered: the rule is needed (and the generator refuses them since `fix: reject message
    names the run-time cannot map back to the definition`) -/
example : msgGoToDef (defToGo "2D_POS") ≠ "2D_POS" ∧ msgGoToDef (defToGo "_POS") ≠ "_POS" := by decide +kernel
example : msgNameRule "GPS2_RAW_2D__X_" = true ∧ msgGoToDef (defToGo "GPS2_RAW_2D__X_") = "GPS2_RAW_2D__X_" := by decide +kernel

/-- **C18 (field names survive, whatever they look like).** The name the run-time uses for a field of the generated struct —
    the `mavname` tag when there is one, the inversion of the Go name otherwise — is the XML name: the tag is emitted exactly
    when the inversion would not give it back. No assumption on the name. -/
theorem field_name_recovered (f : XField) (g : GoField) (h : processField f = some g) (hn : f.name ≠ "") :
    (if g.mavname ≠ "" then g.mavname else fieldGoToDef g.goName) = f.name := by
  obtain ⟨h1, h2⟩ := processField_names f g h
  rw [h1]
  exact tag_or_inverse hn h2 id

/-- `reTypeIsArray` on `base[n]`: the base and the digits, whatever the base -/
theorem splitArray_render (base digs : List Char) (hb : base ≠ []) (hd : digs ≠ []) (hdig : digs.all isDigit = true) :
    splitArray (String.ofList (base ++ '[' :: digs ++ [']'])) = some (String.ofList base, String.ofList digs) := by
  unfold splitArray
  simp only [String.toList_ofList]
  have hrev : (base ++ '[' :: digs ++ [']']).reverse = ']' :: (digs.reverse ++ '[' :: base.reverse) := by simp
  rw [hrev]
  have htw : (digs.reverse ++ '[' :: base.reverse).takeWhile isDigit = digs.reverse := by
    rw [List.takeWhile_append_of_pos (by intro x hx; exact List.all_eq_true.mp hdig x (List.mem_reverse.mp hx))]
    simp [List.takeWhile, show isDigit '[' = false by decide]
  simp only [htw, List.length_reverse]
  have hdrop : (digs.reverse ++ '[' :: base.reverse).drop digs.length = '[' :: base.reverse := by
    rw [← List.length_reverse]; simp
  rw [hdrop]
  simp [hb, hd]

/-- **C18 (type table).** Every scalar type of the MAVLink schema is mapped to the Go type the run-time reads back as that very
    type (the alias `uint8_t_mavlink_version` as `uint8_t`). -/
theorem type_table :
    ∀ t ∈ ["double", "uint64_t", "int64_t", "float", "uint32_t", "int32_t", "uint16_t", "int16_t", "uint8_t", "int8_t", "char",
            "uint8_t_mavlink_version"],
      (typeToGo (splitType t).1).bind Gen.fieldTypeFromGo = Spec.Gen18.xmlType t ∧ (splitType t).2 = ("", "") := by decide +kernel

/-- a power that fits: no step overflows and the result is exact (`r ≥ 1` or `b = 0`: the accumulator starts at 1) -/
theorem uintPow_fits (fuel : Nat) : ∀ (b e r : Nat), e < 2 ^ fuel → (1 ≤ r ∨ b = 0) → r * b ^ e < 2 ^ 64 →
    uintPow fuel b e r = some (r * b ^ e) := by
  induction fuel with
  | zero => intro b e r he _ _; simp at he; subst he; simp [uintPow]
  | succ fuel ih =>
    intro b e r he hrb hfit
    have hq : e / 2 < 2 ^ fuel := by rw [Nat.pow_succ] at he; omega
    rw [pow_step b e r] at hfit ⊢
    -- the two products the code tests are factors of the final value, unless that value is 0 because b is
    have side : (e % 2 = 1 → r * b < 2 ^ 64) ∧ (e / 2 ≠ 0 → b * b < 2 ^ 64) ∧
        (1 ≤ (if e % 2 = 1 then r * b else r) ∨ b * b = 0) := by
      rcases Nat.eq_zero_or_pos b with rfl | hb
      · simp
      · have hr : 1 ≤ r := hrb.resolve_right (Nat.ne_of_gt hb)
        have hr' : 1 ≤ (if e % 2 = 1 then r * b else r) := by
          split
          · exact Nat.mul_pos hr hb
          · exact hr
        have hB := Nat.mul_pos hb hb
        refine ⟨fun ho => ?_, fun hz => ?_, Or.inl hr'⟩
        · rw [if_pos ho] at hfit
          exact Nat.lt_of_le_of_lt (Nat.le_mul_of_pos_right _ (Nat.pow_pos hB)) hfit
        · have : (b * b) ^ 1 ≤ (b * b) ^ (e / 2) := Nat.pow_le_pow_right hB (Nat.pos_of_ne_zero hz)
          rw [Nat.pow_one] at this
          exact Nat.lt_of_le_of_lt (Nat.le_trans this (Nat.le_mul_of_pos_left _ hr')) hfit
    obtain ⟨s1, s2, s3⟩ := side
    rw [uintPow_succ, if_neg (fun h => Nat.not_le.mpr (s1 h.1) h.2)]
    by_cases hz : e / 2 = 0
    · rw [if_pos hz, hz, Nat.pow_zero, Nat.mul_one]
    · rw [if_neg hz, if_neg (Nat.not_le.mpr (s2 hz))]
      exact ih _ _ _ hq s3 hfit

/-- a power that does not fit is reported, never wrapped -/
theorem uintPow_overflow (fuel : Nat) : ∀ (b e r : Nat), e < 2 ^ fuel → 2 ^ 64 ≤ r * b ^ e → r < 2 ^ 64 →
    uintPow fuel b e r = none := by
  induction fuel with
  | zero => intro b e r he hbig hr; simp at he; subst he; simp at hbig; omega
  | succ fuel ih =>
    intro b e r he hbig hr
    have hq : e / 2 < 2 ^ fuel := by rw [Nat.pow_succ] at he; omega
    rw [pow_step b e r] at hbig
    rw [uintPow_succ]
    by_cases hov : e % 2 = 1 ∧ 2 ^ 64 ≤ r * b
    · rw [if_pos hov]
    · have hr' : (if e % 2 = 1 then r * b else r) < 2 ^ 64 := by
        split
        · rename_i ho; exact Nat.lt_of_not_le (fun h => hov ⟨ho, h⟩)
        · exact hr
      rw [if_neg hov]
      by_cases hz : e / 2 = 0
      · rw [hz, Nat.pow_zero, Nat.mul_one] at hbig; exact absurd hbig (Nat.not_le.mpr hr')
      · rw [if_neg hz]
        by_cases hbb : 2 ^ 64 ≤ b * b
        · rw [if_pos hbb]
        · rw [if_neg hbb]; exact ih _ _ _ hq hbig hr'

/-- **C18 (a**b).** `uintPow` is exact exponentiation: whenever the power fits 64 bits, the constant is the XML value … -/
theorem power_value (a b : Nat) (hb : b < 2 ^ 64) (hfit : a ^ b < 2 ^ 64) : uintPow 64 a b 1 = some (a ^ b) := by
  have := uintPow_fits 64 a b 1 hb (Or.inl (Nat.le_refl 1)) (by simpa using hfit)
  simpa using this

/-- … and when it does not fit, the definition is refused ("a definition the generator cannot express is reported as an error"),
    never turned into a wrapped constant -/
theorem power_value_too_big (a b : Nat) (hb : b < 2 ^ 64) (hbig : 2 ^ 64 ≤ a ^ b) : uintPow 64 a b 1 = none :=
  uintPow_overflow 64 a b 1 hb (by simpa using hbig) (by decide)

example : parseValue "2**31" = some 2147483648 ∧ parseValue "0x1F" = some 31 ∧ parseValue "0b101" = some 5 ∧ parseValue "17" = some 17 := by decide +kernel
/-- a power that does not fit is not a value (before `fix: report enum values written as powers that do not fit 64 bits`,
    `2**64` became the constant 0) -/
example : parseValue "2**64" = none ∧ parseValue "3**41" = none ∧ parseValue "3**40" = some 12157665459056928801 := by decide +kernel

/-- **C18 (includes, diamonds included).** Whatever the include graph — shared includes, repeated includes, cycles — the
    definitions a dialect is generated from contain every file at most once: no message, enum or version is processed twice. -/
theorem every_file_once (fs out : List XFile) (h : processed fs = some out) : (out.map (·.name)).Nodup := by
  obtain ⟨root, _, v, _, hp⟩ := processed_some h
  obtain ⟨_, add, e, _, n⟩ := processDef_Q _ _ _ _ _ _ _ hp
  rwa [e, List.nil_append]

/-- a diamond: root includes a and b, both include base -/
example : (processed [⟨"root", "", ["a", "b"], [], []⟩, ⟨"a", "2", ["base"], [], []⟩, ⟨"b", "", ["base"], [], []⟩, ⟨"base", "5", [], [], []⟩]).map
    (fun o => (o.map (·.name), versionNum (versionOf o))) = some (["base", "a", "b", "root"], 2) := by decide +kernel

/-- the generator's name inversion is the run-time's: the two function bodies are the same text in the current source -/
theorem inverse_is_the_runtimes : Gen.src_conversion_body_dialectNameGoToDef = Gen.src_message_body_fieldGoToDef := by decide

end Mav.C18
