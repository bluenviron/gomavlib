import Mav.Proofs.GenLink
import Mav.Props.C03
import Mav.Proofs.GenFile
/-
  C18 — the generated code has the layout the MAVLink guide assigns to the XML definition: end-to-end theorem for messages, by
  the chain generator model on rendered definitions (GenLink), the run-time accepts every definition (InitSound), C03 for every
  struct (LayoutLink). Then enum values in the three digit notations, the dialect version and the names of the generated files.
-/
namespace Mav.C18
open Msg Gen18 GenLink

/-- **C18 (messages, end to end).** Take any valid message definition — a name by the MAVLink rule, any number of fields of any
    schema type, scalar or array (1..255), `char[n]` strings, the `uint8_t_mavlink_version` alias, enum-typed fields of an integer
    type, field names of any shape that begin with a letter (snake case or not), extension fields after the base fields, at
    most 255 bytes. Render it to the texts of the XML (`AMsg.toX`: type attribute `base[n]` with n in decimal). Then the model
    of the generator produces a Go struct; the model of the run-time's `Initialize` accepts that struct; and the field order,
    base size, extended size and CRC_EXTRA it computes are those the serialization guide assigns to the definition itself
    (`m.sdef`, built from the abstract definition without any parsing). -/
theorem generated_message_has_the_spec_layout (m : AMsg) (ok : AMsgOk m) :
    ∃ st rw, processMessage m.toX = some st ∧ Msg.init st = .ok rw ∧
      rw.fields.map (·.index) = (Spec.Msg.wireOrder m.sdef).map (·.idx) ∧
      rw.sizeNormal.toNat = Spec.Msg.sizeBase m.sdef ∧ rw.sizeExtended.toNat = Spec.Msg.sizeExt m.sdef ∧
      rw.crcExtra.toNat = Spec.Msg.crcExtra m.sdef := by
  obtain ⟨st, hp, hd, hn, hf⟩ := generated_struct_is_the_definition m ok
  obtain ⟨rw, hi⟩ := InitSound.definition_is_accepted st m.sdef hd
  have hx : C03.exportedB st = true := by
    refine (C03.exportedB_iff st).mpr ⟨?_, ?_⟩
    · rw [hn, suffix_ok]; exact defToGo_firstUpper m.name (msgNameRule_letter m.name ok.name)
    · rw [hf]; intro g hg _
      obtain ⟨f, hfm, rfl⟩ := List.mem_map.mp hg
      exact defToGo_firstUpper f.name (ok.fields f hfm).name
  exact ⟨st, rw, hp, hi, C03.layout_universal st rw m.sdef hi hd hx⟩

/-- the theorem is not vacuous: HEARTBEAT, written as an abstract definition, is valid; and its CRC_EXTRA, computed from that
    definition alone, is the published 50 -/
def heartbeatDef : AMsg := { id := 0, name := "HEARTBEAT", fields := [
  { base := .uint8, arr := none, name := "type", enum := "MAV_TYPE" },
  { base := .uint8, arr := none, name := "autopilot", enum := "MAV_AUTOPILOT" },
  { base := .uint8, arr := none, name := "base_mode", enum := "MAV_MODE_FLAG" },
  { base := .uint32, arr := none, name := "custom_mode" },
  { base := .uint8, arr := none, name := "system_status", enum := "MAV_STATE" },
  { base := .version, arr := none, name := "mavlink_version" }] }

example : Spec.Msg.crcExtra heartbeatDef.sdef = 50 := by set_option maxRecDepth 100000 in decide +kernel

example : AMsgOk heartbeatDef where
  name := by decide
  fields := by
    intro f hf
    simp only [heartbeatDef, List.mem_cons, List.not_mem_nil, or_false] at hf
    rcases hf with rfl | rfl | rfl | rfl | rfl | rfl <;>
      exact AFieldOk.mk (by intro n h; cases h) (by decide) (nameLetter_of_B _ (by decide))
  extLast := by decide
  fits := by decide

/-- **C18 (decimal enum values, leading zeros included).** A `value` attribute made of decimal digits — the schema's `\d{1,10}`,
    so "010" is ten — is read by the generator model as the decimal number it denotes, for every value below 2^64 and any number
    of leading zeros. (`power_value` covers `a**b`, the next two theorems hexadecimal and binary texts.) -/
theorem decimal_enum_value (k n : Nat) (hn : n < 2 ^ 64) :
    parseValue (String.ofList (List.replicate k '0' ++ EnumText.natToDec n)) = some n := by
  rw [GenValues.parseValue_numeral, if_pos hn]

/-- **C18 (hexadecimal enum values).** `0x` followed by hexadecimal digits in either case: the number they denote in base sixteen
    (`GenValues.valB 16`), below 2^64. -/
theorem hex_enum_value (ds : List (Nat × Bool)) (hne : ds ≠ []) (h : ∀ d ∈ ds, d.1 < 16)
    (hv : GenValues.valB 16 (ds.map (·.1)) 0 < 2 ^ 64) :
    parseValue (String.ofList ('0' :: 'x' :: ds.map GenValues.hexChar)) = some (GenValues.valB 16 (ds.map (·.1)) 0) := by
  rw [GenValues.parseValue_hex ds hne h, if_pos hv]

/-- **C18 (binary enum values).** -/
theorem binary_enum_value (ds : List Nat) (hne : ds ≠ []) (h : ∀ d ∈ ds, d < 2) (hv : GenValues.valB 2 ds 0 < 2 ^ 64) :
    parseValue (String.ofList ('0' :: 'b' :: ds.map EnumText.digitChar)) = some (GenValues.valB 2 ds 0) := by
  rw [GenValues.parseValue_bin ds hne h, if_pos hv]

/-- **C18 (a definition the generator cannot express is an error).** A decimal value that does not fit the 64-bit constant makes
    the conversion fail; it is never wrapped into another number. -/
theorem decimal_enum_value_too_big (n : Nat) (hn : 2 ^ 64 ≤ n) :
    parseValue (String.ofList (EnumText.natToDec n)) = none :=
  (GenValues.parseValue_numeral 0 n).trans (if_neg (Nat.not_lt.mpr hn))

/-- **C18 (dialect version).** The number the generator model writes as the dialect's `Version` is the specification's: the
    <version> of the last processed file that declares one (0 when none does or the text is not a number). -/
theorem version_is_the_specs (order : List XFile) : versionNum (versionOf order) = Spec.Gen18.versionOf order := by
  unfold versionNum versionOf Spec.Gen18.versionOf
  rw [GenVersion.foldl_version]
  cases h : order.reverse.find? (·.version != "") with
  | none => simp [Msg.atoiDigits]
  | some f => simp [GenVersion.parseNat_eq_atoiDigits]

/-- **C18 (the dialect's own version wins).** When the dialect file declares a version — "0" included — that is the one written,
    whatever the files it includes declare. -/
theorem own_version_wins (root : XFile) (rest order : List XFile) (h : processed (root :: rest) = some order)
    (hv : root.version ≠ "") : versionOf order = root.version :=
  GenVersion.own_version_wins root rest order h hv

/-- every last name element the go tool gives a meaning to (`test`, the GOOS and GOARCH values of go/build) is in the table the
    generator consults — the table as regenerated from pkg/conversion/conversion.go on this run -/
theorem reserved_table_complete (e : List Char)
    (h : e = ['t', 'e', 's', 't'] ∨ Spec.GoTool.isOS e = true ∨ Spec.GoTool.isArch e = true) :
    Gen.reservedFileSuffixes.contains (String.ofList e) = true := by
  have all : ∀ s ∈ Spec.GoTool.knownOS ++ Spec.GoTool.knownArch ++ ["test"], Gen.reservedFileSuffixes.contains s = true := by decide +kernel
  rcases h with h | h | h
  · subst h; exact all _ (by decide)
  · unfold Spec.GoTool.isOS at h
    exact all _ (by simp only [List.mem_append]; exact Or.inl (Or.inl (List.contains_iff_mem.mp h)))
  · unfold Spec.GoTool.isArch at h
    exact all _ (by simp only [List.mem_append]; exact Or.inl (Or.inr (List.contains_iff_mem.mp h)))

/-- **C18 (the generated package compiles: file names).** Whatever the name of a message or of an enum — `SELF_TEST`, `HOST_WINDOWS`,
    `MOTOR_ARM` included — the file the generator writes it to is, for the go tool, a plain source file of the package on every
    platform: not a test file, not restricted to an operating system or an architecture (go/build's reading of file names,
    Mav/Spec/GoTool.lean). `name` is any text whose lower-case form has no dot (MAVLink names are `[A-Z][A-Z0-9_]*`). -/
theorem generated_file_is_plain_source (kind name : List Char) (hk : GenFileP.Kind kind)
    (hn : ∀ c ∈ Model.GenFile.lower name, c ≠ '.') :
    Spec.GoTool.plainSource (Model.GenFile.goFileName kind name) = true :=
  GenFileP.goFileNameWith_plain _ reserved_table_complete kind name (GenFileP.kind_noSep kind hk) hn

/-- without the table (the generator before the repair) the theorem is false: the file of SELF_TEST is a test file, the file of
    HOST_WINDOWS is compiled on one operating system only -/
example : Spec.GoTool.plainSource (Model.GenFile.goFileNameWith [] "message".toList "SELF_TEST".toList) = false := by decide +kernel
example : Spec.GoTool.plainSource (Model.GenFile.goFileNameWith [] "enum".toList "HOST_WINDOWS".toList) = false := by decide +kernel
example : GenFileP.Kind "message".toList ∧ (∀ c ∈ Model.GenFile.lower "SELF_TEST".toList, c ≠ '.') := by
  refine ⟨Or.inr (by decide), by decide⟩

end Mav.C18
