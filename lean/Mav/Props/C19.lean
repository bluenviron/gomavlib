import Mav.Gen.EnumsAll
import Mav.Proofs.Distinct
import Mav.Proofs.EnumText
/-
  C19 — enum values survive conversion to text and back.
  Model: Mav/Model/EnumText.lean (generated MarshalText / UnmarshalText, strconv.Itoa / Atoi); tables: Mav/Gen/Enums_*.lean,
  regenerated from pkg/dialects/*/enum_*.go on every run (including the form of each bitmask MarshalText loop).
-/
namespace Mav.C19
open EnumText

/-- **C19 (ordinary enums, every 64-bit value).** For a well-formed table, converting ANY uint64 to text and parsing it
    returns the same value: defined constants print as their name, everything else as the signed decimal of the
    64-bit pattern, which `Atoi` maps back to the same bits. -/
theorem plain_roundtrip (d : EnumDef) (hf : d.form = .plain) (hok : enumOk d = true) (v : UInt64) :
    unmarshal d (marshal d v) = some v := by
  have : tableOk d = true := by simp [enumOk, hf] at hok; exact hok
  exact EnumText.plain_roundtrip d hf this v

/-- **C19 (bitmask enums).** For a well-formed bitmask table whose MarshalText ranges over the declared values (`fix: bitmask
    enums must render every declared flag`), zero and every combination of declared flags — of any bit position and
    width — survive the round trip. -/
theorem bitmask_roundtrip (d : EnumDef) (vs : List Nat) (hf : d.form = .valueList vs) (hok : enumOk d = true)
    (S : List UInt64) (hS : ∀ s ∈ S, s ∈ masks d) : unmarshal d (marshal d (orAll S 0)) = some (orAll S 0) := by
  simp only [enumOk, hf, Bool.and_eq_true] at hok
  exact EnumText.bitmask_roundtrip d vs hf hok.2.1 hok.1 hok.2.2 S hS _ rfl

/-- zero is a combination (the empty one) -/
theorem bitmask_zero (d : EnumDef) (vs : List Nat) (hf : d.form = .valueList vs) (hok : enumOk d = true) :
    unmarshal d (marshal d 0) = some 0 := by
  have := bitmask_roundtrip d vs hf hok [] (by simp)
  simpa [orAll] using this

/-- **C19 (rejection).** Parsing fails as soon as one label is neither a known name nor a decimal int64 numeral. -/
theorem plain_rejects (d : EnumDef) (hf : d.form = .plain) (t : List Char) (h1 : valueOf d t = none) (h2 : atoi t = none) :
    unmarshal d t = none :=
  EnumText.unmarshal_rejects d t t (by simp [labels, hf]) (by simp [parseLabel, h1, h2])

/-- the old template (loop over bit positions below the number of values) is NOT accepted by `enumOk`:
    the regression is visible as a failed obligation, not only as a test failure -/
theorem bitLoop_not_ok (d : EnumDef) (n : Nat) (hf : d.form = .bitLoop n) : enumOk d = false := by
  simp [enumOk, hf]

/-- **C19 (every shipped enum; value side enumerated in the kernel).** For every enum type defined under pkg/dialects the
    values are distinct, fit 64 bits, and bitmask MarshalText ranges over exactly the declared values. The name side
    (`namesOk`: identifiers, distinct, no blank) is evaluated by the compiled driver on every run — see DESIGN.md §5. -/
theorem shipped_values_ok : ∀ d ∈ Gen.allEnums, valuesOk d = true := by
  have h : Gen.allEnums.all valuesOkFast = true := by decide +kernel
  exact fun d hd => valuesOk_of_fast d (List.all_eq_true.mp h d hd)

/-- hence for every shipped enum whose names are well-formed, the two round-trip theorems apply -/
theorem shipped_enum_ok (d : EnumDef) (hd : d ∈ Gen.allEnums) (hn : namesOk d = true) : enumOk d = true :=
  enumOk_of_parts d (shipped_values_ok d hd) hn

/-- the table the enum template (`pkg/conversion`, pinned) writes for an XML enum: the entries in declaration order; for a
    `bitmask="true"` enum `MarshalText` ranges over exactly those values -/
def generatedEnum (name : String) (bitmask : Bool) (entries : List (String × Nat)) : EnumDef :=
  { name := name, form := if bitmask then .valueList (entries.map (·.2)) else .plain, consts := entries }

/-- **C19 (every generated enum).** For ANY XML enum whose entry names are distinct identifiers without blanks and whose values are
    distinct and below 2^64 — flags of any width, overlapping groups of flags included — the generated table is well-formed, so
    `plain_roundtrip` (every 64-bit value) resp. `bitmask_roundtrip` (zero and every combination of declared entries) hold for
    the generated code. -/
theorem generated_enum_ok (name : String) (bitmask : Bool) (entries : List (String × Nat))
    (hnames : namesOk (generatedEnum name bitmask entries) = true)
    (hvals : entries.all (fun c => decide (c.2 < 2 ^ 64)) = true)
    (hdist : distinctBy (fun c : String × Nat => c.2) entries = true) :
    enumOk (generatedEnum name bitmask entries) = true := by
  apply enumOk_of_parts _ _ hnames
  unfold valuesOk generatedEnum
  cases bitmask <;> simp [hvals, hdist, listOk]

theorem generated_bitmask_roundtrip (name : String) (entries : List (String × Nat))
    (hnames : namesOk (generatedEnum name true entries) = true)
    (hvals : entries.all (fun c => decide (c.2 < 2 ^ 64)) = true)
    (hdist : distinctBy (fun c : String × Nat => c.2) entries = true)
    (S : List UInt64) (hS : ∀ s ∈ S, s ∈ masks (generatedEnum name true entries)) :
    unmarshal (generatedEnum name true entries) (marshal (generatedEnum name true entries) (orAll S 0)) = some (orAll S 0) :=
  bitmask_roundtrip _ (entries.map (·.2)) rfl (generated_enum_ok name true entries hnames hvals hdist) S hS

/-- overlapping groups are covered: LOW = 1, HIGH = 2, MASK = 3 — the value 3 is rendered with all three names and parses back -/
example : let d := generatedEnum "E" true [("E_LOW", 1), ("E_HIGH", 2), ("E_MASK", 3)]
    enumOk d = true ∧ marshal d 3 = "E_LOW | E_HIGH | E_MASK".toList ∧ unmarshal d (marshal d 3) = some 3 := by
  decide +kernel

end Mav.C19
