import Mav.Proofs.Tlog
import Mav.Props.C01
/-
  C20 — telemetry logs.
  Model: Mav/Model/Tlog.lean (tlog.Writer.Write after `fix: tlog.Writer must not leave a partial entry…`, tlog.Reader.Read).
-/
namespace Mav.C20
open Spec Tlog

/-- **C20 (layout).** A successfully written entry is the 8-byte big-endian microsecond timestamp followed by the frame's
    spec bytes, handed to the file in one piece. -/
theorem entry_layout (d : WDialect) (e : Int) (f : Frame) (hwf : WF f) :
    writeEntry d e f none = .wrote (int64Bytes e ++ specBytes f) := by
  simp [writeEntry, C01.write_emits_spec f hwf d]

/-- **C20 (no partial entries).** An entry whose frame cannot be encoded hands no byte to the file and reports the error. -/
theorem unencodable_leaves_nothing (d : WDialect) (e : Int) (f : Frame) (err : WErr) (fa : Option Nat)
    (h : frameWrite d f = .error err) : writeEntry d e f fa = .failed [] err := by
  simp [writeEntry, h]

/-- **C20 (write errors are reported).** If the transport fails the (single) write of the entry, the error is returned. -/
theorem write_error_reported (d : WDialect) (e : Int) (f : Frame) (hwf : WF f) :
    writeEntry d e f (some 0) = .failed [] (.transport 0) := by
  simp [writeEntry, C01.write_emits_spec f hwf d]

/-- **C20 (timestamps, reader side).** `time.Unix(e/1e6, (e%1e6)*1e3).UnixMicro() = e` for every integer e, with Go's
    truncated division — negative (pre-1970) values included. -/
theorem time_roundtrip (e : Int) : unixMicro (timeOfEpoch e) = e := by
  have h1 := Int.mul_tdiv_add_tmod e 1000000
  have h2 : e.tmod 1000000 < 1000000 := Int.tmod_lt_of_pos e (by decide)
  have h3 : -1000000 < e.tmod 1000000 := Int.lt_tmod_of_pos e (by decide)
  unfold timeOfEpoch goUnix unixMicro
  generalize e.tdiv 1000000 = q at *
  generalize e.tmod 1000000 = r at *
  have hs := tdiv_small (r * 1000) (by omega) (by omega)
  by_cases hneg : r * 1000 < 0
  · have hc : r * 1000 < 0 ∨ r * 1000 ≥ 1000000000 := Or.inl hneg
    simp only [hc, if_true, hs]
    simp only [Int.add_zero, Int.zero_mul, Int.sub_zero, hneg, if_true]
    omega
  · have hc : ¬ (r * 1000 < 0 ∨ r * 1000 ≥ 1000000000) := by omega
    simp only [hc, if_false]
    omega

/-- **C20 (timestamps, bytes).** The eight bytes written for a timestamp read back as the same int64. -/
theorem timestamp_bytes_roundtrip (e : Int) (h1 : -2^63 ≤ e) (h2 : e < 2^63) : int64OfBytes (int64Bytes e) = e := by
  unfold int64OfBytes int64Bytes
  rw [be64_fold, Int64.toInt64_toUInt64]
  exact Int64.toInt_ofInt_of_le h1 h2

theorem int64Bytes_length (e : Int) : (int64Bytes e).length = 8 := by simp [int64Bytes, be64]

/-- **C20 (one entry reads back).** Reading the bytes of a written entry (followed by anything) returns that entry —
    same microsecond count, frame equal field for field — and leaves exactly what followed. -/
theorem entry_roundtrip (H : Bytes → Bytes) (e : Int) (h1 : -2^63 ≤ e) (h2 : e < 2^63) (f : Frame) (hwf : WF f) (rest : Stream) :
    readEntry (C01.plainCfg H) (bytesToItems (int64Bytes e ++ specBytes f) ++ rest) =
      (.entry e (timeOfEpoch e) f, rest) :=
  (readEntry_entry_iff _ rfl rfl).mpr
    ⟨int64Bytes e, int64Bytes_length e, (timestamp_bytes_roundtrip e h1 h2).symm, rfl, hwf, by simp⟩

/-- the file written for a sequence of entries -/
def logBytes : List (Int × Frame) → Bytes
  | [] => []
  | (e, f) :: r => int64Bytes e ++ specBytes f ++ logBytes r

/-- repeated Read until the reader reports an error (what a log consumer does) -/
def readLog (cfg : RCfg) : Nat → Stream → List (Int × Frame)
  | 0, _ => []
  | fuel + 1, s =>
    match readEntry cfg s with
    | (.entry e _ f, s') => (e, f) :: readLog cfg fuel s'
    | _ => []

/-- the complete entries that lie wholly before byte offset k -/
def entriesBefore : Nat → List (Int × Frame) → List (Int × Frame)
  | _, [] => []
  | k, (e, f) :: r => if 8 + (specBytes f).length ≤ k then (e, f) :: entriesBefore (k - (8 + (specBytes f).length)) r else []

theorem readEntry_short (H : Bytes → Bytes) (e : Int) (f : Frame) (hf : WF f) (k : Nat) (hk : k < 8 + (specBytes f).length)
    (ep : Int) (t : Int × Int) (g : Frame) (rest : Stream) :
    readEntry (C01.plainCfg H) (bytesToItems ((int64Bytes e ++ specBytes f).take k)) ≠ (.entry ep t g, rest) := by
  intro h
  -- the reader is a function: the uncut bytes would read both as this entry, leaving the part cut off, and as (e, f), leaving nothing
  obtain ⟨ts, hts, he, ht, hg, hs⟩ := (readEntry_entry_iff _ rfl rfl).mp h
  have h1 := (readEntry_entry_iff (C01.plainCfg H) rfl rfl (rest := rest ++ bytesToItems ((int64Bytes e ++ specBytes f).drop k))).mpr
    ⟨ts, hts, he, ht, hg, by rw [← List.append_assoc, ← List.append_assoc, List.append_assoc (bytesToItems ts), ← hs,
      ← bytesToItems_append, List.take_append_drop]⟩
  have h2 := (readEntry_entry_iff (C01.plainCfg H) rfl rfl (s := bytesToItems (int64Bytes e ++ specBytes f)) (rest := [])).mpr
    ⟨int64Bytes e, int64Bytes_length e, rfl, rfl, hf, by simp⟩
  rw [h2] at h1
  have : rest = [] ∧ bytesToItems ((int64Bytes e ++ specBytes f).drop k) = [] := by simpa using congrArg Prod.snd h1
  have := congrArg List.length this.2
  simp [int64Bytes_length] at this
  omega

/-- **C20 (crash-truncation safety).** For every valid log and every cut offset k, a consumer reading the truncated file
    until the first error obtains exactly the entries that lie wholly before the cut — never a fabricated entry. -/
theorem truncation_safe (H : Bytes → Bytes) (l : List (Int × Frame))
    (hl : ∀ ef ∈ l, -2^63 ≤ ef.1 ∧ ef.1 < 2^63 ∧ WF ef.2) (k : Nat) (fuel : Nat) (hf : l.length < fuel) :
    readLog (C01.plainCfg H) fuel (bytesToItems ((logBytes l).take k)) = entriesBefore k l := by
  induction l generalizing k fuel with
  | nil =>
    cases fuel with
    | zero => omega
    | succ n => simp [logBytes, readLog, readEntry, readFull, takeBytes, entriesBefore]
  | cons ef r ih =>
    obtain ⟨e, f⟩ := ef
    have h0 := hl (e, f) (by simp)
    cases fuel with
    | zero => simp at hf
    | succ n =>
      have hb : (int64Bytes e ++ specBytes f).length = 8 + (specBytes f).length := by simp [int64Bytes_length]
      have htake : (logBytes ((e, f) :: r)).take k =
          (int64Bytes e ++ specBytes f).take k ++ (logBytes r).take (k - (8 + (specBytes f).length)) := by
        rw [logBytes, List.take_append, hb]
      rw [htake]
      by_cases hk : 8 + (specBytes f).length ≤ k
      · rw [List.take_of_length_le (by omega)]
        have := entry_roundtrip H e h0.1 h0.2.1 f h0.2.2 (bytesToItems ((logBytes r).take (k - (8 + (specBytes f).length))))
        simp only [bytesToItems_append, List.append_assoc] at this ⊢
        simp only [readLog, this, entriesBefore, hk, if_true]
        congr 1
        exact ih (fun x hx => hl x (List.mem_cons_of_mem _ hx)) _ n (by simp at hf; omega)
      · rw [show k - (8 + (specBytes f).length) = 0 by omega, List.take_zero, List.append_nil]
        simp only [entriesBefore, hk, if_false]
        unfold readLog
        split
        · rename_i ep t g s' hread
          exact absurd hread (readEntry_short H e f h0.2.2 k (by omega) ep t g s')
        · rfl

theorem entriesBefore_all (l : List (Int × Frame)) : entriesBefore (logBytes l).length l = l := by
  induction l with
  | nil => rfl
  | cons ef r ih =>
    obtain ⟨e, f⟩ := ef
    have : (logBytes ((e, f) :: r)).length = 8 + (specBytes f).length + (logBytes r).length := by
      simp [logBytes, int64Bytes_length]; omega
    simp [entriesBefore, this, Nat.add_sub_cancel_left, ih]

/-- **C20 (round trip of a whole log).** Any sequence of entries (64-bit timestamps, well-formed frames) written to a log
    is read back as the same sequence, for logs of any length. -/
theorem log_roundtrip (H : Bytes → Bytes) (l : List (Int × Frame))
    (hl : ∀ ef ∈ l, -2^63 ≤ ef.1 ∧ ef.1 < 2^63 ∧ WF ef.2) (fuel : Nat) (hf : l.length < fuel) :
    readLog (C01.plainCfg H) fuel (bytesToItems (logBytes l)) = l := by
  have := truncation_safe H l hl (logBytes l).length fuel hf
  rwa [List.take_length, entriesBefore_all] at this

end Mav.C20
